/-
  C12 — UE address, TEID and UPF address are extracted exactly from the setup request.
  Property theorems only; helper lemmas live in Stgutg/Proofs/Extract.lean.

  Model: Stgutg/Model/Extract.lean (DecodePDUSessionNASPDU, DecodePDUSessionResourceSetupRequestTransfer with Go slice
  semantics incl. hidden capacity, the IE selection of EstablishPDU). Specification: Stgutg/Spec/SetupRequest.lean
  (TS 24.501 encoders, X.691 ALIGNED PER of the TS 38.413 transfer).
-/
import Stgutg.Proofs.Extract

namespace Stgutg.Props.C12
open Stgutg Stgutg.Model.Extract Stgutg.Spec.SetupRequest

/-- **UE address.** For every PDU SESSION ESTABLISHMENT ACCEPT of table 8.3.2.1.1 — any PSI/PTI/SSC mode, QoS rules
    of any length, any session-AMBR, every optional IE present or absent in table order with any contents — that
    carries an IPv4 PDU address `ip`, inside a DL NAS TRANSPORT (any payload container type, any of its own optional
    IEs) behind any 7-octet security header, and whatever octets lie behind the slice in its backing array:
    the extraction returns exactly `ip`. It does so in both variants of the IEI walk and with any fuel ≥ 2.
    The only size hypothesis is that the accept is shorter than 65530 octets (the extractor's uint16 offsets). -/
theorem C12_ip (h : SecHeader) (pct : UInt8) (a : Accept) (psi2 : Option UInt8) (addInfo : Option Bytes)
    (cause5gmm backoff : Option UInt8) (ty : UInt8) (ip slack : Bytes) (stop : Bool) (fuel : Nat)
    (hmac : h.mac.length = 4) (hwf : a.WellFormed) (haddr : a.pduAddress = some (ty :: ip)) (hip : ip.length = 4)
    (hlen : a.encode.length < 65530) (hfuel : 2 ≤ fuel) :
    decodeNas stop fuel (Sl.ofBytes (nasPdu h pct a psi2 addInfo cause5gmm backoff) slack) = .ok ip := by
  open Proofs.Extract in
  obtain ⟨hq, hambr⟩ := hwf
  obtain ⟨m0, m1, m2, m3, hm⟩ := len4 hmac
  have hL := accept_encode_length a hambr
  have hLv := be16_spec_val a.encode.length (by omega)
  have hqv := be16_spec_val a.qosRules.length hq
  rw [hL] at hLv hlen
  let tail := (DlNasTransport.trailer { pct, payload := a.encode, psi2, addInfo, cause5gmm, backoff }) ++ slack
  have hform : (Sl.ofBytes (nasPdu h pct a psi2 addInfo cause5gmm backoff) slack) =
      ⟨[0x7E, h.sht, m0, m1, m2, m3, h.sqn] ++ ([0x7E, 0x00, 0x68, pct] ++
        (UInt8.ofNat ((5 + 2 + a.qosRules.length + 7 + a.optionalIEs.length) / 256) ::
         UInt8.ofNat ((5 + 2 + a.qosRules.length + 7 + a.optionalIEs.length) % 256) ::
          ([0x2E, a.psi, a.pti, 0xC2, a.sscAndType] ++ (UInt8.ofNat (a.qosRules.length / 256) ::
            UInt8.ofNat (a.qosRules.length % 256) :: (a.qosRules ++ ((UInt8.ofNat a.ambr.length :: a.ambr) ++
              (a.optionalIEs ++ tail))))))),
        (nasPdu h pct a psi2 addInfo cause5gmm backoff).length⟩ := by
    simp [Sl.ofBytes, nasPdu, protect, DlNasTransport.encode, hm, lvE, Spec.SetupRequest.be16, ← hL, tail]
    simp [Accept.encode, lvE, lv, Spec.SetupRequest.be16]
  rw [hform, decodeNas_layout stop fuel _ _ _ _ _ _ _ _ _ _ _ _ (by rfl) (by rfl) (by rfl) (by simp [hambr]) hLv hqv hlen
        (by simp [nasPdu, protect, hm])]
  obtain ⟨f, rfl⟩ : ∃ f, fuel = f + 2 := ⟨fuel - 2, by omega⟩
  cases hc : a.cause with
  | none =>
    have : a.optionalIEs ++ tail = [] ++ 0x29 :: UInt8.ofNat (ty :: ip).length :: ty :: (ip ++ (a.afterAddress ++ tail)) := by
      simp [Accept.optionalIEs, hc, haddr, opt, tlv]
    rw [this]
    exact nasLoop_found stop (f + 1) [] _ ip _ ty _ hip (by simp [Accept.optionalIEs, hc, haddr, opt, tlv])
  | some c =>
    have : a.optionalIEs ++ tail = [0x59, c] ++ 0x29 :: UInt8.ofNat (ty :: ip).length :: ty :: (ip ++ (a.afterAddress ++ tail)) := by
      simp [Accept.optionalIEs, hc, haddr, opt, tlv, tv]
    rw [this]
    have h2 := nasLoop_found stop f [0x59, c] (a.afterAddress ++ tail) ip (UInt8.ofNat (ty :: ip).length) ty
      a.optionalIEs.length hip (by simp [Accept.optionalIEs, hc, haddr, opt, tlv, tv])
    rw [← h2]
    exact nasLoop_skip_cause stop (f + 1) c _ _ (by simp [Accept.optionalIEs, hc, haddr, opt, tlv, tv])

/-- … in particular for the function as the driver runs it (fuel = capacity + 1) and the IPv4 contents of 9.11.4.10 -/
theorem C12_ip_pdu (h : SecHeader) (pct : UInt8) (a : Accept) (psi2 : Option UInt8) (addInfo : Option Bytes)
    (cause5gmm backoff : Option UInt8) (ip slack : Bytes)
    (hmac : h.mac.length = 4) (hwf : a.WellFormed) (haddr : a.pduAddress = some (pduAddressV4 ip)) (hip : ip.length = 4)
    (hlen : a.encode.length < 65530) :
    decodeNasPdu (Sl.ofBytes (nasPdu h pct a psi2 addInfo cause5gmm backoff) slack) = .ok ip := by
  unfold decodeNasPdu
  exact C12_ip h pct a psi2 addInfo cause5gmm backoff 0x01 ip slack _ _ hmac hwf haddr hip hlen
    (by simp [fuelFor, Sl.ofBytes, nasPdu, protect])

/-- the size hypothesis of `C12_ip` in terms of the fields: it holds whenever the variable-length fields together stay
    below 65 000 octets (QoS rules of 4 000 octets leave 61 000 for the optional IEs) -/
theorem C12_ip_size (a : Accept) (hambr : a.ambr.length = 6) (ip : Bytes) (hip : ip.length = 4) (ty : UInt8)
    (haddr : a.pduAddress = some (ty :: ip))
    (hsum : a.qosRules.length + (a.snssai.elim 0 List.length) + (a.mappedEps.elim 0 List.length)
      + (a.eap.elim 0 List.length) + (a.qosFlowDescr.elim 0 List.length) + (a.epco.elim 0 List.length)
      + (a.dnn.elim 0 List.length) ≤ 65000) :
    a.encode.length < 65530 := by
  rw [Proofs.Extract.accept_encode_length a hambr]
  have e1 : ∀ (i : UInt8) (o : Option Bytes), (opt (tlvE i) o).length ≤ 3 + o.elim 0 List.length := by
    intro i o; cases o <;> simp [opt, tlvE, Spec.SetupRequest.be16]; omega
  have e2 : ∀ (i : UInt8) (o : Option Bytes), (opt (tlv i) o).length ≤ 2 + o.elim 0 List.length := by
    intro i o; cases o <;> simp [opt, tlv]; omega
  have e3 : ∀ (i : UInt8) (o : Option UInt8), (opt (tv i) o).length ≤ 2 := by
    intro i o; cases o <;> simp [opt, tv]
  have e4 : (opt (fun b : UInt8 => [0x80 ||| (b &&& 1)]) a.alwaysOn).length ≤ 1 := by
    cases a.alwaysOn <;> simp [opt]
  have h1 := e3 0x59 a.cause
  have h2 := e3 0x56 a.rqTimer
  have h3 := e2 0x22 a.snssai
  have h4 := e1 0x75 a.mappedEps
  have h5 := e1 0x78 a.eap
  have h6 := e1 0x79 a.qosFlowDescr
  have h7 := e1 0x7B a.epco
  have h8 := e2 0x25 a.dnn
  have h9 : (opt (tlv 0x29) (some (ty :: ip))).length = 7 := by simp [opt, tlv, hip]
  simp only [Accept.optionalIEs, Accept.afterAddress, haddr, List.length_append]
  omega

/-- the hypotheses are satisfiable: QoS rules of 4 000 octets, every optional IE present -/
def exampleAccept : Accept :=
  { psi := 1, pti := 1, sscAndType := 0x11, qosRules := List.replicate 4000 0, ambr := [1, 0, 1, 1, 0, 1],
    cause := some 50, pduAddress := some (pduAddressV4 [10, 45, 0, 2]), rqTimer := some 0, snssai := some [1, 1, 2, 3],
    alwaysOn := some 1, mappedEps := some [0], eap := some [1, 2], qosFlowDescr := some [1, 2, 3],
    epco := some [0x80], dnn := some [8, 105, 110, 116, 101, 114, 110, 101, 116] }

theorem exampleAccept_ok : exampleAccept.WellFormed ∧ exampleAccept.qosRules.length = 4000 ∧
    exampleAccept.pduAddress = some (pduAddressV4 [10, 45, 0, 2]) ∧ exampleAccept.encode.length < 65530 ∧
    exampleAccept.cause.isSome ∧ exampleAccept.rqTimer.isSome ∧ exampleAccept.snssai.isSome ∧
    exampleAccept.alwaysOn.isSome ∧ exampleAccept.mappedEps.isSome ∧ exampleAccept.eap.isSome ∧
    exampleAccept.qosFlowDescr.isSome ∧ exampleAccept.epco.isSome ∧ exampleAccept.dnn.isSome := by
  have hq : exampleAccept.qosRules.length = 4000 := List.length_replicate ..
  have ho : exampleAccept.optionalIEs.length = 48 := by decide
  refine ⟨⟨by rw [hq]; omega, rfl⟩, hq, rfl, ?_, rfl, rfl, rfl, rfl, rfl, rfl, rfl, rfl, rfl⟩
  rw [Proofs.Extract.accept_encode_length _ rfl, hq, ho]
  omega

/-- `C12_ip_pdu` applied to it: the 4 000-octet accept behind a header, with two hidden octets of capacity -/
example : decodeNasPdu (Sl.ofBytes (nasPdu ⟨2, [0xaa, 0xbb, 0xcc, 0xdd], 7⟩ 1 exampleAccept (some 5)) [9, 9])
    = .ok [10, 45, 0, 2] :=
  C12_ip_pdu _ _ _ _ _ _ _ _ _ rfl exampleAccept_ok.1 exampleAccept_ok.2.2.1 rfl exampleAccept_ok.2.2.2.1

/-- **TEID and UPF address.** For every ProtocolIE-Container in X.691 ALIGNED PER whose tunnel IE (id 139, GTP tunnel with a
    32-bit transport layer address `tla` and TEID `teid`) is the first IE or the second one after the PDU session AMBR
    (id 130, any bit rates in 0 … 4·10¹²), followed by any further IEs whatsoever, and whatever lies behind the slice:
    the extraction returns (`teid` as a big-endian number, `tla`). -/
theorem C12_teid_upf_container (ambr : Option (Nat × Nat)) (tla teid slack : Bytes) (tail : List (Nat × Nat × Bytes))
    (fuel : Nat) (hambr : ∀ dl ul, ambr = some (dl, ul) → dl ≤ 4000000000000 ∧ ul ≤ 4000000000000)
    (hteid : teid.length = 4) (h4 : tla.length = 4) (hfuel : 2 ≤ fuel) :
    decodeTransfer fuel
      (Sl.ofBytes (encodeContainer (Proofs.Extract.ambrIes ambr ++ ((139, 0, upTnlValue tla teid) :: tail))) slack)
      = .ok (beNat teid, tla) := by
  open Proofs.Extract in
  refine decodeTransfer_ies (ambrIes ambr) tail ?_ tla teid slack fuel hteid h4 ?_
  · match ambr, hambr with
    | none, _ => simp [ambrIes]
    | some (dl, ul), hambr =>
      obtain ⟨hd, hu⟩ := hambr dl ul rfl
      have := ambrValue_length dl ul
      have := octetLen_le dl hd
      have := octetLen_le ul hu
      simp only [ambrIes, List.mem_singleton, forall_eq]
      omega
  · cases ambr with
    | none => simp [ambrIes]; omega
    | some p => simp [ambrIes]; omega

/-- … in particular for every spec-built PDUSessionResourceSetupRequestTransfer (AMBR optional, PDU session type and
    QoS flow list optional) -/
theorem C12_teid_upf (t : Transfer) (slack : Bytes) (hwf : t.WellFormed) (h4 : t.tla.length = 4) :
    decodeTransferPdu (Sl.ofBytes t.encode slack) = .ok (beNat t.teid, t.tla) := by
  unfold decodeTransferPdu Transfer.encode
  rw [Proofs.Extract.transfer_ies_eq]
  have hne : 1 ≤ (Sl.ofBytes (encodeContainer (Proofs.Extract.ambrIes t.ambr ++
      ((139, 0, upTnlValue t.tla t.teid) :: t.tailIes))) slack).mem.length := by
    rw [Proofs.Extract.container_eq]; simp [Sl.ofBytes]
  exact C12_teid_upf_container t.ambr t.tla t.teid slack t.tailIes _ hwf.1 hwf.2.1 h4 (by simp only [fuelFor]; omega)

/-- the hypotheses are satisfiable: both bit rates at the top of the range, all four IEs -/
def exampleTransfer : Transfer :=
  { ambr := some (4000000000000, 4000000000000), tla := [10, 0, 0, 1], teid := [0, 0, 0, 5], pduType := some 0,
    qos := some [{ qfi := 9, fiveQI := 9, arp := 1, cap := 0, vul := 0 }] }

theorem exampleTransfer_ok : exampleTransfer.WellFormed ∧ exampleTransfer.tla.length = 4 :=
  ⟨⟨by intro dl ul h; cases h; exact ⟨Nat.le_refl _, Nat.le_refl _⟩, rfl, by decide, by decide,
    by intro p h; cases h; decide, by intro l h; cases h; simp⟩, rfl⟩

/-- `C12_teid_upf` applied to it, with three hidden octets of capacity -/
example : decodeTransferPdu (Sl.ofBytes exampleTransfer.encode [1, 2, 3]) = .ok (5, [10, 0, 0, 1]) :=
  C12_teid_upf exampleTransfer [1, 2, 3] exampleTransfer_ok.1 exampleTransfer_ok.2

/-- **Termination** (the code after the F9 repair): on any slice whatsoever — any contents, any length, any capacity —
    the NAS extraction does not use up fuel that exceeds the capacity, i.e. the Go loop returns. -/
theorem C12_terminates_nas (s : Sl) (fuel : Nat) (hf : s.mem.length < fuel) : decodeNas true fuel s ≠ .error .hang := by
  open Proofs.Extract in
  unfold decodeNas
  refine bind_ne_hang (sliceFrom_ne_hang _ _) fun plain hplain => ?_
  refine bind_ne_hang (slice_ne_hang _ _ _) fun _ _ => ?_
  refine bind_ne_hang (be16_ne_hang _) fun pcl _ => ?_
  refine bind_ne_hang (slice_ne_hang _ _ _) fun pc hpc => ?_
  refine bind_ne_hang (slice_ne_hang _ _ _) fun _ _ => ?_
  refine bind_ne_hang (be16_ne_hang _) fun q _ => ?_
  refine bind_ne_hang (sliceFrom_ne_hang _ _) fun op hop => ?_
  have h1 := sliceFrom_ok hplain
  have h2 := slice_ok hpc
  have h3 := sliceFrom_ok hop
  exact nasLoop_ne_hang op fuel 0 (by omega)

theorem C12_terminates_nas_pdu (s : Sl) : decodeNasPdu s ≠ .error .hang :=
  C12_terminates_nas s _ (by simp [fuelFor])

theorem model_is_repaired : stopOnUnknownIei = true := rfl

/-- **Termination** of the transfer extraction on any slice: fuel above the length is never used up. -/
theorem C12_terminates_transfer (s : Sl) (fuel : Nat) (hf : s.len < fuel) : decodeTransfer fuel s ≠ .error .hang :=
  Proofs.Extract.xferLoop_ne_hang s fuel 3 (by omega)

/-- with a well-formed slice (len ≤ cap) the driver's fuel suffices -/
theorem C12_terminates_transfer_pdu (s : Sl) (h : s.len ≤ s.mem.length) : decodeTransferPdu s ≠ .error .hang :=
  C12_terminates_transfer s _ (by simp only [fuelFor]; omega)

/-- **F9** (the original code, `stop = false`): the corpus witness — IEI 0x7A, which has no entry in the length table,
    in front of the PDU address — exhausts every amount of fuel. -/
def f9Witness : Sl := Sl.ofBytes
  [0x7e, 0x02, 0, 0, 0, 0, 0, 0x7e, 0x00, 0x68, 0x01, 0x00, 0x16, 0x2e, 0x01, 0x01, 0xc2, 0x11, 0x00, 0x00,
   0x06, 1, 2, 3, 4, 5, 6, 0x7a, 0x29, 0x05, 0x01, 0x0a, 0x00, 0x00, 0x01] []

/-- on the witness the fixed-offset part leaves the walk standing on IEI 0x7A -/
theorem f9Witness_walk (stop : Bool) (fuel : Nat) :
    decodeNas stop fuel f9Witness = nasLoop stop ⟨[0x7a, 0x29, 0x05, 0x01, 0x0a, 0x00, 0x00, 0x01], 8⟩ fuel 0 :=
  Proofs.Extract.decodeNas_layout stop fuel [0x7e, 0x02, 0, 0, 0, 0, 0] [0x7e, 0x00, 0x68, 0x01]
    [0x2e, 0x01, 0x01, 0xc2, 0x11] [] [0x06, 1, 2, 3, 4, 5, 6] [0x7a, 0x29, 0x05, 0x01, 0x0a, 0x00, 0x00, 0x01] []
    0x00 0x16 0x00 0x00 35 rfl rfl rfl rfl (by decide) (by decide) (by decide) (by decide)

theorem F9_original_never_returns : ∀ fuel, decodeNas false fuel f9Witness = .error .hang := by
  intro fuel
  rw [f9Witness_walk]
  exact Proofs.Extract.nasLoop_stuck _ 0x7a (by decide) (by simp [Sl.idx]) (by decide) (by decide) (by decide) fuel

/-- … and the repaired code returns on it (without an address: the IE in front is unknown to this release's table) -/
theorem F9_repaired_returns : decodeNasPdu f9Witness = .ok [] := by
  rw [show decodeNasPdu f9Witness = decodeNas true 36 f9Witness from rfl, f9Witness_walk]
  exact Proofs.Extract.nasLoop_stops _ 0x7a (by decide) (by simp [Sl.idx]) (by decide) (by decide) (by decide) 35

/-- **Setup list selection in EstablishPDU** (the code after the F16 repair): in every PDU SESSION RESOURCE SETUP REQUEST
    of TS 38.413 9.2.1.1, with or without RAN Paging Priority and NAS-PDU, the IE selected is the setup list. -/
theorem C12_setup_list_selected (rpp nas : Bool) :
    ∃ i, selectSetupList (setupRequestIds rpp nas) = .ok i ∧ (setupRequestIds rpp nas)[i]? = some 74 := by
  cases rpp <;> cases nas <;> exact ⟨_, rfl, rfl⟩

/-- **F16** (the original code): `ProtocolIEs.List[2]` is the setup list only when both optional IEs are absent -/
theorem F16_positional_selection (rpp nas : Bool) :
    selectPositional (setupRequestIds rpp nas) = if rpp || nas then .error .panic else .ok 2 := by
  cases rpp <;> cases nas <;> rfl

/-- the table entries the walk relies on for the only IE that can precede the PDU address (generated from pdu.go) -/
theorem table_cause : lookupLen 0x59 = 2 ∧ isHalfByte 0x59 = false := by decide

end Stgutg.Props.C12
