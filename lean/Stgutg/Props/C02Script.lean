/-
  C02 — the judge on the whole uplink script of one UE: NG Setup, registration, any history of procedures whose
  prerequisites hold, de-registration. Judge level only: that the emulator makes exactly these calls (its reading of the
  downlink messages of the procedures after registration) is added in Props/C02AcceptedN.lean.
-/
import Stgutg.Props.C01
import Stgutg.Props.C02History

namespace Stgutg.Props.C02
open Stgutg Stgutg.Model.Emulator Stgutg.Proofs.Emulator Stgutg.Builders
open Stgutg.Model.NasProtect Stgutg.Proofs.NasProtect Stgutg.Spec.NasSecurity
open Stgutg.Spec.NgapView Stgutg.Spec.Ts38413 Stgutg.Proofs.BuildersJudge Stgutg.Proofs.BuildersLife Stgutg.Proofs.BuildersRoles
open Stgutg.Props.C01

/-- after Security Mode Complete (new context, COUNT 0) and Registration Complete (COUNT 1) the emulator's context and the
    judge's record of the REGISTERED UE are in step: last accepted COUNT 1, next COUNT 2 -/
theorem registration_live (P : Prims) (hP : PrimsOk P) (sec : UeSec) (u0 u : Spec.Amf.UeSt) (hin : InStep sec u0)
    (smc rc : Bytes) (haka : u.aka = u0.aka) (hlast : u.last = some 1) (hused : u.used = [1, 0]) :
    Live (Model.NasProtect.encodeNasPduWithSecurity P (Model.NasProtect.encodeNasPduWithSecurity P sec smc 4 true true).1
      rc 2 true false).1 u 1 := by
  obtain ⟨_, _, _, _, _, hin1, hc1⟩ := protected_step P hP sec u0 hin smc 4 true rfl
  obtain ⟨_, _, _, _, _, hin2, hc2⟩ := protected_step P hP _ u0 hin1 rc 2 false rfl
  simp only [if_true] at hc1
  simp only [Bool.false_eq_true, if_false, hc1] at hc2
  refine ⟨⟨?_, hin2.2⟩, hlast, by rw [hc2]; rfl, by rw [hused]; intro x hx; simp at hx; omega⟩
  rw [hin2.1]
  simp [Spec.Amf.ctxOf, haka]

theorem filterMap_replicate {α β : Type} (f : α → Option β) (a : α) (b : β) (h : f a = some b) (n : Nat) :
    (List.replicate n a).filterMap f = List.replicate n b := by
  induction n with
  | zero => rfl
  | succ n ih => simp [List.replicate_succ, h, ih]

theorem finish_clean (cfg : Spec.Amf.Cfg) (chs : List Spec.Amf.Choice) (s : Spec.Amf.St) (n : Nat)
    (reported : Option (List Spec.Amf.Reported)) (hclean : s.fails = [])
    (h1 : s.established.length = Spec.Amf.expectedEstablished cfg) (h2 : s.services = Spec.Amf.expectedServices cfg)
    (h3 : s.releases = Spec.Amf.expectedReleases cfg) (h4 : s.deregs = Spec.Amf.expectedDeregs cfg)
    (hrp : ∀ rs, reported = some rs → rs = s.established.filterMap fun j =>
      chs[j]?.map fun ch => ({ ip := ch.ueIp, teid := ch.teid, upf := ch.upfIp } : Spec.Amf.Reported)) :
    (Spec.Amf.finish true cfg chs s n reported true).fails = [] := by
  cases reported with
  | none => simp [Spec.Amf.finish, h1, h2, h3, h4, hclean]
  | some rs =>
    have := hrp rs rfl
    simp [Spec.Amf.finish, h1, h2, h3, h4, hclean, ← this]

/-- **C02_script_accepted.** The judge of C02 (`life = true`: the clauses after registration) accepts the WHOLE uplink script
    of one UE, for all configurations, AMF choices and arguments in the stated ranges, and for EVERY history:
      UL1 `GetNGSetupRequest`, UL2 … UL6 the registration (`regUls`, as in `C01_registration_script_accepted`),
      then any sequence `ps` of `EstablishPDU` / `ServiceRequest` / `ReleasePDU` whose prerequisites hold (`histUls`),
      then, if `dereg`, `DeregisterUE` (`deregUls`),
    each message being what the emulator's constructor (C09), `EncodeNasPduWithSecurity` (C06, under the security state
    threaded from the first message to the last) and wrapper (C13) return. `judge … = accept`: no NGAP clause, no NAS
    security clause (COUNT 0, 1, then 2 … strictly increasing, each used once, MAC valid under the vector's keys), contents
    and prerequisites of every 5GMM / 5GSM message, and the numbers of completed procedures are the ones the configuration
    asks for (`hE`, `hS`, `hR`, `hD` relate the history to the configured counts as `main`'s clamps do), and what is reported
    (if anything) is, per establishment, the address / TEID / UPF address the AMF assigned (`hrp`).
    Hypotheses standing for what is not threaded here: `hin` (the emulator's context holds the keys of the network's vector:
    `C01_keys_of_network_challenge`), `hsub` (`C01_subscriber_identified`), and that the emulator makes exactly these calls
    (its reading of the downlink messages: proved for registration in `C01_accepted_n`, for the later procedures in
    `C02_accepted_n`). -/
theorem C02_script_accepted (P : Prims) (hP : PrimsOk P) (cfg : Spec.Amf.Cfg) (chs : List Spec.Amf.Choice)
    (E : Model.Convert.Ext) (a : Args) (ha : a.OK E) (plmn0 g name : Bytes) (bl : Int)
    (h22 : 22 ≤ bl) (h32 : bl ≤ 32) (hg : g.length = (bl.toNat + 7) / 8)
    (hc : Canonical g bl.toNat) (hname : 1 ≤ name.length) (hcfg : Spec.Amf.plmnOf cfg = some a.plmn)
    (mi secCap : Nas.Val)
    (hmi : mi.iei = 0 ∧ mi.len = mi.data.length ∧ mi.data.length < 65536)
    (hsc : secCap.iei = 0x2E ∧ secCap.len = secCap.data.length ∧ secCap.data.length < 256)
    (hea : Spec.Identity.eaSupported secCap.data Spec.Amf.selectedEa = true)
    (hia : Spec.Identity.iaSupported secCap.data Spec.Amf.selectedIa = true)
    (ch : Spec.Amf.Choice) (aka : Spec.Ts33501A.Aka) (hsub : Spec.Amf.subscriberOf cfg mi.data = some 0)
    (hch : chs[0]? = some ch) (hvec : Spec.Amf.vector P cfg 0 ch = some aka)
    (hamf : ch.amfUeNgapId = a.amf) (hres : aka.resStar.length = 16)
    (sec : UeSec) (hin : InStep sec (regUe 0 a.ran ch aka .authSent none []))
    (hrr : ∀ rr, Nas.Ctor.encodeWith Gen.Nas.layout_RegistrationRequest
      (Nas.Ctor.registrationRequest 1 mi none (some secCap) (some cap5GMMVal) none none) = .ok rr → rr.length < 65536)
    (ps : List Proc) (dereg : Bool) (hps : (sessAlong .none ps).isSome = true) (hcount : cost ps + 4 < 2 ^ 24)
    (hE : ps.count .establish = Spec.Amf.expectedEstablished cfg) (hS : ps.count .service = Spec.Amf.expectedServices cfg)
    (hR : ps.count .release = Spec.Amf.expectedReleases cfg)
    (hD : (if dereg then 1 else 0) = Spec.Amf.expectedDeregs cfg)
    (reported : Option (List Spec.Amf.Reported))
    (hrp : ∀ rs, reported = some rs →
      rs = List.replicate (ps.count .establish) { ip := ch.ueIp, teid := ch.teid, upf := ch.upfIp }) :
    ∃ b1 r sec1 h sec2 d,
      Wrapper.run E .GetNGSetupRequest plmn0 [.octs g, .octs a.plmn, .int bl, .str name] = .ok (.ok b1) ∧
      regUls P E a mi secCap aka.resStar sec r sec1 ∧ histUls P E a ps sec1 h sec2 ∧
      (if dereg then deregUls P E a mi sec2 d else d = []) ∧
      Spec.Amf.judge P true cfg chs (b1 :: (r ++ (h ++ d))) reported true = .accept := by
  have haOK := ha
  obtain ⟨hplmn, ha1, hr0, hr1, -⟩ := ha
  have hsuci : Spec.Amf.suciIs cfg 0 mi.data = true := by
    have := List.find?_some hsub
    exact this
  obtain ⟨b1, hrun1, hstep1⟩ := C01_step_ng_setup_request P cfg chs {} 0 E plmn0 g a.plmn name bl hplmn h22 h32 hg hc hname hcfg rfl
  have hstep1' : Spec.Amf.step P cfg chs {} 0 b1 = regSt [] := hstep1
  obtain ⟨_, _, ⟨nas2, b2, nas3, b3, rr, smc, o1, b4, b5, rc, o2, b6, e1, e2, e3, e4, e5, e6, e7, e8, e9, e10, e11, e12, rfl, rfl⟩,
      hreg⟩ :=
    C01_registration_block P hP cfg chs E a hplmn hr0 hr1 ha1 [] 0 (by simp) mi secCap hmi hsc hea hia ch aka hsub hch hvec
      hamf hres sec hin hrr
  let u0 := regUe 0 a.ran ch aka .registered (some 1) [1, 0]
  have hlive := registration_live P hP sec _ u0 hin smc rc rfl rfl rfl
  have hk0 : Known a (regSt ([] ++ [u0])) u0 _ 1 :=
    ⟨rfl, rfl, regSt_find [] u0 (by simp), hamf, hlive, rfl, .inl rfl⟩
  obtain ⟨h, sec2, s', u', hh, hlen, hend, hrunh⟩ := C02_history_accepted P hP true cfg chs E a haOK ps _ (1 + 5) u0 _ 1 hk0 hps (by omega)
  obtain ⟨⟨kclean, ksetup, kfind, kamf, klive, kreg, kpsi⟩, hsess, hj, hest, hsvc, hrel, hder, -⟩ := hend
  have hest' : s'.established.length = Spec.Amf.expectedEstablished cfg := by rw [hest, ← hE]; simp [regSt]
  have hsvc' : s'.services = Spec.Amf.expectedServices cfg := by rw [hsvc, ← hS]; simp [regSt]
  have hrel' : s'.releases = Spec.Amf.expectedReleases cfg := by rw [hrel, ← hR]; simp [regSt]
  have hder' : s'.deregs = 0 := by rw [hder]; rfl
  have hrp' : ∀ rs, reported = some rs → rs = s'.established.filterMap fun j =>
      chs[j]?.map fun ch => ({ ip := ch.ueIp, teid := ch.teid, upf := ch.upfIp } : Spec.Amf.Reported) := fun rs h => by
    rw [hrp rs h, hest]
    show _ = List.filterMap _ ([] ++ List.replicate _ 0)
    rw [List.nil_append, filterMap_replicate _ 0 _ (by rw [hch]; rfl)]
  have hpre : ∀ d, Spec.Amf.run P true cfg chs {} 0 (b1 :: ([b2, b3, b4, b5, b6] ++ (h ++ d))) =
      Spec.Amf.run P true cfg chs s' (1 + 5 + len ps) d := fun d => by
    rw [run_clean_step P true cfg chs {} 0 b1 _ rfl (by rw [hstep1']; rfl), hstep1']
    exact (hreg true 1 (h ++ d)).trans (hrunh d)
  cases dereg with
  | false =>
    refine ⟨b1, _, _, h, sec2, [], hrun1,
      ⟨nas2, b2, nas3, b3, rr, smc, o1, b4, b5, rc, o2, b6, e1, e2, e3, e4, e5, e6, e7, e8, e9, e10, e11, e12, rfl, rfl⟩, hh, rfl, ?_⟩
    unfold Spec.Amf.judge Spec.Amf.clauses
    rw [hpre [], run_nil]
    simp only [Bool.false_eq_true, if_false] at hD
    rw [finish_clean cfg chs s' _ reported kclean hest' hsvc' hrel' (by rw [hder', hD]) hrp']
    rfl
  | true =>
    have hmi2 := hmi.2
    obtain ⟨plain, o, d1, d2, g1, g2, g3, g4, hrund⟩ := C02_deregister_block P hP true cfg chs s' (1 + 5 + len ps) E a.plmn hplmn a.ran
      hr0 hr1 kclean u' kfind (by rw [kamf]; exact ha1) sec2 (1 + cost ps) klive kreg (by omega) mi hmi2.1 hmi2.2
      (by rw [hj]; exact hsuci)
    rw [kamf] at g3 g4
    refine ⟨b1, _, _, h, sec2, [d1, d2], hrun1,
      ⟨nas2, b2, nas3, b3, rr, smc, o1, b4, b5, rc, o2, b6, e1, e2, e3, e4, e5, e6, e7, e8, e9, e10, e11, e12, rfl, rfl⟩, hh,
      ⟨plain, o, d1, d2, g1, g2, g3, g4, rfl⟩, ?_⟩
    unfold Spec.Amf.judge Spec.Amf.clauses
    rw [hpre [d1, d2], hrund [], run_nil]
    simp only [if_true] at hD
    rw [finish_clean cfg chs
      { s'.setUe { u' with last := some (1 + cost ps + 1), used := (1 + cost ps + 1) :: u'.used, reg := .deregistered } with
        deregs := s'.deregs + 1 } _ reported kclean hest' hsvc' hrel' (by show s'.deregs + 1 = _; rw [hder', ← hD]) hrp']
    rfl

/-- the calls `procUls` / `deregUls` describe are the emulator's (Model/Emulator.lean: `establishPDU`, `serviceRequest`,
    `releasePDU`, `deregisterUE`) with `psi` = `pduId` = `(supiInt+14)%15 + 1`, request type 1 and the AMF-UE-NGAP-ID the
    context holds: `uint8(pduId)` is `UInt8.ofNat psi`, the Go `int64` arguments are the casts of `psi` and `amf`, and `psi`
    is assignable -/
theorem C02_calls_are_the_emulators (supiInt : Int) (h0 : 0 ≤ supiInt) (h63 : supiInt + 14 < 2 ^ 63) (amf : Int) (ha : 0 ≤ amf) :
    psi8 (pduIdOf supiInt) = UInt8.ofNat (pduIdOf supiInt).toNat ∧ (1 : UInt8) = UInt8.ofNat 1 ∧
    (((pduIdOf supiInt).toNat : Nat) : Int) = pduIdOf supiInt ∧ ((amf.toNat : Nat) : Int) = amf ∧
    1 ≤ (pduIdOf supiInt).toNat ∧ (pduIdOf supiInt).toNat ≤ 15 := by
  obtain ⟨e, hlo, hhi⟩ := pduId_range supiInt h0 h63
  refine ⟨?_, rfl, by omega, by omega, by omega, by omega⟩
  unfold psi8; rw [Int.emod_eq_of_lt (by omega) (by omega)]

/-- the hypotheses on the arguments and the history are satisfiable: the emulator's arguments (request type 1, DNN
    "internet", an S-NSSAI, gNB address 10.0.0.1) with the largest identifiers, and the history of test mode followed by a
    second establishment -/
example : Args.OK Model.NetExt.goExt ⟨[0x02, 0xf8, 0x39], 2 ^ 40 - 1, 2 ^ 32 - 1, 15, [49, 48, 46, 48, 46, 48, 46, 49], 1, internet,
    some (1, 1, 2, 3)⟩ :=
  ⟨rfl, by decide, by decide, by decide, by decide, by decide, by decide +kernel, by decide, ⟨by decide, by decide⟩,
   fun x h => by cases h; decide⟩

example : sessAlong .none [.establish, .service, .release, .establish] = some .established ∧
    cost [.establish, .service, .release, .establish] = 5 ∧ len [.establish, .service, .release, .establish] = 9 :=
  ⟨rfl, rfl, rfl⟩

end Stgutg.Props.C02
