/-
  C05 — 5G-AKA: RES* and the NAS key hierarchy equal what the network derives.
  Property theorems only; helper lemmas live in Stgutg/Proofs/KeyDerivation.lean.
  Everything is stated for ALL inputs and for EVERY block cipher `P.aes` / 256-bit MAC `P.hmac`.
-/
import Stgutg.Proofs.KeyDerivation

namespace Stgutg.Props.C05
open Stgutg Stgutg.Model.KeyDerivation Stgutg.Proofs.KeyDerivation Stgutg.Proofs.Milenage
open Stgutg.Spec.Ts35206 (BlockCipher)
open Stgutg.Proofs.Hex (xorBytes_length)
open Stgutg.Spec.Ts33501A (kdf kausf kseaf kamf algKey resStar aka abba0 nNasEncAlg nNasIntAlg fcKausf)

/-- "imsi-" -/
def imsiPrefix : Bytes := str ['i', 'm', 's', 'i', '-']

/-- `GetKDFValue(key, FC, P0, KDFLen(P0), …, Pn, KDFLen(Pn))` is the TS 33.220 B.2 KDF
    HMAC(key, FC ‖ P0 ‖ L0 ‖ … ‖ Pn ‖ Ln) for every number of parameters -/
theorem kdf_eq_spec (P : Prims) (key fcS : Bytes) (c : UInt8) (ps : List Bytes)
    (hfc : hexDecode fcS = some [c]) (h : ∀ p ∈ ps, p.length < 65536) :
    GetKDFValue P key fcS (ps.flatMap fun p => [p, KDFLen p]) = kdf P.hmac key c ps :=
  getKDFValue_eq P key fcS c ps hfc h

/-- the MAC input is the plain concatenation of the decoded FC and the parameters -/
theorem kdf_is_hmac_of_concat (P : Prims) (key fcS fc : Bytes) (ps : List Bytes) (hfc : hexDecode fcS = some fc) :
    GetKDFValue P key fcS ps = P.hmac key (fc ++ ps.flatten) := by
  simp [GetKDFValue, hfc]

/-- DerivateKamf computes K_AUSF (A.2), K_SEAF (A.6) and K_AMF (A.7, SUPI digits, ABBA 0x0000) -/
theorem kausf_kseaf_kamf_eq_spec (P : Prims) (ck ik snn sqnXorAk digits : Bytes)
    (hd : digits.all isDigit = true) (h5 : 5 ≤ digits.length) (h15 : digits.length ≤ 15)
    (hsnn : snn.length < 65536) (hsqn : sqnXorAk.length < 65536) :
    derivateKamfChain P (imsiPrefix ++ digits) (ck ++ ik) snn sqnXorAk
      = .ok (kausf P.hmac ck ik snn sqnXorAk,
             kseaf P.hmac (kausf P.hmac ck ik snn sqnXorAk) snn,
             kamf P.hmac (kseaf P.hmac (kausf P.hmac ck ik snn sqnXorAk) snn) digits abba0) := by
  have e1 := getKDFValue_eq P (ck ++ ik) _ _ [snn, sqnXorAk] fc_kausf (by simp; omega)
  have e2 := fun key => getKDFValue_eq P key _ _ [snn] fc_kseaf (by simp; omega)
  have e3 := fun key => getKDFValue_eq P key _ _ [digits, [0x00, 0x00]] fc_kamf (by simp; omega)
  simp only [List.flatMap_cons, List.flatMap_nil, List.append_nil, List.cons_append, List.nil_append] at e1 e2 e3
  simp only [derivateKamfChain, imsiPrefix, supiFind_imsi hd h5 h15, e1, e2, e3]
  rfl

/-- DerivateAlgKey computes K_NASenc / K_NASint (A.8): distinguishers 0x01 / 0x02, the algorithm identity,
    the 128 least significant bits of the KDF output -/
theorem algkey_eq_spec (P : Prims) (hH : MacLen P.hmac) (kamfV : Bytes) (ca ia : UInt8) :
    DerivateAlgKey P kamfV ca ia
      = .ok (algKey P.hmac kamfV nNasEncAlg ca, algKey P.hmac kamfV nNasIntAlg ia) := by
  have e := fun d a => getKDFValue_eq P kamfV _ _ [[d], [a]] fc_alg (by simp)
  simp only [List.flatMap_cons, List.flatMap_nil, List.append_nil, List.cons_append, List.nil_append] at e
  have hl : ∀ d a, ¬ (kdf P.hmac kamfV Spec.Ts33501A.fcAlgKey [[d], [a]]).length < 32 := fun d a => by
    rw [kdf, hH]; omega
  simp only [DerivateAlgKey, e, hl, if_false, algKey]
  have hk : ∀ d a, (kdf P.hmac kamfV Spec.Ts33501A.fcAlgKey [[d], [a]]).length = 32 := fun d a => by rw [kdf, hH]
  rw [low128_32 (hk _ _), low128_32 (hk _ _)]
  rfl

/-- the serving network name built in RegisterUE is the TS 24.501 name for a 2-digit MNC ("0" inserted) … -/
theorem snname_2digit (mnc mcc : Bytes) (hmnc : mnc.length = 2) :
    snName mnc mcc = Spec.Ts33501A.snName mcc mnc := snName_eq_spec (Or.inl hmnc)
/-- … and for a 3-digit MNC; with a 3-digit MCC it has 32 octets -/
theorem snname_3digit (mnc mcc : Bytes) (hmnc : mnc.length = 3) :
    snName mnc mcc = Spec.Ts33501A.snName mcc mnc := snName_eq_spec (Or.inr hmnc)
theorem snname_length (mnc mcc : Bytes) (hmcc : mcc.length = 3) (hmnc : mnc.length = 2 ∨ mnc.length = 3) :
    (snName mnc mcc).length = 32 := by rw [snName_eq_spec hmnc]; exact snName_length hmcc hmnc

/-- the modelled wmnsk `F2345()` (OPc configured) returns TS 35.206 RES = f2, CK = f3, IK = f4, AK = f5 -/
theorem milenage_f2345_eq_spec (P : Prims) (hE : BlockCipher P.aes) (k opc rand : Bytes)
    (hk : k.length = 16) (hopc : opc.length = 16) (hrand : rand.length = 16) :
    Mil.F2345 P { k := k, op := none, opc := some opc, rand := rand }
      = some { res := Spec.Ts35206.f2 P.aes k opc rand, ck := Spec.Ts35206.f3 P.aes k opc rand,
               ik := Spec.Ts35206.f4 P.aes k opc rand, ak := Spec.Ts35206.f5 P.aes k opc rand } :=
  mil_f2345_opc P hE none hk hopc hrand (by simp)

/-- the modelled wmnsk `ComputeRESStar(mcc, mnc)` returns RES* of A.4: the last 128 bits of
    KDF(CK ‖ IK, 0x6B, SN name, RAND, RES) with the serving network name of (MCC, MNC) -/
theorem resstar_eq_spec (P : Prims) (hH : MacLen P.hmac) (rand mcc mnc : Bytes) (o : MilOut)
    (hrand : rand.length = 16) (hres : o.res.length = 8) (hck : o.ck.length = 16) (hik : o.ik.length = 16)
    (hmcc : mcc.length = 3) (hmnc : mnc.length = 2 ∨ mnc.length = 3) :
    computeRESStar P rand o mcc mnc
      = .ok (some (resStar P.hmac o.ck o.ik (Spec.Ts33501A.snName mcc mnc) rand o.res)) :=
  computeRESStar_eq P hH o hrand hres hck hik hmcc hmnc

/-- what the specification makes of the inputs, in the shape DeriveRESstarAndSetKey reports -/
def specKeys (P : Prims) (k opc rand autn mcc mnc digits : Bytes) (ca ia : UInt8) : UeKeys :=
  let s := aka P.aes P.hmac k opc rand (autn.take 6) mcc mnc digits ca ia
  { resStar := s.resStar, kamf := s.kamf, knasEnc := s.knasEnc, knasInt := s.knasInt }

/-- MAIN: with OPc configured, for every K, OPc, RAND, AUTN, AMF string, MCC, MNC of 2 or 3 digits, IMSI SUPI of
    5..15 digits and every algorithm pair, the returned RES* and the installed K_AMF, K_NASenc, K_NASint are
    TS 35.206 f2..f4 followed by TS 33.501 A.4, A.2, A.6, A.7, A.8 over the serving network name of the PLMN -/
theorem derive_eq_spec (P : Prims) (hE : BlockCipher P.aes) (hH : MacLen P.hmac)
    (a : AuthSubs) (amf k opc rand autn mcc mnc digits : Bytes) (ca ia : UInt8)
    (hamf : hexDecode a.amf = some amf) (hamf2 : 2 ≤ amf.length)
    (hk : hexDecode a.k = some k) (hk16 : k.length = 16)
    (hopcne : a.opc ≠ []) (hopc : hexDecode a.opc = some opc) (hopc16 : opc.length = 16)
    (hrand : rand.length = 16)
    (hd : digits.all isDigit = true) (h5 : 5 ≤ digits.length) (h15 : digits.length ≤ 15)
    (hmcc : mcc.length = 3) (hmnc : mnc.length = 2 ∨ mnc.length = 3) :
    DeriveRESstarAndSetKey P (imsiPrefix ++ digits) ca ia a autn rand (snName mnc mcc) mnc mcc
      = .ok (specKeys P k opc rand autn mcc mnc digits ca ia) := by
  have hamf' : ¬ amf.length < 2 := by omega
  have hsn := snName_length hmcc hmnc
  have hsq : (autn.take 6).length < 65536 := by simp; omega
  have hf2 := f2_length hE hk16 hopc16 hrand
  have hf3 := f3_length hE hk16 hopc16 hrand
  have hf4 := f4_length hE hk16 hopc16 hrand
  have hchain := kausf_kseaf_kamf_eq_spec P (Spec.Ts35206.f3 P.aes k opc rand) (Spec.Ts35206.f4 P.aes k opc rand)
    (Spec.Ts33501A.snName mcc mnc) (autn.take 6) digits hd h5 h15 (by omega) hsq
  have hres := computeRESStar_eq P hH (rand := rand) (mcc := mcc) (mnc := mnc)
    { res := Spec.Ts35206.f2 P.aes k opc rand, ck := Spec.Ts35206.f3 P.aes k opc rand,
      ik := Spec.Ts35206.f4 P.aes k opc rand, ak := Spec.Ts35206.f5 P.aes k opc rand } hrand hf2 hf3 hf4 hmcc hmnc
  simp only [DeriveRESstarAndSetKey, hamf, hk, hopcne, if_false, hopc, hamf',
    mil_f2345_opc P hE none hk16 hopc16 hrand (by simp), snName_eq_spec hmnc, DerivateKamf, hchain, Except.map,
    algkey_eq_spec P hH, hres]
  rfl

/-- OP-only configuration: the result is the same as with the corresponding OPc = OP xor E_K(OP) configured
    (every other input, well-formed or not, being equal) -/
theorem op_opc (P : Prims) (hE : BlockCipher P.aes) (a b : AuthSubs) (k op : Bytes)
    (supi autn rand snn mnc mcc : Bytes) (ca ia : UInt8)
    (hk : hexDecode a.k = some k) (hk16 : k.length = 16)
    (ha : a.opc = []) (hop : hexDecode a.op = some op) (hop16 : op.length = 16)
    (hrand : rand.length = 16)
    (hbamf : b.amf = a.amf) (hbk : b.k = a.k)
    (hbne : b.opc ≠ []) (hbopc : hexDecode b.opc = some (Spec.Ts35206.opc P.aes k op)) :
    DeriveRESstarAndSetKey P supi ca ia a autn rand snn mnc mcc
      = DeriveRESstarAndSetKey P supi ca ia b autn rand snn mnc mcc := by
  unfold DeriveRESstarAndSetKey
  rw [hbamf, hbk]
  cases hamf : hexDecode a.amf with
  | none => rfl
  | some amf =>
    simp only [hk, ha, if_true, hop, hbne, if_false, hbopc]
    by_cases h2 : amf.length < 2
    · simp [h2]
    · simp only [h2, if_false, mil_f2345_op P hE hk16 hop16 hrand]

/-- the hypotheses of `derive_eq_spec` are satisfiable (E = xor with the key, MAC = 32 zero octets) -/
example : ∃ (P : Prims) (a : AuthSubs) (amf k opc rand mcc mnc digits : Bytes),
    BlockCipher P.aes ∧ MacLen P.hmac ∧ hexDecode a.amf = some amf ∧ 2 ≤ amf.length ∧
    hexDecode a.k = some k ∧ k.length = 16 ∧ a.opc ≠ [] ∧ hexDecode a.opc = some opc ∧ opc.length = 16 ∧
    rand.length = 16 ∧ digits.all isDigit = true ∧ 5 ≤ digits.length ∧ digits.length ≤ 15 ∧
    mcc.length = 3 ∧ (mnc.length = 2 ∨ mnc.length = 3) :=
  ⟨{ aes := xorBytes, ctr := fun _ _ m => m, cmac := fun _ m => m, hmac := fun _ _ => List.replicate 32 0 },
   { amf := str ['8', '0', '0', '0'], k := List.replicate 32 0x30, opc := List.replicate 32 0x30, op := [] },
   [0x80, 0x00], List.replicate 16 0, List.replicate 16 0, List.replicate 16 0,
   str ['2', '0', '8'], str ['9', '3'], str ['2', '0', '8', '9', '3', '0', '0', '0', '0', '0', '0', '0', '0', '0', '3'],
   fun k x hk hx => by rw [xorBytes_length]; omega, fun _ _ => rfl,
   by decide, by decide, by decide, by decide, by decide, by decide, by decide, by decide, by decide, by decide, by decide,
   by decide, by decide⟩

end Stgutg.Props.C05
