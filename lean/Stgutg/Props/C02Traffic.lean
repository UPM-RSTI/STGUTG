/-
  C02 / C01, traffic mode — the `mode == 1` branch of `main` makes the procedure calls of test mode with counts (N, N, 0, N, N).

  Traffic mode attaches XDP programs and cannot be run in the sandbox; C01 and C02 are proved about, and run against, the test-mode
  branch (`Model.Emulator.testMode`, tied to stg-utg.go by `gen script`). This file ties the OTHER branch to it structurally:
  `gen traffic` extracts the signalling skeleton of the traffic-mode branch from the source on every run (failing closed on any
  statement outside its grammar: a UE argument that is not `ueList[i]` with the loop's own index, a credential argument that
  mentions the loop variable, a second procedure in a loop, a data-plane call on something that is not a result of the
  procedure …), and the theorems below show, for every population size N, that the extracted skeleton makes the test-mode
  script's (`Gen.Script.main`) calls for those counts, for the same UEs in the same order, never indexes beyond `ueList`, and
  hands the data plane the result triple of `EstablishPDU` that `C02_reports` speaks of.

  Not covered: the XDP data plane itself, signals, and the timing (`time.Sleep`) between the calls.
-/
import Stgutg.Gen.Traffic
import Stgutg.Gen.Script
import Stgutg.Model.FailStop

namespace Stgutg.Props.C02Traffic
open Stgutg.Model.Traffic Stgutg.Model.FailStop

/-- the traffic-mode branch as the property needs it: connect, NG Setup, register UE 0 … N−1 (each appended to both lists),
    establish one session per registered UE — for `ueList[i]`, `i` ranging over `pduList` —, hand (ip, teid, upf) to the data
    plane, wait; then release and de-register every UE of the list -/
def expected : List Item := [
  .dataplane,
  .connect,
  .ngsetup,
  .regLoop "UeNumber" ["ueList", "pduList"],
  .procLoop "EstablishPDU" "pduList" (.index "ueList")
    [("UpfIsRegistered", [2]), ("AddUpf", [2]), ("ClientIsRegistered", [0]), ("AddClient", [0, 1, 2])],
  .dataplane,
  .waitSignal,
  .procLoop "ReleasePDU" "ueList" (.rangeVar "ueList") [],
  .procLoop "DeregisterUE" "ueList" (.rangeVar "ueList") [],
  .closeConn,
  .exit 0
]

/-- **C02_traffic_structure.** Table fact over the skeleton `gen traffic` extracts from stg-utg.go on every check. -/
theorem C02_traffic_structure : Gen.Traffic.traffic = expected := by decide +kernel

/-- lengths of the UE lists -/
abbrev Lens := List (String × Nat)

def Lens.get (l : Lens) (name : String) : Nat := (l.lookup name).getD 0

/-- one procedure call: the procedure and the index (in creation order) of the UE it acts on; `none` = a trap
    (`L[i]` beyond the list) -/
abbrev Call := String × Option Nat

/-- the calls of a skeleton for a population of `n` UEs (the value of the registration loop's bound), given the lengths of
    the lists so far. A registration loop creates UE `i` with `CreateUE(imsi, i, …)`, registers it and appends to its lists; a
    per-UE loop runs once per element of the list it ranges over and acts on `L[i]` (a trap when `L` is shorter) or on the
    i-th element of the list itself. -/
def calls (n : Nat) : Lens → List Item → List Call
  | _, [] => []
  | l, .ngsetup :: r => ("ManageNGSetup", some 0) :: calls n l r
  | l, .regLoop _ apps :: r =>
    (List.range n).map (fun i => ("RegisterUE", some i)) ++ calls n (apps.map (fun a => (a, l.get a + n)) ++ l) r
  | l, .procLoop p over (.index lst) _ :: r =>
    (List.range (l.get over)).map (fun i => (p, if i < l.get lst then some i else none)) ++ calls n l r
  | l, .procLoop p over (.rangeVar _) _ :: r =>
    (List.range (l.get over)).map (fun i => (p, some i)) ++ calls n l r
  | l, _ :: r => calls n l r

/-- the calls of the test-mode script for given counts: a loop runs `bound` times (not at all when the bound is negative) and a
    call whose arguments index lists with the loop variable acts on UE `i` -/
def testCalls (c : Counts) : List MainItem → List Call
  | [] => []
  | .stmt (.call p _) :: r => (p, some 0) :: testCalls c r
  | .stmt _ :: r => testCalls c r
  | .loop b body :: r =>
    (body.filterMap fun s => match s with | .call p _ => some p | _ => none).flatMap
      (fun p => (List.range (b.eval c).toNat).map (fun i => (p, some i))) ++ testCalls c r

/-- **C02_traffic_calls.** The calls of the traffic-mode branch for N UEs: NG Setup, registration of UE 0 … N−1, one session
    establishment per UE 0 … N−1, and — after the signal — release and de-registration of UE 0 … N−1, in this order. -/
theorem C02_traffic_calls (n : Nat) :
    calls n [] Gen.Traffic.traffic =
      ("ManageNGSetup", some 0) :: ((List.range n).map (fun i => ("RegisterUE", some i)) ++
        ((List.range n).map (fun i => ("EstablishPDU", some i)) ++
          ((List.range n).map (fun i => ("ReleasePDU", some i)) ++
            (List.range n).map (fun i => ("DeregisterUE", some i))))) := by
  rw [C02_traffic_structure]
  simp only [expected, calls, Lens.get, List.lookup, Option.getD, List.map, List.append_nil, Nat.zero_add, beq_self_eq_true]
  have e : ("pduList" == "ueList") = false := by decide
  simp only [e]
  congr 1
  congr 1
  congr 1
  apply List.map_congr_left
  intro i hi
  have : i < n := List.mem_range.mp hi
  simp [this]

/-- **C02_traffic_no_trap.** No `ueList[i]` of the traffic-mode branch is beyond the list (the establishment loop ranges over
    `pduList`, to which the registration loop appends whenever it appends to `ueList`). -/
theorem C02_traffic_no_trap (n : Nat) : ∀ c ∈ calls n [] Gen.Traffic.traffic, c.2 ≠ none := by
  rw [C02_traffic_calls]
  intro c hc
  simp only [List.mem_cons, List.mem_append, List.mem_map] at hc
  rcases hc with rfl | ⟨_, _, rfl⟩ | ⟨_, _, rfl⟩ | ⟨_, _, rfl⟩ | ⟨_, _, rfl⟩ <;> simp

/-- the test-mode counts that traffic mode corresponds to -/
def trafficCounts (n : Nat) : Counts := { reg := n, pdu := n, svc := 0, rel := n, dereg := n }

/-- the procedure calls of the test-mode script, in order, as extracted on this run (table fact): NG Setup, then the five loops -/
theorem test_mode_skeleton :
    (Gen.Script.main.filterMap fun it => match it with
      | .stmt (.call p _) => some (p, none)
      | .loop b body => some ((body.filterMap fun s => match s with | .call p _ => some p | _ => none).headD "", some b)
      | _ => none) =
    [("ManageNGSetup", none),
     ("RegisterUE", some (.cfg "Test_ue_registation")),
     ("EstablishPDU", some (.min (.cfg "Test_ue_registation") (.cfg "Test_ue_pdu_establishment"))),
     ("ServiceRequest", some (.min (.min (.cfg "Test_ue_registation") (.cfg "Test_ue_pdu_establishment")) (.cfg "Test_ue_service"))),
     ("ReleasePDU", some (.min (.min (.cfg "Test_ue_registation") (.cfg "Test_ue_pdu_establishment")) (.cfg "Test_ue_pdu_release"))),
     ("DeregisterUE", some (.min (.cfg "Test_ue_registation") (.cfg "Test_ue_deregistration")))] := by decide +kernel

/-- **C02_traffic_is_test_mode.** For every population size N the traffic-mode branch makes exactly the procedure calls, for
    the same UEs in the same order, that the test-mode branch makes for the counts (N, N, 0, N, N) — the branch that
    `Model.Emulator.testMode` mirrors, that `C01_accepted_n` / the C02 theorems are about and that the correspondence runs execute.
    (Between the establishment loop and the release loop traffic mode waits for a signal; test mode does not.) -/
theorem C02_traffic_is_test_mode (n : Nat) :
    calls n [] Gen.Traffic.traffic = testCalls (trafficCounts n) Gen.Script.main := by
  rw [C02_traffic_calls]
  have hmin : ∀ a : Int, goMin a a = a := by intro a; simp [goMin]
  have h0 : goMin (n : Int) 0 = 0 := by simp only [goMin]; split <;> omega
  simp [testCalls, Gen.Script.main, CountExpr.eval, Counts.get, trafficCounts, hmin, h0]

/-- **C02_traffic_dataplane.** Each session is handed to the data plane as (result 0, result 1, result 2) of `EstablishPDU` —
    the UE address, the TEID and the UPF address in the parameter order of `xdpgtp.AddClient(clientIP, teid, upfIP)` —, the UPF is
    registered under result 2 and the client looked up under result 0: the triple that `C02_reports` proves equal to what the
    network assigned. -/
theorem C02_traffic_dataplane :
    ∀ it ∈ Gen.Traffic.traffic, ∀ p over ue dp, it = .procLoop p over ue dp →
      (p = "EstablishPDU" ∧ dp = [("UpfIsRegistered", [2]), ("AddUpf", [2]), ("ClientIsRegistered", [0]), ("AddClient", [0, 1, 2])]) ∨
      (p ≠ "EstablishPDU" ∧ dp = []) := by
  rw [C02_traffic_structure]
  intro it hit p over ue dp h
  simp only [expected, List.mem_cons, List.mem_nil_iff, or_false] at hit
  rcases hit with rfl | rfl | rfl | rfl | rfl | rfl | rfl | rfl | rfl | rfl | rfl <;> first
    | (injection h with h1 h2 h3 h4; subst h1 h4; simp)
    | (exact absurd h (by simp))

end Stgutg.Props.C02Traffic
