/-
  C15 — the Milenage library implements TS 35.206 and accepts exactly valid AUTNs.
  Property theorems only; helper lemmas live in Stgutg/Proofs/Milenage.lean.
  Everything is stated for ALL inputs of the standard sizes and for EVERY block cipher `P.aes`
  (`BlockCipher`: 16-octet key and block to 16-octet block).
-/
import Stgutg.Proofs.Milenage
import Stgutg.Spec.MilenageUsim
namespace Stgutg.Props.C15
open Stgutg Stgutg.Spec.Ts35206 Stgutg.Model.Milenage Stgutg.Proofs.Milenage
open Stgutg.Proofs.Hex (xorBytes_length xorBytes_cancel)

theorem f1_eq_spec (P : Prims) (hE : BlockCipher P.aes) (opc k rand sqn amf : Bytes)
    (hopc : opc.length = 16) (hk : k.length = 16) (hrand : rand.length = 16)
    (hsqn : sqn.length = 6) (hamf : amf.length = 2) :
    milenageF1 P opc k rand sqn amf
      = .ok (f1 P.aes k opc rand sqn amf, f1star P.aes k opc rand sqn amf) := by
  rw [milenageF1_spec P hE opc k rand sqn amf hopc hk hrand hsqn (by omega), take_full hamf]

theorem f2345_eq_spec (P : Prims) (hE : BlockCipher P.aes) (opc k rand : Bytes)
    (hopc : opc.length = 16) (hk : k.length = 16) (hrand : rand.length = 16) (wRes wCk wIk wAk wAkstar : Bool) :
    milenageF2345 P opc k rand wRes wCk wIk wAk wAkstar
      = .ok { res := opt wRes (f2 P.aes k opc rand), ck := opt wCk (f3 P.aes k opc rand),
              ik := opt wIk (f4 P.aes k opc rand), ak := opt wAk (f5 P.aes k opc rand),
              akstar := opt wAkstar (f5star P.aes k opc rand) } := by
  have htemp : (P.aes k (xorBytes rand opc)).length = 16 := temp_length hE hk hopc hrand
  have hto : (xorBytes (P.aes k (xorBytes rand opc)) opc).length = 16 := tempOpc_length hE hk hopc hrand
  simp only [milenageF2345, newCipher16 hk, hrand, hopc, take_full hopc,
    xor16_eq hrand hopc, xor16_eq htemp hopc, fN_block0 hto, fN_block hto (s := 4) (by decide), fN_block hto (s := 8) (by decide),
    fN_block hto (s := 12) (by decide)]
  simp [f2, f3, f4, f5, f5star, out2, out3, out4, out5, outN, temp, r2, r3, r4, r5, c2_eq, c3_eq, c4_eq, c5_eq,
    xorBytes_take]

theorem opc_eq_spec (P : Prims) (k op : Bytes) (hk : k.length = 16) (hop : op.length = 16) :
    GenerateOPC P k op = .ok (opc P.aes k op) := by
  simp [GenerateOPC, newCipher16 hk, hop, take_full hop, opc, xorBytes_comm]

theorem check_eq_spec (P : Prims) (hE : BlockCipher P.aes) (opc k sqn rand autn : Bytes) (resLen0 : Nat)
    (hopc : opc.length = 16) (hk : k.length = 16) (hrand : rand.length = 16)
    (hsqn : sqn.length = 6) (hautn : autn.length = 16) :
    Milenage_check P opc k sqn rand autn resLen0 = .ok (checkSpec P.aes opc k sqn rand autn) := by
  have h5 := f5_length hE hk hopc hrand
  have hrx : (xorBytes (autn.take 6) (f5 P.aes k opc rand)).length = 6 := by
    rw [xorBytes_length, h5]; simp; omega
  have ha6 : ¬ autn.length < 6 := by omega
  have ha8 : ¬ autn.length < 8 := by omega
  have hs6 : ¬ sqn.length < 6 := by omega
  unfold Milenage_check
  simp only [f2345_eq_spec P hE opc k rand hopc hk hrand, opt, if_true, Option.getD_some, ha6, if_false]
  rw [os_memcmp_eq hrx hsqn]
  simp only [lexCmp_le_zero (hrx.trans hsqn.symm)]
  unfold checkSpec sqnFresh autnSqn
  by_cases hf : beNat (xorBytes (autn.take 6) (f5 P.aes k opc rand)) ≤ beNat sqn
  · have hnf : ¬ beNat (xorBytes (autn.take 6) (f5 P.aes k opc rand)) > beNat sqn := by omega
    simp only [hf, hnf, if_true, not_false_eq_true, if_false, hs6]
    rw [milenageF1_spec P hE opc k rand sqn [0, 0] hopc hk hrand hsqn (by simp)]
    simp [auts, take_full hsqn]
  · have hnf : beNat (xorBytes (autn.take 6) (f5 P.aes k opc rand)) > beNat sqn := by omega
    simp only [hf, hnf, if_false, not_true_eq_false, ha8]
    have hamf : 2 ≤ (autn.drop 6).length := by simp; omega
    rw [milenageF1_spec P hE opc k rand _ (autn.drop 6) hopc hk hrand hrx hamf]
    have hamf2 : ((autn.drop 6).take 2).length = 2 := by simp; omega
    have hmac := f1_length hE hk hopc hrand hrx hamf2
    have hd8 : (autn.drop 8).length = 8 := by simp; omega
    simp only []
    rw [os_memcmp_eq hmac hd8]
    simp only [ne_eq, lexCmp_eq_zero (hmac.trans hd8.symm), macOk, autnSqn]
    -- the code compares MAC-A with `autn[8:]`, `macOk` the other way round
    by_cases hm : f1 P.aes k opc rand (xorBytes (autn.take 6) (f5 P.aes k opc rand)) ((autn.drop 6).take 2) = autn.drop 8 <;>
      simp [hm, eq_comm (a := autn.drop 8)]

theorem generate_eq_spec (P : Prims) (hE : BlockCipher P.aes) (opc amf k sqn rand : Bytes) (resLen : Nat)
    (hopc : opc.length = 16) (hk : k.length = 16) (hrand : rand.length = 16)
    (hsqn : sqn.length = 6) (hamf : amf.length = 2) (hres : 8 ≤ resLen) :
    MilenageGenerate P opc amf k sqn rand resLen
      = .ok ⟨8, autn P.aes k opc rand sqn amf, f4 P.aes k opc rand, f3 P.aes k opc rand,
             f5 P.aes k opc rand, f2 P.aes k opc rand⟩ := by
  have h8 : ¬ resLen < 8 := by omega
  unfold MilenageGenerate
  simp only [h8, if_false, f1_eq_spec P hE opc k rand sqn amf hopc hk hrand hsqn hamf,
    f2345_eq_spec P hE opc k rand hopc hk hrand, opt, if_true, Option.getD_some, take_full hsqn, take_full hamf]
  rfl

theorem auts_eq_spec (P : Prims) (hE : BlockCipher P.aes) (opc k rand auts : Bytes)
    (hopc : opc.length = 16) (hk : k.length = 16) (hrand : rand.length = 16) (hauts : auts.length = 14) :
    Milenage_auts P opc k rand auts = .ok (autsSpec P.aes opc k rand auts) := by
  have h5 := f5star_length hE hk hopc hrand
  have hsq : (xorBytes (auts.take 6) (f5star P.aes k opc rand)).length = 6 := by
    rw [xorBytes_length, h5]; simp; omega
  have ha6 : ¬ auts.length < 6 := by omega
  have ha14 : ¬ auts.length < 14 := by omega
  have hd : (auts.drop 6).take 8 = auts.drop 6 := take_full (by simp; omega)
  unfold Milenage_auts
  simp only [f2345_eq_spec P hE opc k rand hopc hk hrand, opt, if_true, Option.getD_some, ha6, if_false]
  rw [milenageF1_spec P hE opc k rand _ [0, 0] hopc hk hrand hsq (by simp)]
  simp only [ha14, if_false, hd, autsSpec, autsOk, autsSqn, List.take]
  by_cases hm : f1star P.aes k opc rand (xorBytes (auts.take 6) (f5star P.aes k opc rand)) [0, 0] = auts.drop 6 <;>
    simp [hm, eq_comm (a := auts.drop 6)]

/-! ### Corollaries: accept-iff-valid, generate/check inverse, resynchronisation -/

/-- `Milenage_check` returns 0 if and only if MAC-A is exactly f1 over the concealed SQN and the AMF
    and that SQN is greater than the UE's (48-bit big-endian integers). -/
theorem check_iff (P : Prims) (hE : BlockCipher P.aes) (opc k sqn rand autn : Bytes) (resLen0 : Nat)
    (hopc : opc.length = 16) (hk : k.length = 16) (hrand : rand.length = 16)
    (hsqn : sqn.length = 6) (hautn : autn.length = 16) :
    (∃ o, Milenage_check P opc k sqn rand autn resLen0 = .ok o ∧ o.ret = 0)
      ↔ (macOk P.aes k opc rand autn ∧ sqnFresh P.aes k opc rand autn sqn) := by
  rw [check_eq_spec P hE opc k sqn rand autn resLen0 hopc hk hrand hsqn hautn]
  unfold checkSpec
  by_cases hf : sqnFresh P.aes k opc rand autn sqn <;> by_cases hm : macOk P.aes k opc rand autn <;>
    simp [hf, hm]

/-- on acceptance the outputs are RES = f2, CK = f3, IK = f4, *res_len = 8 and AUTS is untouched -/
theorem check_accept (P : Prims) (hE : BlockCipher P.aes) (opc k sqn rand autn : Bytes) (resLen0 : Nat)
    (hopc : opc.length = 16) (hk : k.length = 16) (hrand : rand.length = 16)
    (hsqn : sqn.length = 6) (hautn : autn.length = 16)
    (hm : macOk P.aes k opc rand autn) (hf : sqnFresh P.aes k opc rand autn sqn) :
    Milenage_check P opc k sqn rand autn resLen0
      = .ok ⟨0, 8, f2 P.aes k opc rand, f3 P.aes k opc rand, f4 P.aes k opc rand, zeros 14⟩ := by
  rw [check_eq_spec P hE opc k sqn rand autn resLen0 hopc hk hrand hsqn hautn]
  simp [checkSpec, hf, hm]

/-- an accepted AUTN is exactly the AUTN that generation produces for the SQN it conceals and its AMF:
    no other 128-bit string is accepted -/
theorem check_accepts_only_generated (P : Prims) (hE : BlockCipher P.aes) (opc k sqn rand autn : Bytes)
    (resLen0 : Nat) (hopc : opc.length = 16) (hk : k.length = 16) (hrand : rand.length = 16)
    (hsqn : sqn.length = 6) (hautn : autn.length = 16) (o : CheckOut)
    (h : Milenage_check P opc k sqn rand autn resLen0 = .ok o) (h0 : o.ret = 0) :
    autn = Spec.Ts35206.autn P.aes k opc rand (autnSqn P.aes k opc rand autn) ((autn.drop 6).take 2) := by
  have hiff := (check_iff P hE opc k sqn rand autn resLen0 hopc hk hrand hsqn hautn).mp ⟨o, h, h0⟩
  have hm : autn.drop 8 = _ := hiff.1
  have h5 := f5_length hE hk hopc hrand
  have hc : xorBytes (xorBytes (autn.take 6) (f5 P.aes k opc rand)) (f5 P.aes k opc rand) = autn.take 6 :=
    xorBytes_cancel (by rw [h5]; simp; omega)
  unfold Spec.Ts35206.autn
  rw [← hm]
  unfold autnSqn
  rw [hc]
  have : (autn.drop 6).take 2 ++ autn.drop 8 = autn.drop 6 := by
    have := List.take_append_drop 2 (autn.drop 6)
    rw [List.drop_drop] at this
    exact this
  rw [List.append_assoc, this, List.take_append_drop]

section inverse
variable (P : Prims) (hE : BlockCipher P.aes) (opc k rand sqnNet sqnUE amf : Bytes)
  (hopc : opc.length = 16) (hk : k.length = 16) (hrand : rand.length = 16)
  (hnet : sqnNet.length = 6) (hue : sqnUE.length = 6) (hamf : amf.length = 2)
include hE hopc hk hrand hnet hamf
include hue

/-- AUTN generation and checking are inverse: the AUTN generated for a network SQN greater than the UE's is
    accepted and the UE obtains the same RES / CK / IK that generation produced -/
theorem generate_check_inverse (resLen resLen0 : Nat) (hres : 8 ≤ resLen) (hgt : beNat sqnNet > beNat sqnUE) :
    ∃ g, MilenageGenerate P opc amf k sqnNet rand resLen = .ok g ∧
      Milenage_check P opc k sqnUE rand g.autn resLen0 = .ok ⟨0, 8, g.res, g.ck, g.ik, zeros 14⟩ := by
  refine ⟨_, generate_eq_spec P hE opc amf k sqnNet rand resLen hopc hk hrand hnet hamf hres, ?_⟩
  apply check_accept P hE opc k sqnUE rand _ resLen0 hopc hk hrand hue
    (autn_length hE hk hopc hrand hnet hamf)
    (macOk_autn hE hk hopc hrand hnet hamf)
  unfold sqnFresh
  rw [autnSqn_autn hE hk hopc hrand hnet]
  exact hgt

/-- …and when the network SQN is not greater, the generated AUTN is answered by resynchronisation (-2) -/
theorem generate_check_stale (resLen resLen0 : Nat) (hres : 8 ≤ resLen) (hle : beNat sqnNet ≤ beNat sqnUE) :
    ∃ g o, MilenageGenerate P opc amf k sqnNet rand resLen = .ok g ∧
      Milenage_check P opc k sqnUE rand g.autn resLen0 = .ok o ∧ o.ret = -2 := by
  refine ⟨_, _, generate_eq_spec P hE opc amf k sqnNet rand resLen hopc hk hrand hnet hamf hres,
    check_eq_spec P hE opc k sqnUE rand _ resLen0 hopc hk hrand hue
      (autn_length hE hk hopc hrand hnet hamf), ?_⟩
  have : ¬ sqnFresh P.aes k opc rand (autn P.aes k opc rand sqnNet amf) sqnUE := by
    unfold sqnFresh
    rw [autnSqn_autn hE hk hopc hrand hnet]; omega
  simp [checkSpec, this]
end inverse

/-- resynchronisation: whenever the received SQN is not greater than the UE's, `Milenage_check` returns -2 and
    the AUTS it produced is accepted by the network-side `Milenage_auts`, which recovers exactly the UE's SQN -/
theorem resync (P : Prims) (hE : BlockCipher P.aes) (opc k sqn rand autn : Bytes) (resLen0 : Nat)
    (hopc : opc.length = 16) (hk : k.length = 16) (hrand : rand.length = 16)
    (hsqn : sqn.length = 6) (hautn : autn.length = 16)
    (hnf : ¬ sqnFresh P.aes k opc rand autn sqn) :
    ∃ o, Milenage_check P opc k sqn rand autn resLen0 = .ok o ∧ o.ret = -2 ∧
      o.auts = auts P.aes k opc rand sqn ∧
      Milenage_auts P opc k rand o.auts = .ok (0, sqn) := by
  have h5 := f5star_length hE hk hopc hrand
  have h1 := f1star_length hE hk hopc hrand hsqn (show ([0, 0] : Bytes).length = 2 from rfl)
  have hx : (xorBytes sqn (f5star P.aes k opc rand)).length = 6 := by rw [xorBytes_length]; omega
  have hal : (auts P.aes k opc rand sqn).length = 14 := by simp [auts, hx, h1]
  have hsq : autsSqn P.aes k opc rand (auts P.aes k opc rand sqn) = sqn := by
    unfold autsSqn auts
    rw [List.take_left' hx]
    exact xorBytes_cancel (by omega)
  have hok : autsOk P.aes k opc rand (auts P.aes k opc rand sqn) := by
    unfold autsOk
    rw [hsq]
    unfold auts
    rw [List.drop_left' hx]
  refine ⟨_, check_eq_spec P hE opc k sqn rand autn resLen0 hopc hk hrand hsqn hautn, ?_, ?_, ?_⟩
  · simp [checkSpec, hnf]
  · simp [checkSpec, hnf]
  · simp only [checkSpec, hnf, not_false_eq_true, if_true]
    rw [auts_eq_spec P hE opc k rand _ hopc hk hrand hal]
    simp [autsSpec, hok, hsq]

/-- the network accepts an AUTS if and only if its MAC-S is exactly f1* over the concealed SQN_MS and AMF = 0 -/
theorem auts_iff (P : Prims) (hE : BlockCipher P.aes) (opc k rand auts : Bytes)
    (hopc : opc.length = 16) (hk : k.length = 16) (hrand : rand.length = 16) (hauts : auts.length = 14) :
    (∃ s, Milenage_auts P opc k rand auts = .ok (0, s)) ↔ autsOk P.aes k opc rand auts := by
  rw [auts_eq_spec P hE opc k rand auts hopc hk hrand hauts]
  by_cases h : autsOk P.aes k opc rand auts <;> simp [autsSpec, h]

/-- the hypotheses are satisfiable: e.g. `E k x = k ⊻ x` maps 128-bit blocks to 128-bit blocks, and with it a
    network SQN of 1 against a UE SQN of 0 is accepted -/
example : ∃ P : Prims, BlockCipher P.aes :=
  ⟨{ aes := xorBytes, ctr := fun _ _ m => m, cmac := fun _ m => m, hmac := fun _ m => m },
   fun k x hk hx => by rw [xorBytes_length]; omega⟩

example : ∃ (P : Prims) (opc k sqn rand autn : Bytes) (o : CheckOut),
    BlockCipher P.aes ∧ Milenage_check P opc k sqn rand autn 0 = .ok o ∧ o.ret = 0 := by
  let P : Prims := { aes := xorBytes, ctr := fun _ _ m => m, cmac := fun _ m => m, hmac := fun _ m => m }
  have hE : BlockCipher P.aes := fun k x hk hx => by rw [xorBytes_length]; omega
  obtain ⟨g, _, hc⟩ := generate_check_inverse P hE (zeros 16) (zeros 16) (zeros 16) [0, 0, 0, 0, 0, 1] (zeros 6) [0x80, 0]
    rfl rfl rfl rfl rfl rfl 8 0 (by omega) (by decide)
  exact ⟨P, _, _, _, _, _, _, hE, hc, rfl⟩

end Stgutg.Props.C15
