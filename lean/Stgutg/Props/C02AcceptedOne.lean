/-
  C02 — `C02_accepted_statement` for one UE and every count 1, THROUGH `emulate`, with the downlink side SPECIFIED
  (Spec/AmfDownlink.lean: registration as in C01, then PDU SESSION RESOURCE SETUP REQUEST, INITIAL CONTEXT SETUP REQUEST with the
  Service Accept, DOWNLINK NAS TRANSPORT with the Deregistration Accept, UE CONTEXT RELEASE COMMAND): the case N = 1 of
  `accepted_n_spec_len` (Props/C02AcceptedN.lean), whose count of uplink messages is 15 here.
-/
import Stgutg.Props.C02AcceptedN

namespace Stgutg.Props.C02
open Stgutg Stgutg.Model.Emulator Stgutg.Proofs.Emulator Stgutg.Builders
open Stgutg.Model.NasProtect Stgutg.Proofs.NasProtect Stgutg.Spec.NasSecurity
open Stgutg.Proofs.BuildersRoles Stgutg.Proofs.UeIdentity Stgutg.Proofs.EmulatorRun Stgutg.Proofs.EmulatorSubscriber
open Stgutg.Proofs.EmulatorLife Stgutg.Props.C01 Stgutg.Proofs.KeyDerivation Stgutg.Proofs.EmulatorDownlink
open Stgutg.Proofs.EmulatorDlLife Stgutg.Proofs.EmulatorLifeReenc Stgutg.Proofs.EmulatorLifeArgs
open Stgutg.Model.KeyDerivation
open Stgutg.Spec.Ts35206 (BlockCipher)

/-- **C02_accepted_one.** The statement of C02 for ONE UE with `Test_ue_registation` = `Test_ue_pdu_establishment` =
    `Test_ue_service` = `Test_ue_pdu_release` = `Test_ue_deregistration` = 1, with the downlink side SPECIFIED: for every
    well-formed configuration (as in `C01_accepted`; S-NSSAI SD of three octets; a gNB GTP address the builders accept) and every
    choice of a conformant AMF/SMF (RAND, SQN, AMF field, ngKSI, AMF-UE-NGAP-ID below 2^40, an IPv4 UE address, a TEID below 2^32,
    an IPv4 UPF address), when the AMF sends the five messages of `Spec.AmfDl.dl` and then
      `dlEstablish` — PDU SESSION RESOURCE SETUP REQUEST carrying DL NAS TRANSPORT [PDU SESSION ESTABLISHMENT ACCEPT with the
                      assigned address] (DL NAS COUNT 3) and the transfer with the assigned tunnel, for the PSI / PTI of the request,
      `dlService`   — INITIAL CONTEXT SETUP REQUEST [SERVICE ACCEPT] (DL NAS COUNT 4; K_gNB of UL NAS COUNT 3),
      `dlDeregister`— DOWNLINK NAS TRANSPORT [DEREGISTRATION ACCEPT] (DL NAS COUNT 5) and UE CONTEXT RELEASE COMMAND
    — all built with the SPECIFICATION encoders only — each within the 2048-octet receive buffer, the emulator completes, writes
    fifteen uplink messages, reports one triple, and the reference AMF/SMF ACCEPTS (C02 clauses, numbers of procedures,
    reported = assigned):  judge true (emulate cfg dls).uls (some reports) = accept. -/
theorem C02_accepted_one (P : Prims) (hP : PrimsOk P) (hE : BlockCipher P.aes) (hH : MacLen P.hmac) (cfg : Cfg) (scfg : Spec.Amf.Cfg)
    (chs : List Spec.Amf.Choice) (E : Model.Convert.Ext)
    -- the configuration
    (hreg : cfg.reg = 1) (hpdu : cfg.pdu = 1) (hsvc : cfg.svc = 1) (hrel : cfg.rel = 1) (hdereg : cfg.dereg = 1)
    (hsreg : scfg.reg = 1) (hspdu : scfg.pdu = 1) (hssvc : scfg.svc = 1) (hsrel : scfg.rel = 1) (hsdereg : scfg.dereg = 1)
    (hhist : scfg.hist = false)
    (himsi : scfg.imsi = cfg.imsi) (hd : DecimalImsi cfg.imsi) (h5 : 5 ≤ cfg.imsi.length) (h15 : cfg.imsi.length ≤ 15)
    {w : Nat} (hw : w = 2 ∨ w = 3) (hmncl : cfg.mnc.length = w) (hmcc3 : cfg.mcc.length = 3)
    (hmccB : scfg.mcc = cfg.mcc) (hmncB : scfg.mnc = cfg.mnc)
    (hmcc : scfg.mcc = cfg.imsi.take 3) (hmnc : scfg.mnc = (cfg.imsi.drop 3).take w) (hlen : 3 + w < cfg.imsi.length)
    (hfit : MsinFits cfg.imsi (3 + w) 1)
    (h22 : 22 ≤ cfg.bitlength) (h32 : cfg.bitlength ≤ 32) (hg : cfg.gnbId.length = (cfg.bitlength + 7) / 8)
    (hc : Canonical cfg.gnbId cfg.bitlength) (hname : 1 ≤ cfg.name.length)
    (m : Bytes) (hplmn : Model.Suci.ngSetupPlmn cfg.imsi cfg.mnc.length = .ok m) (hm : m.length = 3)
    (hcfg : Spec.Amf.plmnOf scfg = some m)
    (k opc : Bytes) (hk : hexDecode cfg.k = some k) (hk' : Spec.Amf.hexText scfg.k = some k) (hk16 : k.length = 16)
    (hopcne : cfg.opc ≠ []) (hopc : hexDecode cfg.opc = some opc) (hopc' : Spec.Amf.opcOf P scfg = some opc)
    (hopc16 : opc.length = 16) (habba : 2 ≤ scfg.abba.length ∧ scfg.abba.length < 256)
    (s1 s2 s3 : UInt8) (hsd : E.hexDecode cfg.sd = ([s1, s2, s3], false)) (hgtp : cls E .ip (.str cfg.gnbGtp) = 2)
    -- the AMF's choice
    (ch : Spec.Amf.Choice) (hch : chs[0]? = some ch) (hamf : ch.amfUeNgapId < 2 ^ 40)
    (hrand : ch.rand.length = 16) (hsqn : ch.sqn.length = 6) (hamfF : ch.amf.length = 2)
    (hueIp : ch.ueIp.length = 4) (hupfIp : ch.upfIp.length = 4) (hteid : ch.teid < 2 ^ 32)
    -- the downlink messages are those of the specification
    (cap : Bytes) (dls : List Bytes) (dE dS dD1 dD2 : Bytes)
    (hdl : Spec.AmfDl.dl P scfg 0 ch (createUE cfg 0).ctx.ranUeNgapId cap = some dls)
    (hdE : Spec.AmfDl.dlEstablish P scfg 0 ch (createUE cfg 0).ctx.ranUeNgapId
      (pduIdOf ((Model.UeIdentity.decVal cfg.imsi : Nat) : Int)).toNat 1 3 = some dE)
    (hdS : Spec.AmfDl.dlService P scfg 0 ch (createUE cfg 0).ctx.ranUeNgapId
      (pduIdOf ((Model.UeIdentity.decVal cfg.imsi : Nat) : Int)).toNat 3 4 = some dS)
    (hdD : Spec.AmfDl.dlDeregister P scfg 0 ch (createUE cfg 0).ctx.ranUeNgapId 5 = some (dD1, dD2))
    (hbuf : ∀ d ∈ dls ++ [dE, dS, dD1, dD2], d.length ≤ 2048) :
    let t := emulate P E cfg (dls ++ [dE, dS, dD1, dD2])
    t.outcome = .completed ∧ t.uls.length = 15 ∧
    Spec.Amf.judge P true scfg chs t.uls (some (t.reports.map fun r => { ip := r.ip, teid := r.teid, upf := r.upf }))
      (t.outcome == .completed) = .accept := by
  obtain ⟨plmn, _, _, _, _, _, _, d1, d2, d3, d4, d5, e1, _, _, e4, _, _, _, _, _, rfl⟩ := dl_some P scfg 0 ch _ cap dls hdl
  cases Option.some.inj (e1.symm.trans hcfg)
  have one : ∀ {p : Nat → Prop}, p 0 → ∀ j, j < 1 → p j := fun h j hj => (by omega : 0 = j) ▸ h
  have hb : ∀ d ∈ [d1, d2, d3, d4, d5, dE, dS, dD1, dD2], d.length ≤ 2048 := hbuf
  simp only [List.mem_cons, List.not_mem_nil, or_false, forall_eq_or_imp, forall_eq] at hb
  obtain ⟨hb1, hb2, hb3, hb4, hb5, hbE, hbS, hbD1, hbD2⟩ := hb
  -- the downlink of the statement is `lifeDls` for one UE and every count 1, by unfolding
  exact accepted_n_spec_len P hP hE hH cfg scfg chs E 1 (by decide) hreg
    ⟨by rw [hsreg, hreg], by rw [hspdu, hpdu], by rw [hssvc, hsvc], by rw [hsrel, hrel], by rw [hsdereg, hdereg], hhist⟩
    himsi hd h5 h15 hw hmncl hmcc3 hmccB hmncB hmcc hmnc hlen hfit h22 h32 hg hc hname m hplmn hm hcfg k opc hk hk' hk16 hopcne hopc
    hopc' hopc16 habba s1 s2 s3 hsd hgtp (fun _ => ch) (one hch) (fun _ _ => ⟨hamf, hrand, hsqn, hamfF, hueIp, hupfIp, hteid⟩)
    1 1 1 1 (by rw [hpdu]; rfl) (by rw [hsvc]; rfl) (by rw [hrel]; rfl) (by rw [hdereg]; rfl)
    (fun _ => cap) d1 (fun _ => (d2, d3, d4, d5)) (fun _ => dE) (fun _ => dS) (fun _ => (dD1, dD2)) e4 hb1
    (one hdl) (fun _ _ => ⟨hb2, hb3, hb4, hb5⟩) (one ⟨hdE, hbE⟩) (one ⟨hdS, hbS⟩) (one ⟨hdD, hbD1, hbD2⟩)

end Stgutg.Props.C02
