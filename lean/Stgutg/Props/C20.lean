/-
  C20 — codecs and security functions are safe to use concurrently for different UEs.
  The lemmas are in Stgutg/Proofs/{Interleave,SnowRace}.lean.

  Model: Stgutg.Model.Interleave — threads are lists of atomic steps with declared read / write sets over the
  package-level variables of the repo's packages; a schedule is any merge of the threads' step lists
  (`Interleaving`); caller-owned memory (the goroutine's own UE context and messages) is thread-local state.
  Table: Stgutg.Gen.Footprint, regenerated from the SSA form of /repo on every run (`gen footprint`).

  What is proved: for any number of threads and steps, if every step stays inside its declared footprint and
  steps of different threads have disjoint footprints, then EVERY schedule leaves every thread with the result
  of the one-call-at-a-time run (and of running alone), leaves the same shared store, and contains no
  conflicting access pair; the regenerated footprints of the entry points are pairwise disjoint; hence the
  conclusion for every system of goroutines that call these entry points, however a call decomposes into
  atomic steps.  What is assumed (hypothesis `Respects`, trusted): the footprints over-approximate what the
  compiled code touches — that is the translator's job; the Go memory model, the race detector and third-party
  packages are outside the model and tied by the `conc` runs under `-race`.
-/
import Stgutg.Proofs.Interleave
import Stgutg.Proofs.SnowRace
import Stgutg.Model.FootprintTable

namespace Stgutg.Props.C20
open Stgutg Stgutg.Model.Interleave Stgutg.Model.FootprintTable

variable {Val Local : Type}

/-- hypothesis of the theorems: steps of different threads have disjoint footprints,
    W₁ ∩ (R₂ ∪ W₂) = ∅ (the quantification covers both orders) -/
def Disjoint (ts : List (List (Step Val Local))) : Prop :=
  ∀ (i j : Nat) (hi : i < ts.length) (hj : j < ts.length), i ≠ j →
    ∀ s, s ∈ ts[i] → ∀ s', s' ∈ ts[j] → ∀ l, l ∈ s.writes → l ∉ s'.reads ∧ l ∉ s'.writes

private theorem poolDisjoint_of (ts : List (List (Step Val Local))) (hD : Disjoint ts) : PoolDisjoint (pool ts) := by
  intro i j hij s hs s' hs'
  have get : ∀ (k : Nat) (x : Step Val Local), x ∈ pool ts k → ∃ hk : k < ts.length, x ∈ ts[k] := by
    intro k x hx
    unfold pool at hx
    by_cases hk : k < ts.length
    · exact ⟨hk, by simpa [List.getElem?_eq_getElem hk] using hx⟩
    · simp [List.getElem?_eq_none (Nat.le_of_not_lt hk)] at hx
  obtain ⟨hi, hsi⟩ := get i s hs
  obtain ⟨hj, hsj⟩ := get j s' hs'
  exact hD i j hi hj hij s hsi s' hsj

/-- the one-call-at-a-time run (thread 0 to completion, then thread 1, …) is itself one of the schedules -/
theorem sequential_is_schedule (ts : List (List (Step Val Local))) : Interleaving (pool ts) (sequential ts) :=
  Proofs.Interleave.sequential_interleaving ts

/-- NONINTERFERENCE, full strength: any number of threads, any number of steps, EVERY schedule `tr` (any merge
    of the threads' step lists).  If every step respects its declared footprint and steps of different threads
    have disjoint footprints, then the thread-local results and the shared store after `tr` are those of the
    sequential run, and `tr` contains no conflicting access pair (no race). -/
theorem noninterference (ts : List (List (Step Val Local)))
    (hR : ∀ t, t ∈ ts → ∀ s, s ∈ t → Respects s) (hD : Disjoint ts)
    (c : Config Val Local) (tr : Trace Val Local) (h : Interleaving (pool ts) tr) :
    (exec c tr).locals = (exec c (sequential ts)).locals ∧
    (exec c tr).store = (exec c (sequential ts)).store ∧
    RaceFree tr := by
  exact Proofs.Interleave.pool_noninterference (Proofs.Interleave.poolRespects_pool ts hR) (poolDisjoint_of ts hD) c h

/-- … and each thread's result is what it computes when it runs ALONE from the initial store: the other
    goroutines are invisible to it, under every schedule. -/
theorem thread_alone (ts : List (List (Step Val Local)))
    (hR : ∀ t, t ∈ ts → ∀ s, s ∈ t → Respects s) (hD : Disjoint ts)
    (c : Config Val Local) (tr : Trace Val Local) (h : Interleaving (pool ts) tr) (i : Nat) :
    (exec c tr).locals i = (solo c.store (c.locals i) (pool ts i)).2 :=
  (Proofs.Interleave.exec_eq_solo h (Proofs.Interleave.poolRespects_pool ts hR) (poolDisjoint_of ts hD) c).1 i

/-- TABLE FACT (regenerated from the source on every run): the transitive footprints of the entry points —
    ngap.Encoder/Decoder, aper.Marshal*/Unmarshal*, PlainNasEncode/Decode, NASEncode/NASDecode,
    EncodeNasPduWithSecurity, GetNasPdu, NASEncrypt, NASMacCalculate, DeriveRESstarAndSetKey, GetKDFValue, the
    Milenage functions — over the package-level variables of the repo's packages are pairwise interference
    free, a pair of calls of the same entry point included (shared referents counted as written). -/
theorem C20_disjoint : footprintsDisjoint coreFPs = true := by decide +kernel

/-- the table is not vacuous: it lists the entry points, and they do read package-level variables
    (tables, logger entries, reflect type descriptors) -/
theorem C20_table_nontrivial :
    Gen.Footprint.footprint.length ≥ 20 ∧ (coreFPs.any (fun e => !e.reads.isEmpty)) = true := by decide +kernel

/-- INSTANTIATION for the entry points.  Any number of goroutines, each performing any sequence of calls of
    the entry points; each call decomposed in ANY way into atomic steps that stay within the entry point's
    regenerated footprint (`Call.Within`) and respect their own declared footprints.  Then under every
    interleaving of the atomic steps all results and the shared store equal those of the one-call-at-a-time
    run, and no conflicting access pair occurs. -/
theorem entry_points_noninterference (threads : List (List (Call Val Local)))
    (hW : ∀ t, t ∈ threads → ∀ c, c ∈ t → c.Within coreFPs)
    (hR : ∀ t, t ∈ threads → ∀ c, c ∈ t → ∀ s, s ∈ c.steps → Respects s)
    (c : Config Val Local) (tr : Trace Val Local) (h : Interleaving (pool (threads.map callSteps)) tr) :
    (exec c tr).locals = (exec c (sequential (threads.map callSteps))).locals ∧
    (exec c tr).store = (exec c (sequential (threads.map callSteps))).store ∧
    RaceFree tr := by
  refine Proofs.Interleave.pool_noninterference (Proofs.Interleave.poolRespects_pool _ fun t ht s hst => ?_)
    (Proofs.Interleave.poolDisjoint_of_calls C20_disjoint threads hW) c h
  obtain ⟨cs, hcs, rfl⟩ := List.mem_map.mp ht
  obtain ⟨c', hc', hsc⟩ := Proofs.Interleave.mem_callSteps.mp hst
  exact hR cs hcs c' hc' s hsc

/-! ### the message builders (tglib.Get…, ngapTestpacket.Build…, nasTestpacket.Get…; `Gen.Footprint.builders` lists
  stgutg.CreateUE, EncodeSuci and the three PDU-session decoders of stgutg with them)

  The per-UE builders copy the slice `ngapTestpacket.TestPlmn.Value` into the PDUs they return, so those PDUs
  share its 3-octet backing array (`shares` in the table).  Counting that referent as READ, entry points and
  per-UE builders are pairwise interference free (`builders_partial`); that nothing writes through the copied
  reference is outside what the translator follows and is tied by the `conc` runs under the race detector.
  The NG Setup builders WRITE `TestPlmn` (`ngsetup_writes_plmn`): NG Setup is a gNB-level procedure that the
  emulator performs once, before the first UE is created; it is not an operation "for a UE". -/

/-- the only builders that write a package-level variable are the two NG Setup Request builders -/
theorem ngsetup_only_writer :
    (Gen.Footprint.builders.filter (fun e => !e.writes.isEmpty)).all isNgSetup = true := by decide +kernel

/-- No entry point writes a package-level variable (`C20_disjoint`) and no per-UE builder does (`ngsetup_only_writer`),
    which is what the check asks (`footprintsDisjoint_iff`). The builders' names are not evaluated: comparing the
    99 names with the two NG Setup names is what makes a sweep of `allShareAsRead` slow in the kernel. -/
theorem builders_partial : footprintsDisjoint allShareAsRead = true := by
  refine (Proofs.Interleave.footprintsDisjoint_iff _).mpr fun a ha => ?_
  obtain ⟨e, he, rfl⟩ := List.mem_map.mp ha
  show e.writes = []
  rcases List.mem_append.mp he with he | he
  · have := (Proofs.Interleave.footprintsDisjoint_iff _).mp C20_disjoint (toFP e) (List.mem_map_of_mem he)
    exact (List.append_eq_nil_iff.mp this).1
  · obtain ⟨hb, hn⟩ := List.mem_filter.mp he
    cases hw : e.writes with
    | nil => rfl
    | cons l ls =>
      have := List.all_eq_true.mp ngsetup_only_writer e (List.mem_filter.mpr ⟨hb, by simp [hw]⟩)
      simp [this] at hn

/-- what the NG Setup builders write is read by per-UE builders: NG Setup must happen before the UEs start -/
theorem ngsetup_writes_plmn :
    ((Gen.Footprint.builders.filter isNgSetup).all
      (fun e => ueBuilders.any (fun b => (toFPShareAsRead e).interferes (toFPShareAsRead b)))) = true ∧
    (Gen.Footprint.builders.filter isNgSetup).length = 2 := by decide +kernel

/-! ### F13: why the disjointness hypothesis cannot be dropped — SNOW 3G with package-level state -/

/-- two NEA1-shaped calls (`InitSnow3g`; `GenerateKeystream`) that share the generator state, as snow3g.go's
    package-level `lfsr`/`fsm` did: every step respects its footprint, the schedule
    Init(A) Init(B) Generate₀ Generate₁ is a legal interleaving, thread 0 receives a keystream that differs from
    the one it receives in the sequential run, and the schedule contains a conflicting access pair. -/
theorem snow3g_shared_state_counterexample :
    PoolRespects (pool Proofs.SnowRace.threads) ∧
    Interleaving (pool Proofs.SnowRace.threads) Proofs.SnowRace.witness ∧
    (exec Proofs.SnowRace.c0 Proofs.SnowRace.witness).locals 0
      ≠ (exec Proofs.SnowRace.c0 (sequential Proofs.SnowRace.threads)).locals 0 ∧
    ¬ RaceFree Proofs.SnowRace.witness :=
  ⟨Proofs.SnowRace.threads_respect, Proofs.SnowRace.witness_is_schedule,
   Proofs.SnowRace.witness_wrong_keystream, Proofs.SnowRace.witness_race⟩

/-- the statement of `noninterference` (thread-local results and race freedom, at the types of the SNOW 3G model)
    without the disjointness hypothesis -/
def StatementWithoutDisjointness : Prop :=
  ∀ (ts : List (List (Step Proofs.SnowRace.Val Proofs.SnowRace.Local))),
    (∀ t, t ∈ ts → ∀ s, s ∈ t → Respects s) →
    ∀ (c : Config Proofs.SnowRace.Val Proofs.SnowRace.Local) (tr : Trace Proofs.SnowRace.Val Proofs.SnowRace.Local),
      Interleaving (pool ts) tr → (exec c tr).locals = (exec c (sequential ts)).locals ∧ RaceFree tr

theorem disjointness_needed : ¬ StatementWithoutDisjointness := by
  intro h
  exact Proofs.SnowRace.witness_race
    (h _ Proofs.SnowRace.steps_respect Proofs.SnowRace.c0 _ Proofs.SnowRace.witness_is_schedule).2

/-! ### the hypotheses are satisfiable by a non-trivial system -/

/-- thread `i` adds the shared read-only constant at location 2 to its own counter at location `i` -/
def bump (i : Nat) : Step Nat Nat :=
  { reads := [i, 2], writes := [i], act := fun σ n => ([(i, σ i + σ 2)], n + σ i + σ 2) }

/-- two threads, two steps each; both read location 2, each writes only its own location: the hypotheses of
    `noninterference` hold, a non-sequential schedule exists, and the steps really do read and write -/
example :
    (∀ t, t ∈ [[bump 0, bump 0], [bump 1, bump 1]] → ∀ s, s ∈ t → Respects s) ∧
    Disjoint [[bump 0, bump 0], [bump 1, bump 1]] ∧
    Interleaving (pool [[bump 0, bump 0], [bump 1, bump 1]]) [(0, bump 0), (1, bump 1), (1, bump 1), (0, bump 0)] ∧
    (exec { store := fun _ => 1, locals := fun _ => 0 } [(0, bump 0), (1, bump 1), (1, bump 1), (0, bump 0)]).locals 0 = 5 := by
  have hb : ∀ i, Respects (bump i) := by
    intro i
    refine ⟨fun σ σ' n h => ?_, fun _ _ w hw => by simp [bump] at hw; simp [hw, bump]⟩
    have h1 : σ i = σ' i := h i (by simp [bump])
    have h2 : σ 2 = σ' 2 := h 2 (by simp [bump])
    simp [bump, h1, h2]
  refine ⟨?_, ?_, ?_, rfl⟩
  · intro t ht s hs
    simp only [List.mem_cons, List.mem_nil_iff, or_false] at ht
    rcases ht with rfl | rfl <;>
    · simp only [List.mem_cons, List.mem_nil_iff, or_false] at hs
      rcases hs with rfl | rfl <;> exact hb _
  · intro i j hi hj hij s hs s' hs' l hl
    have hi' : i = 0 ∨ i = 1 := by simp only [List.length_cons, List.length_nil] at hi; omega
    have hj' : j = 0 ∨ j = 1 := by simp only [List.length_cons, List.length_nil] at hj; omega
    rcases hi' with rfl | rfl <;> rcases hj' with rfl | rfl <;> simp at hij <;>
    · simp at hs hs'
      subst hs hs'
      simp [bump] at hl ⊢
      subst hl
      decide
  · refine Interleaving.pick (i := 0) (rest := [bump 0]) rfl ?_
    refine Interleaving.pick (i := 1) (rest := [bump 1]) rfl ?_
    refine Interleaving.pick (i := 1) (rest := []) rfl ?_
    refine Interleaving.pick (i := 0) (rest := []) rfl ?_
    refine Interleaving.done ?_
    intro i
    match i with
    | 0 => rfl
    | 1 => rfl
    | k + 2 => simp [upd, pool]

end Stgutg.Props.C20
