/-
  C01, transport — the N2 association is dialled from the gNB's configured address/port to the AMF's, with the NGAP payload
  protocol identifier.

  `tglib.ConnectToAmf` is the one piece of the registration path that the `verif` hook bypasses (the harness hands the emulator a
  socket), so nothing differential reaches it; an AMF does not accept NGAP on an association that carries another payload
  protocol identifier, nor one that was dialled to the wrong endpoint. `gen transport` extracts, on every run and failing closed,
  how `ConnectToAmf(amfIP, stgIP, amfPort, stgPort)` and `getNgapIp` route the four arguments into `sctp.DialSCTP` and which PPID
  they set; C18's wiring tables tie the four arguments to the configuration keys.

    C01_transport_facts      the extracted facts are the expected ones (kernel-decided)
    C01_transport_endpoints  for ALL argument values: remote = (amfIP, amfPort), local = (stgIP, stgPort)
    C01_transport_ppid       the PPID word is 60 (NGAP, IANA "SCTP payload protocol identifiers") in network byte order as seen
                             from a little-endian host: the value 60·2^24, whose octets in memory are 00 00 00 3C
  Not covered: the SCTP stack, name resolution (`net.ResolveIPAddr`), big-endian hosts.
-/
import Stgutg.Gen.Transport

namespace Stgutg.Props.C01Transport
open Stgutg.Model.Transport

def expected : Facts := {
  adoptFirst := true,
  callArgs := [0, 1, 2, 3],
  addrs := [{ result := 0, ipParam := 0, portParam := 2 }, { result := 1, ipParam := 1, portParam := 3 }],
  returned := [0, 1],
  resolveNet := "ip",
  network := "sctp",
  dialLocal := 1,
  dialRemote := 0,
  ppid := 60 * 2 ^ 24
}

/-- **C01_transport_facts.** Table fact over what `gen transport` extracts from src/tglib/ngsetup.go on every check. -/
theorem C01_transport_facts : Gen.Transport.facts = expected := by decide +kernel

/-- an endpoint: which argument of ConnectToAmf is its address, which its port (indices into amfIP, stgIP, amfPort, stgPort) -/
structure Endpoint where
  ip : Nat
  port : Nat
  deriving DecidableEq, Repr

/-- semantics of the facts: the `k`-th value returned by getNgapIp, expressed in ConnectToAmf's own arguments -/
def returnedEndpoint (f : Facts) (k : Nat) : Option Endpoint := do
  let r ← f.returned[k]?
  let a ← f.addrs.find? (·.result == r)
  let ip ← f.callArgs[a.ipParam]?
  let port ← f.callArgs[a.portParam]?
  pure { ip := ip, port := port }

/-- the value of an endpoint for concrete arguments -/
def Endpoint.eval {A P : Type} (e : Endpoint) (amfIP stgIP : A) (amfPort stgPort : P) : Option (A × P) :=
  match e.ip, e.port with
  | 0, 2 => some (amfIP, amfPort)
  | 0, 3 => some (amfIP, stgPort)
  | 1, 2 => some (stgIP, amfPort)
  | 1, 3 => some (stgIP, stgPort)
  | _, _ => none

/-- **C01_transport_endpoints.** For all addresses and ports: `sctp.DialSCTP(network, local, remote)` is called with
    remote = (amfIP, amfPort) and local = (stgIP, stgPort), on network "sctp", each address list holding exactly the one resolved
    address (the translator admits no other shape). -/
theorem C01_transport_endpoints {A P : Type} (amfIP stgIP : A) (amfPort stgPort : P) :
    ((returnedEndpoint Gen.Transport.facts Gen.Transport.facts.dialRemote).bind (·.eval amfIP stgIP amfPort stgPort)) = some (amfIP, amfPort) ∧
    ((returnedEndpoint Gen.Transport.facts Gen.Transport.facts.dialLocal).bind (·.eval amfIP stgIP amfPort stgPort)) = some (stgIP, stgPort) ∧
    Gen.Transport.facts.network = "sctp" ∧ Gen.Transport.facts.adoptFirst = true := by
  rw [C01_transport_facts]
  exact ⟨rfl, rfl, rfl, rfl⟩

/-- the four octets of a 32-bit word in the memory of a little-endian host, lowest address first -/
def leOctets (w : Nat) : List Nat := [w % 256, w / 256 % 256, w / 65536 % 256, w / 16777216 % 256]

/-- **C01_transport_ppid.** The PPID handed to the SCTP stack is the word whose octets in memory are 00 00 00 3C: payload protocol
    identifier 60 (NGAP) in network byte order. -/
theorem C01_transport_ppid : leOctets Gen.Transport.facts.ppid = [0, 0, 0, 60] := by
  rw [C01_transport_facts]; decide

end Stgutg.Props.C01Transport
