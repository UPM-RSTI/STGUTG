/-
  C19 — fail-stop when the AMF disappears or answers garbage.

  The program is the script GENERATED from src/stgutg/{ngsetup,ue,pdu,service}.go and the test-mode branch of
  stg-utg.go (Gen/Script.lean, `gen script`): per procedure the ordered I/O actions with, for each, whether its error
  reaches ManageError before the next action. Model/FailStop.lean gives the script its meaning (`run`), for any
  configuration counts and any sequence of peer replies (ok | other | garbage | closed), and optionally a peer that
  closes after accepting w uplink messages.

  Not modelled (see DESIGN.md section 6; tied by the process-level runs of the real binary, domain `failstop`):
  the kernel's socket semantics (EOF after the peer's close, EPIPE on a write to it), os.Exit, the scheduler, the
  message builders (assumed not to fail because of the peer). A peer that neither answers nor closes is outside the
  property's fault model (`blocked` in the model). Traffic mode (needs XDP) is not translated.
-/
import Stgutg.Model.FailStop
import Stgutg.Gen.Script
import Stgutg.Proofs.FailStop
import Stgutg.Spec.FailStop

namespace Stgutg.Props.C19
open Stgutg.Model.FailStop Stgutg.Proofs.FailStop Stgutg.Gen.Script

/-! ### the generated script: table facts (kernel evaluation) -/

def body : List MainItem := script.main.take (script.main.length - 3)

def tail : List MainItem := script.main.drop (script.main.length - 3)

/-- **Test mode ends with the completion banner, `conn.Close()`, `os.Exit(0)`** and with nothing else. -/
theorem C19_epilogue :
    tail = [.stmt (.act (.print banner)), .stmt (.act .closeConn), .stmt (.act (.exit 0))] := by decide +kernel

/-- **Every operation before the banner is fail-stop safe** (`safeOp`): every `conn.Read` and `conn.Write` error reaches
    `ManageError`; a decoder error reaches it or the decoded PDU is discarded; there is no `os.Exit(0)`, no completion
    banner, no decode of a stale buffer and no call of an unknown procedure. -/
theorem C19_script_safe : body.all (itemSafe script.procs) = true := by decide +kernel

def actIO : Act → Bool
  | .read c _ => c
  | .write _ _ c _ => c
  | _ => true

/-- every `conn.Read` and every `conn.Write` of every procedure is followed by `ManageError` -/
theorem C19_every_read_and_write_checked : ∀ p ∈ script.procs, p.2.all actIO = true := by decide +kernel

def decodeOk : Act → Bool
  | .decode v c _ => c || v.isNone
  | _ => true

/-- a decoder result whose error is not checked is never bound to a variable -/
theorem C19_unchecked_decode_is_discarded : ∀ p ∈ script.procs, p.2.all decodeOk = true := by decide +kernel

/-- per procedure: for each read, whether undecodable octets stop the program -/
def procKinds (p : String) : List Bool := kinds (procOps script.procs p)

/-- **Reads per procedure**: NG Setup 1, registration 4 (the last one ignores what it reads), establishment 1,
    service request 1, release 0, de-registration 2. -/
theorem C19_reads_per_procedure :
    procKinds "ManageNGSetup" = [true] ∧ procKinds "RegisterUE" = [true, true, true, false] ∧
    procKinds "EstablishPDU" = [true] ∧ procKinds "ServiceRequest" = [true] ∧
    procKinds "ReleasePDU" = [] ∧ procKinds "DeregisterUE" = [true, true] := by decide +kernel

/-- the NAS message written last before each read whose content is ignored -/
def ignoredAfter : Option String → List Op → List (Option String)
  | _, [] => []
  | _, .write _ nas _ _ :: rest => ignoredAfter (some nas) rest
  | last, .recv _ _ decoded _ dc _ :: rest => (if decoded && dc then [] else [last]) ++ ignoredAfter none rest
  | last, _ :: rest => ignoredAfter last rest

/-- **The only read whose content is ignored is the one that follows Registration Complete** -/
theorem C19_ignored_read_follows_registration_complete :
    script.procs.map (fun p => (p.1, ignoredAfter none (fuse p.2))) =
      [("ManageNGSetup", []), ("RegisterUE", [some "GetRegistrationComplete"]), ("EstablishPDU", []),
       ("ServiceRequest", []), ("ReleasePDU", []), ("DeregisterUE", [])] := by decide +kernel

/-- an unchecked builder result is written by the next I/O action, and that write is checked -/
def uncheckedBuilds : List Act → Bool
  | [] => true
  | .build f false _ :: rest =>
    (match rest.find? (fun a => match a with | .derive .. => false | .use .. => false | _ => true) with
     | some (.write n _ c _) => c && ("tglib." ++ n == f)
     | _ => false) && uncheckedBuilds rest
  | _ :: rest => uncheckedBuilds rest

theorem C19_unchecked_builds_feed_checked_write : ∀ p ∈ script.procs, uncheckedBuilds p.2 = true := by decide +kernel

/-- `ReleasePDU` only writes (three messages): a peer that has closed is met by EPIPE -/
theorem C19_release_only_writes :
    procKinds "ReleasePDU" = [] ∧ writes (procOps script.procs "ReleasePDU") = 3 := by decide +kernel

/-- the operations of a whole test-mode run before the banner, for the given counts -/
def testBody (c : Counts) : List Op := flatItems script.procs c body

/-- number of reads of a fault-free run -/
def totalReads (c : Counts) : Nat := (kinds (testBody c)).length

/-- read `k` (0 = NG Setup Response) hands its octets to the decoder and checks the decoder's error -/
def strictRead (c : Counts) (k : Nat) : Bool := (kinds (testBody c))[k]?.getD false

/-- read `k` exists and ignores the content of what it reads -/
def ignoredRead (c : Counts) (k : Nat) : Prop := k < totalReads c ∧ strictRead c k = false

theorem flat_split (c : Counts) : flat script c = testBody c ++ flatItems script.procs c tail := by
  have h : script.main = body ++ tail := (List.take_append_drop _ _).symm
  simp only [flat, testBody]
  rw [← flatItems_append, ← h]

theorem testBody_safe (c : Counts) : ∀ op ∈ testBody c, safeOp op = true :=
  safe_flatItems script.procs c body C19_script_safe

theorem no_banner_in_body (c : Counts) : Op.print banner ∉ testBody c := by
  intro h
  have := testBody_safe c _ h
  simp [safeOp] at this

/-- a run that has stopped before the banner is the run of the operations before the banner, and has not printed it -/
theorem run_of_dead (c : Counts) (rs : List Reply) (ca : Option Nat) (h : Dead (exec (testBody c) (initSt rs ca))) :
    run script c rs ca = exec (testBody c) (initSt rs ca) ∧
    Out.line banner ∉ (exec (testBody c) (initSt rs ca)).printed := by
  refine ⟨?_, fun hb => ?_⟩
  · simp only [run]
    rw [flat_split, exec_append, exec_done _ _ (dead_done h)]
  · rcases exec_printed _ _ _ hb with h | h
    · simp [initSt] at h
    · exact no_banner_in_body c h

/-- **C19, full strength.** For ALL configuration counts (any number of UEs, any repetition counts, negative and
    larger than the number of registered UEs included) and ANY sequence of peer replies: if the reply to read `k` of
    the conversation is "the peer has closed", or is undecodable octets and `k` is not the read after Registration
    Complete, then the process terminates with a non-zero exit status, the completion banner is not printed, every
    session that is reported was reported before reply `k` was read, reply `k` is the last thing ever read (no read is
    retried), and the time slept is bounded by the script's own sleeps. -/
theorem C19_failstop (c : Counts) (rs : List Reply) (k : Nat) (hk : k < totalReads c)
    (hf : rs[k]? = some .closed ∨ (rs[k]? = some .garbage ∧ ¬ ignoredRead c k)) :
    (∃ e, (run script c rs).exit = some e ∧ e ≠ 0) ∧
    Out.line banner ∉ (run script c rs).printed ∧
    (∀ x ∈ (run script c rs).sessions, x ≤ k) ∧
    (run script c rs).consumed ≤ k + 1 ∧
    (run script c rs).blocked = false ∧
    (run script c rs).sleptMs ≤ sleepTotal (testBody c) := by
  have hfault : ∃ r, (initSt rs).rs[k]? = some r ∧ isFault ((kinds (testBody c))[k]?.getD false) r = true := by
    rcases hf with h | ⟨h, hn⟩
    · exact ⟨.closed, h, rfl⟩
    · refine ⟨.garbage, h, ?_⟩
      simp only [ignoredRead, not_and, Bool.not_eq_false] at hn
      simpa [isFault, strictRead] using hn hk
  have st := failstop_core (testBody c) (testBody_safe c) (initSt rs) k (by simp [initSt, St.done]) hk hfault
  obtain ⟨hrun, hban⟩ := run_of_dead c rs none st.dead
  rw [hrun]
  refine ⟨st.dead, hban, ?_, ?_, ?_, ?_⟩
  · simpa [initSt] using st.sessions
  · simpa [initSt] using st.consumed
  · -- a blocked state never has an exit status: `step` sets `blocked` only from a running state
    obtain ⟨e, he, _⟩ := st.dead
    refine Bool.eq_false_iff.mpr fun hbl => ?_
    have := blocked_no_exit (testBody c) (initSt rs) (by simp [initSt]) hbl
    simp [he] at this
  · simpa [initSt] using st.slept

/-- **C19, the peer closes between two uplink messages** (after accepting `w` of them, e.g. inside `ReleasePDU`, which
    never reads): if the program still has a message to send and `rs` holds a reply for every read of the run, the
    process terminates with a non-zero exit status, the banner is not printed and nothing more is delivered. (After the
    very last uplink message the program does no I/O at all; a close there cannot be noticed.) -/
theorem C19_failstop_peer_closes_between_messages (c : Counts) (rs : List Reply) (w : Nat)
    (hw : w < writes (testBody c)) (hlen : totalReads c ≤ rs.length) :
    (∃ e, (run script c rs (some w)).exit = some e ∧ e ≠ 0) ∧
    Out.line banner ∉ (run script c rs (some w)).printed ∧
    (run script c rs (some w)).ul.length ≤ w := by
  have st := failstop_close_after (testBody c) (testBody_safe c) (initSt rs (some w)) w (by simp [initSt, St.done]) rfl
    hw (by simpa [initSt, totalReads] using hlen)
  obtain ⟨hrun, hban⟩ := run_of_dead c rs (some w) st.dead
  rw [hrun]
  exact ⟨st.dead, hban, by simpa [initSt] using st.ul⟩

/-! ### which reads there are (closed forms, all counts) -/

def nReg (c : Counts) : Nat := c.reg.toNat
def nPdu (c : Counts) : Nat := (goMin c.reg c.pdu).toNat
def nSvc (c : Counts) : Nat := (goMin (goMin c.reg c.pdu) c.svc).toNat
def nRel (c : Counts) : Nat := (goMin (goMin c.reg c.pdu) c.rel).toNat
def nDereg (c : Counts) : Nat := (goMin c.reg c.dereg).toNat

/-- **The reads of a run**, in order: NG Setup, then per registration four (the fourth ignored), then one per
    establishment, one per service request, none per release, two per de-registration. -/
theorem C19_reads (c : Counts) :
    kinds (testBody c) =
      [true] ++ rep (nReg c) [true, true, true, false] ++ rep (nPdu c) [true] ++ rep (nSvc c) [true] ++
        rep (nRel c) [] ++ rep (nDereg c) [true, true] := by
  have h : body.flatMap (itemView kindOf script.procs c) =
      true :: (rep (nReg c) [true, true, true, false] ++ (rep (nPdu c) [true] ++ (rep (nSvc c) [true] ++
        (rep (nRel c) [] ++ (rep (nDereg c) [true, true] ++ []))))) := rfl
  rw [testBody, kinds_eq, flatMap_flatItems _ (fun _ _ => rfl), h]
  simp [List.append_assoc]

theorem C19_read_count (c : Counts) : totalReads c = 1 + 4 * nReg c + nPdu c + nSvc c + 2 * nDereg c := by
  simp only [totalReads, C19_reads, List.length_append, rep_length, List.length_cons, List.length_nil]
  omega

/-- **The excluded reads are exactly the fourth read of each registration** — read `4·i + 4` for UE `i`: the one after
    Registration Complete (`C19_ignored_read_follows_registration_complete`). -/
theorem C19_ignored_reads (c : Counts) (k : Nat) : ignoredRead c k ↔ ∃ i, i < nReg c ∧ k = 4 * i + 4 := by
  have hT : ∀ x ∈ rep (nPdu c) [true] ++ (rep (nSvc c) [true] ++ (rep (nRel c) [] ++ rep (nDereg c) [true, true])), x = true := by
    intro x hx
    simp only [List.mem_append] at hx
    rcases hx with h | h | h | h <;> have := mem_rep h <;> simp_all
  have hk : ignoredRead c k ↔ (kinds (testBody c))[k]? = some false := by
    simp only [ignoredRead, totalReads, strictRead]
    by_cases h : k < (kinds (testBody c)).length <;> simp [h]
  rw [hk, C19_reads]
  simp only [List.append_assoc, List.cons_append, List.nil_append]
  match k with
  | 0 => simp
  | k + 1 =>
    rw [List.getElem?_cons_succ, false_positions (nReg c) _ hT k]
    constructor
    · rintro ⟨i, hi, h⟩; exact ⟨i, hi, by omega⟩
    · rintro ⟨i, hi, h⟩; exact ⟨i, hi, by omega⟩

/-- **The uplink messages of a run**: 1 for NG Setup, 5 per registration, 2 per establishment, 2 per service request,
    3 per release, 2 per de-registration. -/
theorem C19_write_count (c : Counts) :
    writes (testBody c) = 1 + 5 * nReg c + 2 * nPdu c + 2 * nSvc c + 3 * nRel c + 2 * nDereg c := by
  have h : body.flatMap (itemView writeOf script.procs c) =
      () :: (rep (nReg c) [(), (), (), (), ()] ++ (rep (nPdu c) [(), ()] ++ (rep (nSvc c) [(), ()] ++
        (rep (nRel c) [(), (), ()] ++ (rep (nDereg c) [(), ()] ++ []))))) := rfl
  rw [testBody, writes_eq, flatMap_flatItems _ (fun _ _ => rfl), h]
  simp only [List.length_cons, List.length_append, rep_length, List.length_nil]
  omega

/-! ### the property in its own terms (`Spec/FailStop.lean`: written from the statement, not from the code) -/

def specCounts (c : Counts) : Spec.FailStop.Counts := ⟨c.reg, c.pdu, c.svc, c.rel, c.dereg⟩

theorem goMin_eq_min (x y : Int) : goMin x y = min x y := by
  unfold goMin
  rw [Int.min_def]
  split <;> split <;> omega

/-- **The generated script has the shape the property talks about**: the same number of reads and of uplink messages
    for all counts, and the reads whose content the code ignores are exactly the messages after Registration Complete. -/
theorem C19_model_matches_skeleton (c : Counts) :
    totalReads c = Spec.FailStop.totalReads (specCounts c) ∧
    writes (testBody c) = Spec.FailStop.totalWrites (specCounts c) ∧
    ∀ k, ignoredRead c k ↔ Spec.FailStop.excludedRead (specCounts c) k = true := by
  refine ⟨?_, ?_, ?_⟩
  · rw [C19_read_count]
    simp [Spec.FailStop.totalReads, Spec.FailStop.nReg, Spec.FailStop.nPdu, Spec.FailStop.nSvc, Spec.FailStop.nDereg,
      specCounts, nReg, nPdu, nSvc, nDereg, goMin_eq_min]
  · rw [C19_write_count]
    simp [Spec.FailStop.totalWrites, Spec.FailStop.nReg, Spec.FailStop.nPdu, Spec.FailStop.nSvc, Spec.FailStop.nRel,
      Spec.FailStop.nDereg, specCounts, nReg, nPdu, nSvc, nRel, nDereg, goMin_eq_min]
  · intro k
    have e : Spec.FailStop.nReg (specCounts c) = nReg c := rfl
    rw [C19_ignored_reads]
    simp only [Spec.FailStop.excludedRead, e, Bool.and_eq_true, decide_eq_true_eq, beq_iff_eq]
    constructor
    · rintro ⟨i, hi, rfl⟩
      refine ⟨⟨by omega, by omega⟩, by omega⟩
    · rintro ⟨⟨h1, h2⟩, h3⟩
      exact ⟨k / 4 - 1, by omega, by omega⟩

/-- **C19 as the property states it**: for all counts and all reply sequences, "the peer closes instead of answer `k`"
    for any message index `k` of the conversation, and "answer `k` is undecodable" for any `k` except the message after
    Registration Complete, end the process with a non-zero status, without the banner, without a session reported
    afterwards, without any further read, within the script's own sleeps. -/
theorem C19_failstop_spec (c : Counts) (rs : List Reply) (k : Nat)
    (hf : (rs[k]? = some .closed ∧ Spec.FailStop.closeInScope (specCounts c) k = true) ∨
          (rs[k]? = some .garbage ∧ Spec.FailStop.garbageInScope (specCounts c) k = true)) :
    (∃ e, (run script c rs).exit = some e ∧ e ≠ 0) ∧
    Out.line banner ∉ (run script c rs).printed ∧
    (∀ x ∈ (run script c rs).sessions, x ≤ k) ∧
    (run script c rs).consumed ≤ k + 1 ∧
    (run script c rs).blocked = false ∧
    (run script c rs).sleptMs ≤ sleepTotal (testBody c) := by
  obtain ⟨hr, _, hi⟩ := C19_model_matches_skeleton c
  rcases hf with ⟨h1, h2⟩ | ⟨h1, h2⟩
  · simp only [Spec.FailStop.closeInScope, decide_eq_true_eq] at h2
    exact C19_failstop c rs k (hr ▸ h2) (Or.inl h1)
  · simp only [Spec.FailStop.garbageInScope, Bool.and_eq_true, decide_eq_true_eq, Bool.not_eq_true'] at h2
    refine C19_failstop c rs k (hr ▸ h2.1) (Or.inr ⟨h1, ?_⟩)
    intro hign
    have := (hi k).mp hign
    simp [h2.2] at this

/-- **C19, close between two uplink messages, as the property states it**: the peer closes right after uplink message
    `j` while the program still has something to send. -/
theorem C19_failstop_close_after_uplink_spec (c : Counts) (rs : List Reply) (j : Nat)
    (hj : Spec.FailStop.closeAfterUplinkInScope (specCounts c) j = true)
    (hlen : Spec.FailStop.totalReads (specCounts c) ≤ rs.length) :
    (∃ e, (run script c rs (some (j + 1))).exit = some e ∧ e ≠ 0) ∧
    Out.line banner ∉ (run script c rs (some (j + 1))).printed ∧
    (run script c rs (some (j + 1))).ul.length ≤ j + 1 := by
  obtain ⟨hr, hw, _⟩ := C19_model_matches_skeleton c
  simp only [Spec.FailStop.closeAfterUplinkInScope, decide_eq_true_eq] at hj
  exact C19_failstop_peer_closes_between_messages c rs (j + 1) (hw ▸ hj) (hr ▸ hlen)

/-! ### the hypotheses are satisfiable, and the model does what the dry run showed -/

def one : Counts := ⟨1, 1, 1, 1, 1⟩

/-- a fault-free run of one UE: 9 reads, 15 uplink messages, one session, banner, exit 0 -/
example :
    (run script one (List.replicate 9 .ok)).exit = some 0 ∧ Out.line banner ∈ (run script one (List.replicate 9 .ok)).printed ∧
    (run script one (List.replicate 9 .ok)).consumed = 9 ∧ (run script one (List.replicate 9 .ok)).ul.length = 15 ∧
    (run script one (List.replicate 9 .ok)).sessions = [6] := by decide +kernel

/-- three UEs, counts above the number of registered UEs: the clamps keep every index in range -/
example :
    (run script ⟨3, 7, 5, 9, 4⟩ (List.replicate 25 .ok)).exit = some 0 ∧
    (run script ⟨3, 7, 5, 9, 4⟩ (List.replicate 25 .ok)).consumed = 25 := by decide +kernel

/-- garbage at the excluded read (index 4 = after Registration Complete of the first UE) is ignored: the run completes -/
example : ignoredRead one 4 ∧
    (run script one [.ok, .ok, .ok, .ok, .garbage, .ok, .ok, .ok, .ok]).exit = some 0 := by
  refine ⟨⟨by decide +kernel, by decide +kernel⟩, by decide +kernel⟩

/-- `C19_failstop`'s hypotheses hold for a close at that same read -/
example : 4 < totalReads one ∧ ([Reply.ok, .ok, .ok, .ok, .closed] : List Reply)[4]? = some .closed := by
  refine ⟨by decide +kernel, rfl⟩

/-- a decodable message of the wrong type where the Authentication Request is expected: nil dereference, exit status 2 -/
example : (run script one [.ok, .other]).exit = some 2 := by decide +kernel

end Stgutg.Props.C19
