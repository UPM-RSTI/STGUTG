/-
  C03 — the abstract syntax the encoder works from is TS 38.413's.
  The regenerated schema (struct tags and field order of ngapType/*.go, `gen schema`) has, type by type and component by
  component, the shape of the frozen TS 38.413 table `Spec.Ts38413Schema` (kinds, order, OPTIONAL, extension markers,
  size/value bounds, open-type wiring; names ignored). See Spec/Ts38413Schema.lean for the table's provenance.
-/
import Stgutg.Gen.NgapSchema
import Stgutg.Spec.Ts38413Schema

namespace Stgutg.Props.C03
open Stgutg Stgutg.Aper

/-- table fact, re-decided on every run against the schema regenerated from the working tree -/
theorem schema_is_ts38413 :
    Gen.Ngap.schema.map Spec.Ts38413Schema.shapeOf = Spec.Ts38413Schema.schema.map Spec.Ts38413Schema.shapeOf ∧
    Gen.Ngap.pduId = Spec.Ts38413Schema.pduId ∧
    Gen.Ngap.encoderParams = { valueExt := true, valueLB := some 0, valueUB := some 2 } := by
  decide +kernel

/-- non-vacuity of the comparison: the frozen table has more than 1000 types (1 431: the second disjunct is the one that holds) -/
example : Spec.Ts38413Schema.schema.length = 1300 ∨ Spec.Ts38413Schema.schema.length > 1000 := by decide +kernel

end Stgutg.Props.C03
