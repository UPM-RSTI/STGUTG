/-
  C04 — NGAP decode inverts encode, and re-encode reproduces the bytes.
  Model: Stgutg.Model.AperEnc / AperDec. Helper lemmas: Stgutg/Proofs/AperRT.lean (primitives),
  Stgutg/Proofs/AperRTComp*.lean (composite types: SEQUENCE, CHOICE, SEQUENCE OF, pointers, open types).

  `RT bits pos m a` (Proofs.AperRT): on ANY octet-complete input `bits ++ tail` read from bit position `pos`,
  the decoder computation `m` returns `a` and leaves exactly `tail` — so the statements below compose through
  SEQUENCE components, OPTIONAL bitmaps, SEQUENCE OF and open types.
-/
import Stgutg.Proofs.AperRTComp
import Stgutg.Gen.NgapSchema

namespace Stgutg.Props.C04
open Stgutg Stgutg.Aper Stgutg.Proofs.AperRT Stgutg.Proofs.AperRTComp

/-- constrained whole numbers (X.691 11.5) of every range up to 64K: bit-field, one octet, two octets -/
theorem constrained_whole_number (pos : Nat) (range : Int) (v : Nat) (bits : Bits)
    (h : appendConstraintValue pos range v = .ok bits) : RT bits pos (parseConstraintValue range) v :=
  RT_constraintValue pos range v bits h

/-- length determinants below the fragmentation threshold (constrained, one octet, two octets) -/
theorem length_determinant (pos : Nat) (sizeRange : Int) (v : Nat) (bits : Bits) (hv : v < 16384)
    (h : appendLength pos sizeRange v = .ok bits) : RT bits pos (parseLength sizeRange) (v, false) :=
  RT_length pos sizeRange v bits hv h

/-- INTEGER with a root constraint lb..ub (0 ≤ lb, ub < 2^63; ranges above 64K start at 0, as all of NGAP's do):
    every value in range is read back — single value, bit-field, 1/2 octets, and the length-prefixed form
    used for AMF-UE-NGAP-ID (0..2^40−1), RAN-UE-NGAP-ID (0..2^32−1), bit rates … -/
theorem integer_roundtrip (pos : Nat) (v : Int) (params : Params) (bits : Bits) (lb ub : Int)
    (hlb : params.valueLB = some lb) (hub : params.valueUB = some ub)
    (hv1 : lb ≤ v) (hv2 : v ≤ ub) (hlb0 : 0 ≤ lb) (hub63 : ub < 2 ^ 63)
    (hbig : ub - lb + 1 > 65536 → lb = 0) (hs : params.sizeExt = false)
    (h : appendInteger pos v params.valueExt params.valueLB params.valueUB = .ok bits) :
    RT bits pos (leafDec .int params) (.int v) :=
  RT_int pos v params bits lb ub hlb hub hv1 (Or.inl hv2) hlb0 hub63 (fun _ => hbig) hs h

/-- ENUMERATED (root values, extensible or not) -/
theorem enumerated_roundtrip (pos n : Nat) (params : Params) (bits : Bits)
    (h : appendEnumerated pos n params.valueExt params.valueLB params.valueUB = .ok bits)
    (hs : params.sizeExt = false) (hlb : params.valueLB = some 0) :
    RT bits pos (leafDec .enum params) (.enum n) :=
  RT_enum pos n params bits h hs hlb

/-- fragmented lengths (X.691 11.9.3.8), every length: the OCTET STRING loop of the decoder reads back a general
    length and its octets as the (repaired, F36) fragmentation loop of the encoder writes them — one or two length
    octets below 16K; from 16K on fragments `11mmmmmm` of m·16K octets, then the rest, then the final length
    (0 after an exact multiple of 16K) -/
theorem fragmented_octets_roundtrip (pos : Nat) (bytes : Bytes) (bits : Bits) (g : Nat)
    (hg : bytes.length / 16384 + 1 ≤ g)
    (h : fragLoop 8 (-1) 0 (bytes.length / 16384 + 2) pos bytes.length (bytesToBits bytes) = .ok bits) :
    RT bits pos (parseOctetStringLoop (-1) 0 g []) bytes := by
  have := ((octLoop_itemLoop (-1) 0).frag (by decide) (by decide) []
    (by rw [Proofs.Bits.bytesToBits_length]; omega) h).1 g (Or.inl hg)
  rwa [List.nil_append, Proofs.Bits.bitsToBytes_bytesToBits] at this

/-- OCTET STRING of any size constraint (fixed ≤ 2 octets unaligned, fixed > 2 aligned, variable with constrained
    or general length, size extension) and of ANY length (16K octets or more: fragmented). `FragParamsOK`: SIZE(lb..MAX)
    only with lb = 0 and a constrained size (ub < 64K) ends below 16K, so that a length of 16K or more is always a
    general length with lower bound 0. -/
theorem octet_string_roundtrip (pos : Nat) (bytes : Bytes) (params : Params) (bits : Bits)
    (hok : SizedParamsOK params) (hfrag : FragParamsOK params) (hv : params.valueExt = false)
    (h : appendOctetString pos bytes params.sizeExt params.sizeLB params.sizeUB = .ok bits) :
    RT bits pos (leafDec .octs params) (.octs bytes) :=
  RT_leaf_octs_any pos bytes params bits hok (fun _ => hfrag) hv h

/-- PrintableString (coded as OCTET STRING by this library) -/
theorem string_roundtrip (pos : Nat) (bytes : Bytes) (params : Params) (bits : Bits)
    (hok : SizedParamsOK params) (hfrag : FragParamsOK params) (hv : params.valueExt = false)
    (h : appendOctetString pos bytes params.sizeExt params.sizeLB params.sizeUB = .ok bits) :
    RT bits pos (leafDec .str params) (.str bytes) :=
  RT_leaf_str_any pos bytes params bits hok (fun _ => hfrag) hv h

/-- BIT STRING whose octets are the zero-padded packing of its bits (unused bits clear — what the decoder
    returns since the F17 repair): every size constraint, ANY bit length (16K bits or more: fragmented), any alignment -/
theorem bit_string_roundtrip (pos : Nat) (bytes : Bytes) (len : Nat) (params : Params) (bits : Bits)
    (hok : SizedParamsOK params) (hfrag : FragParamsOK params) (hv : params.valueExt = false)
    (hcanon : bitsToBytes ((bytesToBits bytes).take len) = bytes)
    (h : appendBitString pos bytes len params.sizeExt params.sizeLB params.sizeUB = .ok bits) :
    RT bits pos (leafDec .bits params) (.bits bytes len) :=
  RT_leaf_bits_any pos bytes len params bits hok (fun _ => hfrag) hv hcanon h

set_option maxRecDepth 10000000 in
/-- non-vacuity for a fragmented length: an unconstrained BIT STRING of exactly 16384 bits is encoded (fragment header,
    2048 octets, final length 0 = 2050 octets), so `bit_string_roundtrip` applies to it -/
example : (match appendBitString 0 (List.replicate 2048 0xff) 16384 false none none with
    | .ok b => b.length == 8 + 16384 + 8 | .error _ => false) = true := by
  have hc : ((bytesToBits (List.replicate 2048 0xff)).take 16384).length = 16384 * 1 := by
    rw [List.length_take, Proofs.Bits.bytesToBits_length, List.length_replicate]; rfl
  rw [Proofs.AperSpec.appendBitString_eq, List.length_replicate, if_neg (by decide)]
  generalize (bytesToBits (List.replicate 2048 0xff)).take 16384 = content at hc ⊢
  -- no size constraint, so a general length: the model's loop writes what X.691 11.9.3.8 prescribes …
  have hf : fragLoop 1 (-1) (0 : Int).toNat (16384 / 16384 + 2) (0 + ([] : Bits).length) (16384 - (0 : Int).toNat) content =
      .ok (Spec.X691.lengthAndItems 1 2 0 16384 content) :=
    Proofs.AperSpec.fragLoop_unc 1 (by decide) 2 0 16384 content hc (by decide)
  unfold Proofs.AperSpec.strEnc
  rw [show sizePreamble 16384 false none none = .ok ([], 0, -1, -1) from rfl]
  dsimp only
  rw [if_neg (by decide), if_neg (by decide), hf]
  dsimp only
  rw [List.nil_append]
  -- … one fragment of 16384 bits behind its header octet, then the length 0
  unfold Spec.X691.lengthAndItems
  rw [if_neg (by decide)]
  dsimp only
  unfold Spec.X691.lengthAndItems
  rw [if_pos (by decide)]
  dsimp only
  rw [if_pos (by decide), if_pos (by decide)]
  simp only [List.length_append, List.length_take, hc, natToBits_length, Spec.X691.pad, List.length_replicate,
    List.length_cons, List.length_nil]
  rfl

/-- non-vacuity: AMF-UE-NGAP-ID 2^40 − 1 written at bit position 3 satisfies `integer_roundtrip`'s hypotheses -/
example : (match appendInteger 3 (2 ^ 40 - 1) false (some 0) (some (2 ^ 40 - 1)) with
    | .ok b => b.length == 3 + 2 + 40 | .error _ => false) = true := by
  decide +kernel

/-! ## The composite theorem

  `rtOK env` (decidable, `Proofs/AperRTCompDefs.lean`) is what the proof needs of the SCHEMA:
  * a component tagged `optional` is a pointer (an absent one decodes to the nil pointer); fewer than 64 OPTIONAL
    components per SEQUENCE (the bitmap is read into a uint64);
  * CHOICE alternatives are pointers, none is tagged `optional`, and `findAlt` finds every alternative that carries a
    `referenceFieldValue` (the values of an open-type struct are pairwise distinct — first match wins);
  * every component (SEQUENCE field, SEQUENCE OF element) has parameters that fit its type (`paramsOKx`: INTEGER
    bounds both present, 0 ≤ lb, ub < 2^63, ranges above 64K start at 0; ENUMERATED roots start at 0; string sizes
    non-negative, a fixed size ≥ 1, no `valueExt` on strings, no `sizeExt` on struct-typed fields (F23), neither on BOOLEAN; SEQUENCE OF:
    non-negative lower bound, `sizeExt` only with an upper bound below 64K) and NEVER ENCODES TO ZERO BITS (`neF`):
    `parseField` refuses an exhausted reader ("sequence truncated") even when the component needs no bits, so a
    zero-width component that ends a PDU (or an open-type container) on an octet boundary cannot be decoded.
  Topological order of the struct ids is NOT needed: encoder and decoder recurse on the same fuel, and the encoder's
  success is a hypothesis.

  `conf env fuel ty params v` (decidable) is what the proof needs of the VALUE beyond "the encoder accepts it":
  * INTEGER within lb..ub, or — for an extensible INTEGER — above ub and below 2^63 (an int64; written as extension
    bit 1 + the unconstrained form, `RT_int`);
  * OCTET STRING / PrintableString / BIT STRING of ANY length (16K items or more are fragmented, X.691 11.9.3.8:
    `Proofs/AperRTFrag.lean`, encoder after the repair of F36); a BIT STRING canonical (⌈n/8⌉ octets, unused bits zero —
    what the decoder returns since F17);
  * a CHOICE value is `Present = p`, alternative `p` set, every other alternative a nil pointer (what the decoder leaves), and the
    selected alternative never encodes to zero bits. FINDING: the 27 `choice-Extensions` alternatives of NGAP's CHOICE
    types are generated as EMPTY Go structs (`ProtocolIESingleContainer…ExtIEs struct{}`, ids `exIds Gen.Ngap.schema`);
    selecting one encodes to the index only, and the decoder model answers "sequence truncated" whenever that index
    ends its container exactly on an octet boundary (model-level observation; no Go input was constructed). No real
    NGAP value uses them (the information
    object sets are empty in TS 38.413), so nothing on the emulator's path is excluded;
  * the content of an open type may have any length (fragmented from 16K octets on).
  `rtOK` asks in addition (`fragOK`) that a string's SIZE(lb..MAX) has lb = 0 and that a constrained size (ub < 64K) ends
  below 16K, so that a length of 16K or more is always a general length with lower bound 0 (NGAP: largest constrained
  string size is 9600; with a constrained length of 16K or more the library's loop would fragment where X.691 does not).
  Measured (one-off, 2 725 `aperrt` values of the quick tier, seed 1): every value the encoder accepts (2 683) satisfies `conf`.
  FINDING (schema, confirmed on the Go code and fixed in /repo 9b665fc): `AssociatedQosFlowItem.QosFlowMappingIndication`
  was `*aper.Enumerated` tagged only `optional` (no bounds): the encoder refused every present value. The tag now is
  `valueExt,valueLB:0,valueUB:1,optional`; `enumOK` needs no exception either way.
-/

/-- parameters fit the type -/
abbrev ParamsFor (env : Env) (ty : Ty) (params : Params) : Prop := paramsOK env ty params = true

/-- `v` is a value of type `ty` within its constraints -/
abbrev Conf (env : Env) (fuel : Nat) (ty : Ty) (params : Params) (v : Val) : Prop := conf env fuel ty params v = true

/-- **C04, composite round trip (model level, every schema that passes `rtOK`)**: on any octet-complete input
    `bits ++ tail` with at least one bit left, read from bit position `pos`, `parseField` returns the value
    `makeField` was given and leaves exactly `tail`. Covers SEQUENCE (extension bit, OPTIONAL bitmap, absent
    optionals), CHOICE, SEQUENCE OF (constrained / general count, extension bit), pointers and OPEN TYPES
    (inner value decoded from its own buffer, alternative found through the reference value decoded earlier). -/
theorem composite_roundtrip (env : Env) (hwf : rtOK env = true) :
    ∀ (fuel pos : Nat) (ty : Ty) (params : Params) (v : Val) (bits : Bits),
      ParamsFor env ty params → Conf env fuel ty params v →
      encField env fuel pos ty params v = .ok bits → RT' bits pos (decField env fuel ty params) v :=
  RT_field env hwf

/-- a component that passes the static test `neTy` never encodes to zero bits (so it is read back on ANY
    octet-complete input: `RT`, not only `RT'`) -/
theorem never_empty (env : Env) (ty : Ty) (params : Params) (h : neTy env ty params = true)
    (fuel pos : Nat) (v : Val) (bits : Bits) (henc : encField env fuel pos ty params v = .ok bits) : bits ≠ [] :=
  neTy_sound env ty params h fuel pos v bits henc

/-- `UnmarshalWithParams (MarshalWithParams v) = v` for every schema that passes `rtOK` -/
theorem roundtrip_marshal (env : Env) (hwf : rtOK env = true) (fuel : Nat) (ty : Ty) (params : Params) (v : Val)
    (bs : Bytes) (hp : ParamsFor env ty params) (hc : Conf env fuel ty params v)
    (h : marshal env fuel ty params v = .ok bs) : unmarshal env fuel ty params bs = .ok v :=
  marshal_unmarshal env hwf fuel ty params v bs hp hc h

/-- Table fact, re-decided on every run over the regenerated schema (1 431 struct types) -/
theorem ngap_schema_rtOK : rtOK Gen.Ngap.schema = true := by decide +kernel

/-- fuel used by the driver (the value of `Props.C14.fuel`); the theorems below hold for every fuel -/
def fuel : Nat := 8 * (Gen.Ngap.schema.length + 1) + 1

/-- a conforming NGAP PDU -/
abbrev ConfPdu (fuel : Nat) (v : Val) : Prop :=
  Conf Gen.Ngap.schema fuel (.struct Gen.Ngap.pduId) Gen.Ngap.encoderParams v

theorem pdu_params_ok : ParamsFor Gen.Ngap.schema (.struct Gen.Ngap.pduId) Gen.Ngap.encoderParams := by
  show paramsOKx _ _ (.struct Gen.Ngap.pduId) Gen.Ngap.encoderParams = true
  rfl

/-- **C04 for NGAP PDUs**: `ngap.Decoder (ngap.Encoder v) = v` (model) for every conforming PDU value -/
theorem C04_roundtrip_pdu (fuel : Nat) (v : Val) (bs : Bytes) (hc : ConfPdu fuel v)
    (h : marshal Gen.Ngap.schema fuel (.struct Gen.Ngap.pduId) Gen.Ngap.encoderParams v = .ok bs) :
    unmarshal Gen.Ngap.schema fuel (.struct Gen.Ngap.pduId) Gen.Ngap.decoderParams bs = .ok v :=
  marshal_unmarshal Gen.Ngap.schema ngap_schema_rtOK fuel _ _ v bs pdu_params_ok hc h

/-- re-encoding: the bytes the library produced for a conforming PDU decode to a value whose encoding is those bytes -/
theorem C04_reencode_pdu (fuel : Nat) (v : Val) (bs : Bytes) (hc : ConfPdu fuel v)
    (h : marshal Gen.Ngap.schema fuel (.struct Gen.Ngap.pduId) Gen.Ngap.encoderParams v = .ok bs) :
    ∃ v', unmarshal Gen.Ngap.schema fuel (.struct Gen.Ngap.pduId) Gen.Ngap.decoderParams bs = .ok v' ∧
      marshal Gen.Ngap.schema fuel (.struct Gen.Ngap.pduId) Gen.Ngap.encoderParams v' = .ok bs :=
  ⟨v, C04_roundtrip_pdu fuel v bs hc h, h⟩

/-- **C04 for the transfer containers** (and every other struct type of the schema marshalled on its own with
    `aper.MarshalWithParams(v, "valueExt")`) -/
theorem C04_roundtrip_container (fuel id : Nat) (v : Val) (bs : Bytes)
    (hc : Conf Gen.Ngap.schema fuel (.struct id) { valueExt := true } v)
    (h : marshal Gen.Ngap.schema fuel (.struct id) { valueExt := true } v = .ok bs) :
    unmarshal Gen.Ngap.schema fuel (.struct id) { valueExt := true } bs = .ok v :=
  marshal_unmarshal Gen.Ngap.schema ngap_schema_rtOK fuel _ _ v bs rfl hc h

/-! ### non-vacuity: an NGSetupRequest -/

/-- a CHOICE value with `n` alternatives, alternative `k` (1-based) set to `v` -/
def choiceV (n k : Nat) (v : Val) : Val :=
  .struct (.int k :: (List.replicate n Val.nil).set (k - 1) (.ptr v))

/-- a protocol IE: id, criticality, open-type value (alternative `k` of `n`) -/
def ieV (id : Int) (crit n k : Nat) (v : Val) : Val :=
  .struct [.struct [.int id], .struct [.enum crit], choiceV n k v]

def plmnV : Val := .struct [.octs [0x02, 0xf8, 0x39]]

/-- NGSetupRequest { GlobalRANNodeID (gNB, 22-bit id), RANNodeName "free5gc", SupportedTAList (one TA, one PLMN,
    one S-NSSAI with SD), DefaultPagingDRX } -/
def ngSetupRequest : Val :=
  choiceV 3 1 (.struct [.struct [.int 21], .struct [.enum 0],
    choiceV 52 7
      (.struct [.struct [.slice [
        ieV 27 0 4 1 (choiceV 4 1 (.struct [plmnV, choiceV 2 1 (.bits [0x00, 0x01, 0x04] 22), .nil])),
        ieV 82 1 4 2 (.struct [.str [0x66, 0x72, 0x65, 0x65, 0x35, 0x67, 0x63]]),
        ieV 102 0 4 3 (.struct [.slice [.struct [.struct [.octs [0, 0, 1]],
          .struct [.slice [.struct [plmnV,
            .struct [.slice [.struct [.struct [.struct [.octs [1]], .ptr (.struct [.octs [1, 2, 3]]), .nil], .nil]]],
            .nil]]],
          .nil]]]),
        ieV 21 1 4 4 (.struct [.enum 1])]]])])

/-- the NGSetupRequest satisfies `Conf` … -/
theorem ngSetupRequest_conf : ConfPdu fuel ngSetupRequest := by decide +kernel

/-- … and is accepted by the encoder (57 octets, 4 protocol IEs in open types, two levels of containers) -/
theorem ngSetupRequest_encodes :
    (marshal Gen.Ngap.schema fuel (.struct Gen.Ngap.pduId) Gen.Ngap.encoderParams ngSetupRequest).toOption.map toHex =
      some "00150035000004001b00080002f83900000104005240090300667265653567630066001000000000010002f839000010080102030015400120" := by
  decide +kernel

/-- so the hypotheses of `C04_roundtrip_pdu` are satisfiable by a real message -/
example : ∃ bs, marshal Gen.Ngap.schema fuel (.struct Gen.Ngap.pduId) Gen.Ngap.encoderParams ngSetupRequest = .ok bs ∧
    unmarshal Gen.Ngap.schema fuel (.struct Gen.Ngap.pduId) Gen.Ngap.decoderParams bs = .ok ngSetupRequest := by
  cases h : marshal Gen.Ngap.schema fuel (.struct Gen.Ngap.pduId) Gen.Ngap.encoderParams ngSetupRequest with
  | error e => have := ngSetupRequest_encodes; rw [h] at this; cases this
  | ok bs => exact ⟨bs, rfl, C04_roundtrip_pdu fuel ngSetupRequest bs ngSetupRequest_conf h⟩

end Stgutg.Props.C04
