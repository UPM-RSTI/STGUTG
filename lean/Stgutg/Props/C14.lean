/-
  C14 — NGAP decoding is total: error or value, never a crash or hang.
  Model: Stgutg.Model.AperDec (aper.go parseField & helpers) over the schema regenerated from
  src/free5gclib/ngap/ngapType/*.go (Stgutg.Gen.NgapSchema). Helper lemmas: Stgutg/Proofs/AperTotal.lean.
  Cost (allocation / steps): instrumented model Stgutg.Model.AperDecCost, lemmas Stgutg/Proofs/AperCost*.lean:
  Defs (the table `costTab` and the predicates `Bnd`, `MonoC`, `Strict`), Erase (without counters it is the plain
  decoder), Bound (the predicates through bind, charges and the entry of `parseField`), Leaf / Slice / Struct (the
  three kinds of body), Tab (every table entry is a bound: `unmarshalCost_bound`, `costSummary_bounds`), Pair (two
  tables in one evaluation, `costSummary2_sound`).
-/
import Stgutg.Proofs.AperTotal
import Stgutg.Proofs.AperCostTab
import Stgutg.Proofs.AperCostPair
import Stgutg.Gen.NgapSchema

namespace Stgutg.Props.C14
open Stgutg Stgutg.Aper Stgutg.Proofs.AperTotal Stgutg.Proofs.AperCost

/-- fuel used by the driver and the theorems: above the nesting measure of every type of the schema;
    it depends on the schema only, never on the input -/
def fuel : Nat := 8 * (Gen.Ngap.schema.length + 1) + 1

/-- Table fact, re-decided on every run over the regenerated schema (1 431 struct types): struct ids are
    topologically ordered with nesting measure decreasing along fields, no size constraint fixes an empty
    string (that would make `GetBitString(…, 0)` trap), and the field an open type names as its `refField`
    (`Id`, `ProcedureCode`: the only field `getReferenceFieldValue` is called on) reaches no empty struct. -/
theorem schema_ok : envOK Gen.Ngap.schema = true := by decide +kernel

theorem pdu_in_schema : Gen.Ngap.pduId < Gen.Ngap.schema.length := by decide +kernel

theorem fuel_gt (id : Nat) (h : id < Gen.Ngap.schema.length) : tyDepth (.struct id) < fuel := by
  -- `fuel` is unfolded by rewriting: left to unification, the elaborator evaluates `schema.length`
  rw [fuel]
  exact tyDepth_struct_lt id _ h

theorem decoder_params_ok : sizeOK Gen.Ngap.decoderParams = true := by decide

/-- **C14 (no crash, no hang)**: for EVERY byte string, `ngap.Decoder` (model) returns a PDU or an error:
    it never panics and never runs out of the schema-determined fuel (so the recursion depth and the number
    of loop iterations are bounded independently of the counts and lengths the input claims). -/
theorem decoder_total (bs : Bytes) :
    unmarshal Gen.Ngap.schema fuel (.struct Gen.Ngap.pduId) Gen.Ngap.decoderParams bs ≠ .error .panic ∧
    unmarshal Gen.Ngap.schema fuel (.struct Gen.Ngap.pduId) Gen.Ngap.decoderParams bs ≠ .error .hang :=
  unmarshal_good Gen.Ngap.schema schema_ok fuel _ _ (fuel_gt _ pdu_in_schema) decoder_params_ok bs

/-- the same for every struct type of the schema used as a top-level type with any parameter string whose
    size constraint is not the empty fixed size (the transfer containers are decoded with "valueExt") -/
theorem unmarshal_total (id : Nat) (hid : id < Gen.Ngap.schema.length) (params : Params) (hp : sizeOK params = true)
    (bs : Bytes) :
    unmarshal Gen.Ngap.schema fuel (.struct id) params bs ≠ .error .panic ∧
    unmarshal Gen.Ngap.schema fuel (.struct id) params bs ≠ .error .hang :=
  unmarshal_good Gen.Ngap.schema schema_ok fuel _ _ (fuel_gt _ hid) hp bs

/-- decoding never "un-reads": the reader only moves forward (basis of the loop bounds) -/
theorem decoder_consumes (bs : Bytes) (v : Val) (r' : Rd)
    (h : decField Gen.Ngap.schema fuel (.struct Gen.Ngap.pduId) Gen.Ngap.decoderParams (Rd.ofBytes bs) = .ok (v, r')) :
    r'.len ≤ 8 * bs.length := by
  have hd : tyDepth (.struct Gen.Ngap.pduId) < fuel := fuel_gt _ pdu_in_schema
  exact (DOK_decField Gen.Ngap.schema schema_ok fuel _ _ hd decoder_params_ok (Rd.ofBytes bs)).2 v r' h

/-- non-vacuity: a concrete 7-octet input (NGSetupResponse with an empty IE list) is decoded to a value -/
example : (match unmarshal Gen.Ngap.schema 400 (.struct Gen.Ngap.pduId) Gen.Ngap.decoderParams
    [0x20, 0x15, 0x00, 0x03, 0x00, 0x00, 0x00] with | .ok _ => true | .error _ => false) = true := by
  decide +kernel

/-! ## Allocation and time are bounded by the input size and the schema's own list-size limits

  `unmarshalCost` (Model/AperDecCost.lean) is the decoder model in a monad that counts — also when the result is an
  error — `alloc`: the elements passed to `reflect.MakeSlice` (`parseSequenceOf` allocates the announced count BEFORE
  reading any element) plus the octets copied into OCTET STRING / BIT STRING / open-type buffers, and `steps`: the
  number of `parseField` entries.

  Why the bounds hold (Proofs/AperCost*.lean): every `MakeSlice` count is at most a constant of the schema
  (`sliceCount_le`: a constrained count is a ≤ 16-bit field plus lb — the value read is not checked against the
  range, hence 65 536 rather than 65 535 for `SIZE(1..65535)`; a general length is < 16 384, fragments are refused);
  every list element consumes at least one bit when it decodes (the table refuses a schema where this is not
  evident: extension bit, OPTIONAL bitmap, CHOICE index, non-degenerate INTEGER/ENUMERATED, fixed-size string), so a
  list that COMPLETES has at most as many elements as bits it consumed and only the lists on the current path can be
  over-claimed; string and open-type copies are bounded by the bits read because `takeOctets n` fails when fewer
  than n octets remain; the inner value of an open type is decoded from a buffer that was itself read from the input.
  The table (`costTab`, one pass, decided by the kernel) gives per type `(q, p, s)` with
      cost ≤ q + p·(bits of input) + s.
  Bytes and nanoseconds of the Go runtime (element size × `alloc`, time per step) are runtime behaviour: measured per
  call by the harness (evidence.measurements), not proved. For scale: DESIGN.md measured 3.7–11.6 MB for a 7-octet
  input announcing 65 535 IEs (one over-claimed list); the budget below allows four such lists on one path.
-/

/-- **projection**: the instrumented decoder without its counters is the decoder model of `decoder_total`
    (which the differential runs tie to aper.go) -/
theorem cost_model_projection (env : Env) (fuel : Nat) (ty : Ty) (params : Params) (bs : Bytes) :
    (unmarshalCost env fuel ty params bs).1 = unmarshal env fuel ty params bs :=
  unmarshalCost_fst env fuel ty params bs

/-- Table fact, re-decided on every run over the regenerated schema: both weightings in one pass over the schema
    (`costSummary2`, Proofs/AperCostPair.lean) -/
theorem cost_tables :
    costSummary2 0 1 1 0 Gen.Ngap.schema (.struct Gen.Ngap.pduId) Gen.Ngap.decoderParams =
      some ((⟨0, 9, 262143, true⟩, 0, 9, 262143), (⟨206, 296, 0, true⟩, 205, 296, 0)) := by
  decide +kernel

/-- weights steps 0, alloc 1: entry of NGAPPDU and the maxima over all 1 431 struct types: slope 9 (SEQUENCE OF /
    open-type nesting), over-claim budget 262 143 elements (four nested lists of at most 65 536, 65 536, 65 535,
    65 536 elements) -/
theorem alloc_table :
    costSummary 0 1 Gen.Ngap.schema (.struct Gen.Ngap.pduId) Gen.Ngap.decoderParams =
      some (⟨0, 9, 262143, true⟩, 0, 9, 262143) :=
  (costSummary2_sound _ _ _ _ _ _ _ _ _ cost_tables).1

/-- weights steps 1, alloc 0: at most 206 `parseField` entries that consume nothing, at most 296 per bit consumed -/
theorem steps_table :
    costSummary 1 0 Gen.Ngap.schema (.struct Gen.Ngap.pduId) Gen.Ngap.decoderParams =
      some (⟨206, 296, 0, true⟩, 205, 296, 0) :=
  (costSummary2_sound _ _ _ _ _ _ _ _ _ cost_tables).2

/-- the generic theorem behind the bounds: for every schema whose cost table is accepted, every covered type, every
    fuel and EVERY byte string, `ws·steps + wa·alloc ≤ q + p·(8·|bs|) + s` -/
theorem cost_bound (env : Env) (ws wa : Nat) (ty : Ty) (p : Params) (e : CEntry)
    (h : topCost ws wa env ty p = some e) (fuel : Nat) (bs : Bytes) :
    ws * (unmarshalCost env fuel ty p bs).2.steps + wa * (unmarshalCost env fuel ty p bs).2.alloc ≤
      e.q + e.p * (8 * bs.length) + e.s :=
  unmarshalCost_bound env ws wa ty p e h fuel bs

/-- **C14 (allocation)**: for EVERY byte string, whatever counts and lengths it claims, `ngap.Decoder` (model)
    passes at most `9·(8·|bs|) + 262 143` elements/octets to `MakeSlice` and to its string / open-type buffers —
    linear in the input, plus the schema's own list-size limits along one path (4 nested lists) -/
theorem C14_alloc_bound (fuel : Nat) (bs : Bytes) :
    (unmarshalCost Gen.Ngap.schema fuel (.struct Gen.Ngap.pduId) Gen.Ngap.decoderParams bs).2.alloc ≤
      9 * (8 * bs.length) + 262143 := by
  have := (costSummary_bounds _ _ _ _ _ _ _ _ _ alloc_table).1 fuel bs
  simp only [cst] at this
  omega

/-- **C14 (time proxy)**: for EVERY byte string the decoder enters `parseField` at most `206 + 296·(8·|bs|)` times -/
theorem C14_step_bound (fuel : Nat) (bs : Bytes) :
    (unmarshalCost Gen.Ngap.schema fuel (.struct Gen.Ngap.pduId) Gen.Ngap.decoderParams bs).2.steps ≤
      206 + 296 * (8 * bs.length) := by
  have := (costSummary_bounds _ _ _ _ _ _ _ _ _ steps_table).1 fuel bs
  simp only [cst] at this
  omega

/-- the same for every struct type of the schema decoded on its own (the transfer containers, "valueExt") -/
theorem C14_alloc_bound_any (fuel id : Nat) (params : Params) (hot : params.openType = false) (bs : Bytes) :
    (unmarshalCost Gen.Ngap.schema fuel (.struct id) params bs).2.alloc ≤ 9 * (8 * bs.length) + 262143 := by
  have := (costSummary_bounds _ _ _ _ _ _ _ _ _ alloc_table).2 fuel id params hot bs
  simp only [cst] at this
  omega

theorem C14_step_bound_any (fuel id : Nat) (params : Params) (hot : params.openType = false) (bs : Bytes) :
    (unmarshalCost Gen.Ngap.schema fuel (.struct id) params bs).2.steps ≤ 206 + 296 * (8 * bs.length) := by
  have := (costSummary_bounds _ _ _ _ _ _ _ _ _ steps_table).2 fuel id params hot bs
  simp only [cst] at this
  omega

/-- non-vacuity: 7 octets that announce 65 535 protocol IEs (NGSetupResponse, IE count `ffff`): the decoder fails,
    having passed 65 535 elements to `MakeSlice` (+ 3 octets of open-type buffer) in 13 steps — above the announced
    count, below the bound `9·56 + 262 143` -/
theorem overclaim_example :
    (match unmarshalCost Gen.Ngap.schema fuel (.struct Gen.Ngap.pduId) Gen.Ngap.decoderParams
        [0x20, 0x15, 0x00, 0x03, 0x00, 0xff, 0xff] with
      | (.error .error, c) => decide (c = ⟨65538, 13⟩)
      | _ => false) = true := by
  decide +kernel

/-- non-vacuity: a valid 57-octet NGSetupRequest (the value of `Props.C04.ngSetupRequest`) decodes with 117
    elements/octets allocated in 71 steps -/
theorem valid_example :
    (unmarshalCost Gen.Ngap.schema fuel (.struct Gen.Ngap.pduId) Gen.Ngap.decoderParams
      [0x00, 0x15, 0x00, 0x35, 0x00, 0x00, 0x04, 0x00, 0x1b, 0x00, 0x08, 0x00, 0x02, 0xf8, 0x39, 0x00, 0x00, 0x01, 0x04,
       0x00, 0x52, 0x40, 0x09, 0x03, 0x00, 0x66, 0x72, 0x65, 0x65, 0x35, 0x67, 0x63, 0x00, 0x66, 0x00, 0x10, 0x00, 0x00,
       0x00, 0x00, 0x01, 0x00, 0x02, 0xf8, 0x39, 0x00, 0x00, 0x10, 0x08, 0x01, 0x02, 0x03, 0x00, 0x15, 0x40, 0x01, 0x20]).2 =
      ⟨117, 71⟩ := by
  decide +kernel

end Stgutg.Props.C14
