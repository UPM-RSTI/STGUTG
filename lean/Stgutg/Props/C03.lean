/-
  C03 — NGAP messages are encoded exactly as X.691 aligned PER / TS 38.413 prescribe.
  Model: Stgutg.Model.AperEnc (marshal.go) over the regenerated schema; specification: Stgutg.Spec.X691
  (written from the Recommendation) under the constraints of Stgutg.Spec.Ts38413Leaf (written from TS 38.413).
  Helper lemmas: Stgutg/Proofs/AperSpec.lean (primitives; `Ref c m s`, the form every comparison has), Stgutg/Proofs/AperSpecComp.lean
  (composite types, the predicates `specOK` / `tyParamsOK` / `regular` / `specOKc`, the one induction `encode_ref`),
  Stgutg/Proofs/AperSpecTotal.lean (its two-sided instances).

  What is proved here (and what is not):
  * `encode_eq_spec` / `C03_encode_canonical`: whatever bits the encoder model produces are the bits the X.691
    specification prescribes (in particular the specification encodes the value); `encode_refuses` / `C03_refuses`:
    a value the specification does not encode (integer out of range, illegal size, unset CHOICE, open type not matching
    its identifier …) is not put on the wire. Both for EVERY schema passing the decidable `specOK` (decided for the
    regenerated NGAP schema by the kernel), every type / parameter string passing `tyParamsOK`, every `regular` value.
  * `encode_complete` / `C03_encodes_conforming`: conversely the model encodes (with the same bits) every regular value the
    specification encodes, for schemas that pass `specOKc` in addition; together: `encode_iff`, `C03_encode_iff`
    (`marshal … = .ok bs ↔ Spec.X691.encodePdu … = some bs`).
  * Hypotheses the proofs forced (each one is a place where marshal.go and X.691 disagree outside it):
    schema side (`specOK`, all hold of the NGAP schema — `ngap_schema_specOK`):
      - INTEGER: both bounds or none (the library's semi-constrained form is not X.691's); a range above 64K starts at 0
        (the octet count is taken from the value, not from value − lb) and ends below 2^63;
      - ENUMERATED: lower bound 0 (the library encodes the value, X.691 the index);
      - strings: 0 ≤ lb ≤ ub and 1 ≤ ub (SIZE(0): the library's `putBitString(bytes, 0)` indexes an empty slice when the
        writer is not octet aligned, X.691 encodes nothing); SIZE(lb..MAX) only with lb = 0 (the library writes length − lb there); a constrained
        size (ub < 64K) spans fewer than 16K values (the library's loop would fragment a constrained length of 16K or
        more, X.691 11.9.3.3 does not; NGAP's largest such span is 9600);
      - SEQUENCE OF: a lower bound whenever there is an upper bound, lb < 64K, ub ≥ 64K only without extension marker;
      - CHOICE: `valueUB` = #alternatives − 1 with at least two alternatives (one alternative: the library writes a bit,
        X.691 nothing) — or no `valueUB`, then the library refuses everything (PrivateIEID, finding F21);
      - open type: every alternative has a non-empty encoding (empty: X.691 wants one zero octet, the library writes none).
    schema side, for completeness only (`specOKc`, holds of the NGAP schema — `ngap_schema_specOKc`):
      - INTEGER bounds ordered (lb ≤ ub); at most 65536 root enumerations / CHOICE alternatives (the library's constrained
        form ends at 64K); the component governing an open type precedes it (`getReferenceFieldValue` looks at earlier
        fields only); an OPTIONAL component has a Go type that can be nil (the library asks `IsNil` of it).
    value side (`regular`; excludes no value a Go program can build from well-formed ngapType structs except as stated):
      - INTEGER values are int64 (always true in Go);
      - a BitString's `Bytes` has exactly ⌈BitLength/8⌉ octets (longer slices are legal Go values: the library ignores the
        excess, the specification here is stated on the regular representation);
      - a CHOICE struct has only the selected alternative non-nil (a second non-nil pointer is ignored by the library).
      (No bound on lengths: strings and open-type contents of 16K items or more are covered — `Spec.X691.lengthAndItems`
      is the fragmented form of X.691 11.9.3.8 and the encoder model is marshal.go after the repair of F36,
      `length_fragmented_eq`. A SEQUENCE OF whose count is a general length of 16384 or more is refused by the library and
      not encoded by the specification (no NGAP list can be that long except UEAssociatedLogicalNGConnectionList 1..65536).)
-/
import Stgutg.Model.AperEnc
import Stgutg.Spec.X691
import Stgutg.Spec.Ts38413Leaf
import Stgutg.Gen.NgapSchema
import Stgutg.Proofs.AperSpecTotal
import Stgutg.Proofs.AperSpecFast

namespace Stgutg.Props.C03
open Stgutg Stgutg.Aper Stgutg.Proofs.AperSpec

/-- Table fact, re-decided on every run: each of the simple types and list types tabled by hand from TS 38.413
    clause 9.4.5 occurs in the schema as a one-field wrapper (all 150 + 32 are found: struct names are unique,
    table names are distinct), and its struct tag carries exactly the standard's PER-visible constraint
    (optional/extension flags, size and value bounds, open-type attributes). -/
theorem tags_are_ts38413 :
    Spec.Ts38413.checkTable Gen.Ngap.schema =
      (Spec.Ts38413.leafTable.length + Spec.Ts38413.listTable.length, true) := by decide +kernel

/-- the table names are pairwise distinct -/
theorem table_names_distinct :
    (Spec.Ts38413.leafTable.map (·.1)).Nodup ∧ (Spec.Ts38413.listTable.map (·.1)).Nodup := by decide +kernel

/-! ### (a) the primitives, for all inputs in the stated domain (no schema involved) -/

/-- 11.5 constrained whole number, range 2..65536, offset inside the range: the model and the specification
    both encode, and produce the same bits. (Range 1: callers write nothing; the model function itself would write a bit.) -/
theorem constrained_eq (pos : Nat) (range : Int) (v : Nat) (b : Bits) (h2 : 2 ≤ range) (h64 : range ≤ 65536)
    (hv : (v : Int) < range) :
    appendConstraintValue pos range v = .ok b ↔ Spec.X691.constrainedWholeNumber pos v range.toNat = some b :=
  (constrained_ref pos range v h2 hv).iff h64 b

example : appendConstraintValue 3 300 299 = .ok (List.replicate 5 false ++ natToBits 16 299) ∧
    Spec.X691.constrainedWholeNumber 3 299 300 = some (List.replicate 5 false ++ natToBits 16 299) := by decide +kernel

/-- 11.9 general length determinant below the fragmentation threshold (the form used without a usable upper bound) -/
theorem length_eq (pos : Nat) (sr : Int) (n lb : Nat) (ub : Option Nat) (b : Bits) (hn : n < 16384)
    (hsr : sr ≤ 0 ∨ 65536 < sr) (hub : ∀ u, ub = some u → 65536 ≤ u) :
    appendLength pos sr n = .ok b ↔ Spec.X691.lengthDeterminant pos n lb ub = some b := by
  rw [length_unc pos sr n hn hsr, lengthDeterminant_unc pos n lb ub hn hub]
  simp

/-- 11.9.3.3 constrained length: `n − lb` in `ub − lb + 1` values -/
theorem length_constrained_eq (pos n lb u : Nat) (b : Bits) (hl : lb ≤ n) (hu : n ≤ u) (hlu : lb < u) (hu64 : u < 65536)
    (h : appendLength pos ((u : Int) - lb + 1) (n - lb) = .ok b) :
    Spec.X691.lengthDeterminant pos n lb (some u) = some b :=
  (length_con_ref pos n lb u hl hu hlu hu64).fwd h

/-- 13 INTEGER (int64 values; both bounds or none, ordered; a range above 64K starts at 0 and ends below 2^63):
    same domain, same bits -/
theorem integer_eq (pos : Nat) (v : Int) (ext : Bool) (lbP ubP : Option Int) (b : Bits)
    (hok : intOK' lbP ubP = true) (hlu : ∀ l u, lbP = some l → ubP = some u → l ≤ u)
    (h1 : -(2 ^ 63) ≤ v) (h2 : v < 2 ^ 63) :
    appendInteger pos v ext lbP ubP = .ok b ↔ Spec.X691.integer pos v ext lbP ubP = some b :=
  (integer_ref pos v ext lbP ubP hok h1 h2).iff hlu b

/-- an out-of-range value of a non-extensible INTEGER is not encoded by the specification (hence refused by the model) -/
theorem integer_out_of_range (pos : Nat) (v l u : Int) (h : v < l ∨ u < v) :
    Spec.X691.integer pos v false (some l) (some u) = none := by
  unfold Spec.X691.integer
  have : ¬ (l ≤ v ∧ v ≤ u) := by omega
  simp [this]

example : intOK' (some 0) (some 4294967295) = true ∧
    appendInteger 1 70000 false (some 0) (some 4294967295) = .ok (natToBits 2 2 ++ List.replicate 5 false ++ natToBits 24 70000) := by
  decide +kernel

/-- 14 ENUMERATED (root enumerations numbered from 0) -/
theorem enumerated_eq (pos n : Nat) (ext : Bool) (lbP ubP : Option Int) (b : Bits) (hok : enumOK' lbP = true)
    (hub : ∀ u, ubP = some u → u < 65536) :
    appendEnumerated pos n ext lbP ubP = .ok b ↔ Spec.X691.enumerated pos n ext lbP ubP = some b :=
  (enumerated_ref pos n ext lbP ubP hok).iff hub b

/-- 11.9.3.5 – 11.9.3.8, every length: with a general (unconstrained) length the fragmentation loop of
    appendBitString / appendOctetString / appendOpenType (after the repair of F36) writes exactly the 16K-fragments,
    the lengths and the final length (0 after an exact multiple of 16K) the Recommendation prescribes -/
theorem length_fragmented_eq (unit : Nat) (hunit : (16384 * unit) % 8 = 0) (pos n : Nat) (payload : Bits)
    (hpl : payload.length = n * unit) :
    fragLoop unit (-1) 0 (n / 16384 + 2) pos n payload =
      .ok (Spec.X691.lengthAndItems unit (n / 16384 + 1) pos n payload) :=
  fragLoop_unc unit hunit (n / 16384 + 1) pos n payload hpl (Nat.le_refl _)

theorem bytesToBits_replicate_ff (n : Nat) : bytesToBits (List.replicate n 0xff) = List.replicate (8 * n) true := by
  induction n with
  | zero => rfl
  | succ n ih =>
    rw [List.replicate_succ, Proofs.Bits.bytesToBits_cons, ih, show 8 * (n + 1) = 8 + 8 * n by omega,
      ← List.replicate_append_replicate]
    rfl

set_option maxRecDepth 10000000 in
/-- fragmentation is exercised: a BIT STRING of exactly 16384 bits is one fragment `11000001`, the bits, and the final
    length 0 — in the model (after the repair of F36) and in the specification -/
example : appendBitString 0 (List.replicate 2048 0xff) 16384 false none none =
      .ok ([true, true] ++ natToBits 6 1 ++ List.replicate 16384 true ++ natToBits 8 0) ∧
    Spec.X691.bitString 0 (List.replicate 16384 true) false none none =
      some ([true, true] ++ natToBits 6 1 ++ List.replicate 16384 true ++ natToBits 8 0) := by
  -- the specification: one fragment of 16K bits, octet-aligned throughout, then the length 0; the model by `bit_string_iff`
  have hs : Spec.X691.bitString 0 (List.replicate 16384 true) false none none =
      some ([true, true] ++ natToBits 6 1 ++ List.replicate 16384 true ++ natToBits 8 0) := by
    unfold Spec.X691.bitString
    simp only [Spec.X691.sizeConstraint, List.length_replicate]
    have e : (16384 / 16384 + 1) = 2 := by decide
    simp only [reduceCtorEq, false_and, if_false, Bool.false_eq_true, e]
    unfold Spec.X691.lengthAndItems
    simp only [show ¬ 16384 < 16384 by decide, if_false, show min 4 (16384 / 16384) = 1 by decide,
      List.length_nil, Nat.add_zero]
    unfold Spec.X691.lengthAndItems
    simp only [show 16384 - 1 * 16384 = 0 by decide, show 1 * 16384 * 1 = 16384 by decide, show (0:Nat) < 16384 by decide, if_true,
      show (0:Nat) < 128 by decide, List.take_replicate, List.drop_replicate, List.length_replicate]
    have pad8 : ∀ n, n % 8 = 0 → Spec.X691.pad n = [] := fun n h => alignBits_aligned n h
    rw [pad8 0 rfl]
    simp only [List.nil_append, List.length_append, List.length_cons, List.length_nil, natToBits_length, Nat.min_self]
    rw [pad8 _ (by decide), pad8 _ (by decide)]
    simp only [List.append_nil, List.nil_append, List.append_assoc]
  have hm := (bit_string_iff 0 (List.replicate 2048 0xff) 16384 false none none
    ([true, true] ++ natToBits 6 1 ++ List.replicate 16384 true ++ natToBits 8 0) rfl (by simp)).mpr
  rw [bytesToBits_replicate_ff, List.take_replicate, show min 16384 (8 * 2048) = 16384 from rfl] at hm
  exact ⟨hm hs, hs⟩

/-- 16 BIT STRING, every length -/
theorem bit_string_eq (pos : Nat) (bytes : Bytes) (len : Nat) (ext : Bool) (lbP ubP : Option Int) (b : Bits)
    (hok : strOK' lbP ubP = true) (hbytes : bytes.length = (len + 7) / 8) :
    appendBitString pos bytes len ext lbP ubP = .ok b ↔
      Spec.X691.bitString pos ((bytesToBits bytes).take len) ext lbP ubP = some b :=
  bit_string_iff pos bytes len ext lbP ubP b hok hbytes

/-- 17 OCTET STRING, every length -/
theorem octet_string_eq (pos : Nat) (bytes : Bytes) (ext : Bool) (lbP ubP : Option Int) (b : Bits)
    (hok : strOK' lbP ubP = true) :
    appendOctetString pos bytes ext lbP ubP = .ok b ↔ Spec.X691.octetString pos bytes ext lbP ubP = some b :=
  octet_string_iff pos bytes ext lbP ubP b hok

example : strOK' (some 1) (some 150) = true ∧
    appendOctetString 0 [0x41, 0x4d, 0x46] true (some 1) (some 150) =
      .ok ([false] ++ natToBits 8 2 ++ List.replicate 7 false ++ bytesToBits [0x41, 0x4d, 0x46]) := by decide +kernel

/-- 23.6 index of the chosen alternative among `nAlt ≥ 2` root alternatives -/
theorem choice_index_eq (pos p nAlt : Nat) (ext : Bool) (ub : Int) (b : Bits)
    (hub : ub + 1 = (nAlt : Int)) (h2 : 2 ≤ nAlt) (h64 : nAlt ≤ 65536) (hp1 : 1 ≤ p) (hp : p ≤ nAlt) :
    appendChoiceIndex pos p ext (some ub) = .ok b ↔ Spec.X691.constrainedWholeNumber pos (p - 1) nAlt = some b :=
  (choice_index_ref pos p nAlt ext ub hub h2 hp1 hp).iff h64 b

/-! ### (b) composite types, for every schema that passes `specOK` -/

/-- **the encoder model writes what X.691 prescribes** -/
theorem encode_eq_spec (env : Env) (hwf : specOK env = true) (fuel pos : Nat) (ty : Ty) (params : Params) (v : Val)
    (bits : Bits) (hp : tyParamsOK env ty params = true) (hr : regular env fuel ty params.openType v = true)
    (h : encField env fuel pos ty params v = .ok bits) : Spec.X691.encode env fuel pos ty params v = some bits :=
  Proofs.AperSpec.encode_eq_spec env hwf fuel pos ty params v bits hp hr h

/-- **what X.691 does not encode is not put on the wire** -/
theorem encode_refuses (env : Env) (hwf : specOK env = true) (fuel pos : Nat) (ty : Ty) (params : Params) (v : Val)
    (hp : tyParamsOK env ty params = true) (hr : regular env fuel ty params.openType v = true)
    (hs : Spec.X691.encode env fuel pos ty params v = none) : ∀ bits, encField env fuel pos ty params v ≠ .ok bits :=
  Proofs.AperSpec.encode_refuses env hwf fuel pos ty params v hp hr hs

/-- **the encoder model encodes, with the same bits, whatever X.691 encodes** (completeness) -/
theorem encode_complete (env : Env) (hwf : specOK env = true) (hwfc : specOKc env = true) (fuel pos : Nat) (ty : Ty)
    (params : Params) (v : Val) (bits : Bits) (hp : tyParamsOK env ty params = true) (hpc : tyParamsOKc ty params = true)
    (hr : regular env fuel ty params.openType v = true)
    (h : Spec.X691.encode env fuel pos ty params v = some bits) : encField env fuel pos ty params v = .ok bits :=
  Proofs.AperSpec.encode_complete env hwf hwfc fuel pos ty params v bits hp hpc hr h

/-- **full strength**: on regular values the encoder model and the X.691 specification have the same domain and the same bits -/
theorem encode_iff (env : Env) (hwf : specOK env = true) (hwfc : specOKc env = true) (fuel pos : Nat) (ty : Ty)
    (params : Params) (v : Val) (bits : Bits) (hp : tyParamsOK env ty params = true) (hpc : tyParamsOKc ty params = true)
    (hr : regular env fuel ty params.openType v = true) :
    encField env fuel pos ty params v = .ok bits ↔ Spec.X691.encode env fuel pos ty params v = some bits :=
  Proofs.AperSpec.encode_iff env hwf hwfc fuel pos ty params v bits hp hpc hr

/-! ### (c) the NGAP schema -/

/-- Table fact, re-decided on every run over the regenerated schema (1 431 struct types): every field of every type
    is declared with parameters inside the domain of `encode_eq_spec` -/
theorem ngap_schema_specOK : specOK Gen.Ngap.schema = true := specOK_of_fast _ (by decide +kernel)

/-- the parameter string `ngap.Encoder` passes for `NGAPPDU` -/
theorem pdu_params_ok : tyParamsOK Gen.Ngap.schema (.struct Gen.Ngap.pduId) Gen.Ngap.encoderParams = true := by
  decide +kernel

/-- Table fact, re-decided on every run: what completeness asks of the schema in addition -/
theorem ngap_schema_specOKc : specOKc Gen.Ngap.schema = true := by decide +kernel

theorem pdu_params_okc : tyParamsOKc (.struct Gen.Ngap.pduId) Gen.Ngap.encoderParams = true := by decide +kernel

/-- **C03 (full strength)**: for a regular PDU value `ngap.Encoder` (model) returns octets exactly when X.691 defines a
    complete encoding of the value under the schema's constraints, and then returns that encoding -/
theorem C03_encode_iff (fuel : Nat) (v : Val) (bs : Bytes)
    (hr : regular Gen.Ngap.schema fuel (.struct Gen.Ngap.pduId) false v = true) :
    marshal Gen.Ngap.schema fuel (.struct Gen.Ngap.pduId) Gen.Ngap.encoderParams v = .ok bs ↔
      Spec.X691.encodePdu Gen.Ngap.schema fuel (.struct Gen.Ngap.pduId) Gen.Ngap.encoderParams v = some bs :=
  marshal_iff Gen.Ngap.schema ngap_schema_specOK ngap_schema_specOKc fuel _ _ v bs pdu_params_ok pdu_params_okc hr

/-- **C03 (conforming values are encoded)** -/
theorem C03_encodes_conforming (fuel : Nat) (v : Val) (bs : Bytes)
    (hr : regular Gen.Ngap.schema fuel (.struct Gen.Ngap.pduId) false v = true)
    (h : Spec.X691.encodePdu Gen.Ngap.schema fuel (.struct Gen.Ngap.pduId) Gen.Ngap.encoderParams v = some bs) :
    marshal Gen.Ngap.schema fuel (.struct Gen.Ngap.pduId) Gen.Ngap.encoderParams v = .ok bs :=
  (C03_encode_iff fuel v bs hr).mpr h

/-- **C03 (canonical)**: the octets `ngap.Encoder` (model) returns for a PDU are the complete X.691 ALIGNED PER
    encoding of that PDU under the schema's constraints -/
theorem C03_encode_canonical (fuel : Nat) (v : Val) (bs : Bytes)
    (hr : regular Gen.Ngap.schema fuel (.struct Gen.Ngap.pduId) false v = true)
    (h : marshal Gen.Ngap.schema fuel (.struct Gen.Ngap.pduId) Gen.Ngap.encoderParams v = .ok bs) :
    Spec.X691.encodePdu Gen.Ngap.schema fuel (.struct Gen.Ngap.pduId) Gen.Ngap.encoderParams v = some bs :=
  marshal_eq_spec Gen.Ngap.schema ngap_schema_specOK fuel _ _ v bs pdu_params_ok hr h

/-- **C03 (refusal)**: a PDU the specification does not encode — an integer outside its range, a string or list of
    illegal size, an unset CHOICE, an open type that does not match its identifier — is not put on the wire -/
theorem C03_refuses (fuel : Nat) (v : Val)
    (hr : regular Gen.Ngap.schema fuel (.struct Gen.Ngap.pduId) false v = true)
    (hs : Spec.X691.encodePdu Gen.Ngap.schema fuel (.struct Gen.Ngap.pduId) Gen.Ngap.encoderParams v = none) :
    ∀ bs, marshal Gen.Ngap.schema fuel (.struct Gen.Ngap.pduId) Gen.Ngap.encoderParams v ≠ .ok bs :=
  marshal_refuses Gen.Ngap.schema ngap_schema_specOK fuel _ _ v pdu_params_ok hr hs

/-- the same pair for every struct type of the schema marshalled on its own (the PDU-session / handover transfer
    containers are marshalled with the parameter string "valueExt") -/
theorem C03_container_canonical (fuel id : Nat) (params : Params) (v : Val) (bs : Bytes)
    (hp : tyParamsOK Gen.Ngap.schema (.struct id) params = true)
    (hr : regular Gen.Ngap.schema fuel (.struct id) params.openType v = true)
    (h : marshal Gen.Ngap.schema fuel (.struct id) params v = .ok bs) :
    Spec.X691.encodePdu Gen.Ngap.schema fuel (.struct id) params v = some bs :=
  marshal_eq_spec Gen.Ngap.schema ngap_schema_specOK fuel _ _ v bs hp hr h

theorem C03_container_refuses (fuel id : Nat) (params : Params) (v : Val)
    (hp : tyParamsOK Gen.Ngap.schema (.struct id) params = true)
    (hr : regular Gen.Ngap.schema fuel (.struct id) params.openType v = true)
    (hs : Spec.X691.encodePdu Gen.Ngap.schema fuel (.struct id) params v = none) :
    ∀ bs, marshal Gen.Ngap.schema fuel (.struct id) params v ≠ .ok bs :=
  marshal_refuses Gen.Ngap.schema ngap_schema_specOK fuel _ _ v hp hr hs

theorem C03_container_iff (fuel id : Nat) (params : Params) (v : Val) (bs : Bytes)
    (hp : tyParamsOK Gen.Ngap.schema (.struct id) params = true) (hpc : tyParamsOKc (.struct id) params = true)
    (hr : regular Gen.Ngap.schema fuel (.struct id) params.openType v = true) :
    marshal Gen.Ngap.schema fuel (.struct id) params v = .ok bs ↔
      Spec.X691.encodePdu Gen.Ngap.schema fuel (.struct id) params v = some bs :=
  marshal_iff Gen.Ngap.schema ngap_schema_specOK ngap_schema_specOKc fuel _ _ v bs hp hpc hr

/-- the parameter string "valueExt" is inside the domain for every struct type, SEQUENCE or CHOICE, in the schema or not:
    `structOK` asks nothing of a type used without `openType` and without `valueUB`, it does not even look the type up -/
theorem valueExt_params_ok (id : Nat) : tyParamsOK Gen.Ngap.schema (.struct id) { valueExt := true } = true := by
  simp [tyParamsOK, structOK]

theorem valueExt_params_okc (id : Nat) : tyParamsOKc (.struct id) { valueExt := true } = true := by
  simp [tyParamsOKc]

/-! ### non-vacuity -/

/-- the alternatives of a CHOICE value: `n` pointers, all nil but number `k` (1-based) -/
def alts (n k : Nat) (v : Val) : List Val := (List.range n).map fun i => if i + 1 = k then .ptr v else .nil

/-- an NG SETUP RESPONSE with AMFName "AMF" and a RelativeAMFCapacity -/
def ngSetupResponse (capacity : Int) : Val :=
  let ie1 := Val.struct [.struct [.int 1], .struct [.enum 0],
    .struct (.int 1 :: alts 5 1 (.struct [.str [0x41, 0x4d, 0x46]]))]
  let ie2 := Val.struct [.struct [.int 86], .struct [.enum 1],
    .struct (.int 3 :: alts 5 3 (.struct [.int capacity]))]
  let msg := Val.struct [.struct [.slice [ie1, ie2]]]
  let so := Val.struct [.struct [.int 21], .struct [.enum 0], .struct (.int 7 :: alts 18 7 msg)]
  .struct (.int 2 :: alts 3 2 so)

set_option maxRecDepth 1000000 in
/-- the hypotheses of `C03_encode_canonical` are satisfiable: a regular value the model encodes (21 octets) -/
example : regular Gen.Ngap.schema 40 (.struct Gen.Ngap.pduId) false (ngSetupResponse 255) = true ∧
    marshal Gen.Ngap.schema 40 (.struct Gen.Ngap.pduId) Gen.Ngap.encoderParams (ngSetupResponse 255) =
      .ok [0x20, 0x15, 0x00, 0x11, 0x00, 0x00, 0x02, 0x00, 0x01, 0x00, 0x05, 0x01, 0x00, 0x41, 0x4d, 0x46,
           0x00, 0x56, 0x40, 0x01, 0xff] := by decide +kernel

set_option maxRecDepth 1000000 in
/-- the hypotheses of `C03_refuses` are satisfiable: RelativeAMFCapacity 256 is outside 0..255, the value is regular
    and the specification does not encode it -/
example : regular Gen.Ngap.schema 40 (.struct Gen.Ngap.pduId) false (ngSetupResponse 256) = true ∧
    Spec.X691.encodePdu Gen.Ngap.schema 40 (.struct Gen.Ngap.pduId) Gen.Ngap.encoderParams (ngSetupResponse 256) = none := by
  decide +kernel

/-- a GUAMI (struct 11: PLMNIdentity SIZE(3), AMFRegionID SIZE(8), AMFSetID SIZE(10), AMFPointer SIZE(6), no extensions) -/
def guami (plmn : Bytes) : Val :=
  .struct [.struct [.octs plmn], .struct [.bits [0x01] 8], .struct [.bits [0x00, 0x40] 10], .struct [.bits [0x04] 6], .nil]

set_option maxRecDepth 1000000 in
/-- `C03_container_iff` is not vacuous: a regular GUAMI marshalled on its own with "valueExt" (7 octets) -/
example : regular Gen.Ngap.schema 10 (.struct 11) false (guami [0x02, 0xf8, 0x39]) = true ∧
    marshal Gen.Ngap.schema 10 (.struct 11) { valueExt := true } (guami [0x02, 0xf8, 0x39]) =
      .ok [0x00, 0x02, 0xf8, 0x39, 0x01, 0x00, 0x41] := by decide +kernel

set_option maxRecDepth 1000000 in
/-- refusal, string of illegal size: a 2-octet PLMNIdentity (SIZE(3)) is regular, not encoded by the specification -/
example : regular Gen.Ngap.schema 10 (.struct 11) false (guami [0x02, 0xf8]) = true ∧
    Spec.X691.encodePdu Gen.Ngap.schema 10 (.struct 11) { valueExt := true } (guami [0x02, 0xf8]) = none := by
  decide +kernel

set_option maxRecDepth 1000000 in
/-- refusal, unset CHOICE: an NGAPPDU with `Present = 0` -/
example : regular Gen.Ngap.schema 40 (.struct Gen.Ngap.pduId) false (.struct (.int 0 :: alts 3 0 .nil)) = true ∧
    Spec.X691.encodePdu Gen.Ngap.schema 40 (.struct Gen.Ngap.pduId) Gen.Ngap.encoderParams
      (.struct (.int 0 :: alts 3 0 .nil)) = none := by decide +kernel

/-- an NG SETUP RESPONSE whose only IE carries id 86 (RelativeAMFCapacity) but the AMFName alternative -/
def mismatched : Val :=
  let ie := Val.struct [.struct [.int 86], .struct [.enum 0],
    .struct (.int 1 :: alts 5 1 (.struct [.str [0x41, 0x4d, 0x46]]))]
  let msg := Val.struct [.struct [.slice [ie]]]
  let so := Val.struct [.struct [.int 21], .struct [.enum 0], .struct (.int 7 :: alts 18 7 msg)]
  .struct (.int 2 :: alts 3 2 so)

set_option maxRecDepth 1000000 in
/-- refusal, open type not matching its identifier -/
example : regular Gen.Ngap.schema 40 (.struct Gen.Ngap.pduId) false mismatched = true ∧
    Spec.X691.encodePdu Gen.Ngap.schema 40 (.struct Gen.Ngap.pduId) Gen.Ngap.encoderParams mismatched = none := by
  decide +kernel

end Stgutg.Props.C03
