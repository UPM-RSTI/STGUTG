/-
  C18 — configuration file and command line reach the procedures unchanged.

  Generated tables (Gen/Wiring.lean, from utils.go struct tags, src/config.yaml, README.md, stg-utg.go), the hand
  model of GetMode/Min (Model/Config.lean) and the hand-written expectation (Spec/ConfigWiring.lean).
  Not covered by theorems: what yaml.v2 makes of a scalar (external; validated by the `config` correspondence domain).
-/
import Stgutg.Model.Config
import Stgutg.Spec.ConfigWiring

namespace Stgutg.Props.C18
open Stgutg Stgutg.Model.Config Stgutg.Spec.ConfigWiring Stgutg.Gen.Wiring

/-- the yaml tags of the configuration struct -/
def tags : List String := fields.map (·.1)

/-- Go kind → kind of value in the documentation -/
def kindClass (k : String) : String := if k = "string" then "string" else "int"

/-- **The struct tags are exactly the documented keys** of src/config.yaml: 24 each, no duplicates, each tag a
    documented key and each documented key a tag (so the correspondence is a bijection). -/
theorem C18_keys :
    tags.length = 24 ∧ documentedKeys.length = 24 ∧ tags.Nodup ∧ documentedKeys.Nodup ∧
    (∀ t ∈ tags, t ∈ documentedKeys) ∧ (∀ k ∈ documentedKeys, k ∈ tags) := by decide +kernel

/-- the keys of the sample file are the 24 keys of the hand-written specification, and every field has the kind of
    value the documentation shows for its key -/
theorem C18_keys_spec :
    (∀ k ∈ documentedKeys, k ∈ keys) ∧ (∀ k ∈ keys, k ∈ documentedKeys) ∧ keys.Nodup ∧
    (∀ f ∈ fields, documented.lookup f.1 = some (kindClass f.2.2)) := by decide +kernel

/-- every key that the README shows in its configuration snippets is a key the program reads -/
theorem C18_readme_keys : ∀ k ∈ readmeKeys, k ∈ tags := by decide +kernel

/-- the source is this expression over keys, symbolically -/
def srcMatches : Src → KeyExpr → Bool
  | .field f, .key k => keyOfField f == some k
  | .min a b, .min x y => srcMatches a x && srcMatches b y
  | _, _ => false

theorem eval_of_matches {V : Type} (cfg : String → V) (mn : V → V → V) :
    ∀ (s : Src) (e : KeyExpr), srcMatches s e = true → s.eval cfg mn = some (e.eval cfg mn) := by
  intro s
  induction s with
  | field f =>
    intro e h
    cases e with
    | key k =>
      simp only [srcMatches, beq_iff_eq] at h
      simp [Src.eval, KeyExpr.eval, h]
    | min x y => simp [srcMatches] at h
  | min a b iha ihb =>
    intro e h
    cases e with
    | key k => simp [srcMatches] at h
    | min x y =>
      simp only [srcMatches, Bool.and_eq_true] at h
      simp [Src.eval, KeyExpr.eval, iha x h.1, ihb y h.2]
  | other t => intro e h; cases e <;> simp [srcMatches] at h

theorem flows_symbolic : ∀ f ∈ expectedFlows,
    ((argAt f.mode f.callee f.occ f.pos).map (srcMatches · (.key f.key))) = some true := by decide +kernel

/-- **Wiring.** For every assignment `cfg` of values to keys (any type of values), in each mode the argument at every
    expected (procedure call, position) evaluates to the value of the expected key — amf_ngap_ip → ConnectToAmf
    argument 0, …, key by key as listed in `Spec.ConfigWiring.expectedFlows`. -/
theorem C18_wiring {V : Type} (cfg : String → V) (mn : V → V → V) :
    ∀ f ∈ expectedFlows, (argAt f.mode f.callee f.occ f.pos).bind (Src.eval cfg mn) = some (cfg f.key) := by
  intro f hf
  have h := flows_symbolic f hf
  cases hs : argAt f.mode f.callee f.occ f.pos with
  | none => simp [hs] at h
  | some s =>
    simp only [hs, Option.map_some, Option.some.injEq] at h
    simpa [KeyExpr.eval] using eval_of_matches cfg mn s (.key f.key) h

/-- the positions are the parameters the documentation means (names from the procedures' declarations) -/
theorem C18_wiring_params : ∀ f ∈ expectedFlows, (signatures.lookup f.callee).bind (·[f.pos]?) = some f.param := by
  decide +kernel

/-- all flows of configuration values into procedure arguments that `main` contains -/
def generatedFlows : List Flow :=
  modes.flatMap fun (m, calls) =>
    (List.range calls.length).flatMap fun i =>
      match calls[i]? with
      | none => []
      | some c =>
        let occ := ((calls.take i).filter (fun d => d.callee == c.callee)).length
        (List.range c.args.length).flatMap fun p =>
          match c.args[p]? with
          | some (Src.field f) =>
            match keyOfField f, (signatures.lookup c.callee).bind (·[p]?) with
            | some k, some prm => [⟨m, c.callee, occ, p, prm, k⟩]
            | _, _ => [⟨m, c.callee, occ, p, "?", "?"⟩]
          | some (Src.min _ _) => [⟨m, c.callee, occ, p, "?", "min"⟩]
          | _ => []

/-- **No other flow.** The configuration-derived arguments in `main` are exactly the expected ones, in order: no key
    reaches a parameter it is not meant for, none is passed twice, none through `Min`. -/
theorem C18_wiring_complete : generatedFlows = expectedFlows := by decide +kernel

def boundMatches : Option Bound → Option KeyExpr → Bool
  | some .none, none => true
  | some (.upto s), some e => srcMatches s e
  | some (.each _ s), some e => srcMatches s e
  | _, _ => false

theorem repetitions_symbolic : ∀ r ∈ expectedRepetitions, boundMatches (boundAt r.mode r.callee r.occ) r.times = true := by
  decide +kernel

/-- the number of turns of the loop around a call, under a configuration -/
def Bound.times {V : Type} (cfg : String → V) (mn : V → V → V) : Bound → Option (Option V)
  | .none => some none
  | .upto s => (s.eval cfg mn).map some
  | .each _ s => (s.eval cfg mn).map some

/-- **Repetitions.** For every configuration, each procedure runs once or as many times as the expected expression
    over ue_number / the five test counts says (`Min` is the cap; with `mn := goMin` on integers it is Go's `Min`). -/
theorem C18_repetitions {V : Type} (cfg : String → V) (mn : V → V → V) :
    ∀ r ∈ expectedRepetitions,
      (boundAt r.mode r.callee r.occ).bind (Bound.times cfg mn) = some (r.times.map (KeyExpr.eval cfg mn)) := by
  intro r hr
  have h := repetitions_symbolic r hr
  cases hb : boundAt r.mode r.callee r.occ with
  | none => simp [hb, boundMatches] at h
  | some b =>
    rw [hb] at h
    cases b with
    | none =>
      cases ht : r.times with
      | none => simp [Bound.times]
      | some e => simp [ht, boundMatches] at h
    | upto s =>
      cases ht : r.times with
      | none => simp [ht, boundMatches] at h
      | some e =>
        simp only [ht, boundMatches] at h
        simp [Bound.times, eval_of_matches cfg mn s e h]
    | each l s =>
      cases ht : r.times with
      | none => simp [ht, boundMatches] at h
      | some e =>
        simp only [ht, boundMatches] at h
        simp [Bound.times, eval_of_matches cfg mn s e h]

/-- every procedure call of `main` has an expected repetition (none is left out) -/
theorem C18_repetitions_complete :
    (modes.flatMap fun (m, calls) => calls.map fun c => (m, c.callee)) =
      expectedRepetitions.map fun r => (r.mode, r.callee) := by decide +kernel

/-- `Min` on integers is the smaller of the two -/
theorem goMin_spec (x y : Int) : goMin x y = min x y := by
  unfold goMin
  omega

/-- **Every documented key is used**: it reaches a procedure parameter or a repetition count in some mode -/
theorem C18_every_key_reaches : ∀ k ∈ keys,
    k ∈ expectedFlows.map (·.key) ∨
    k ∈ expectedRepetitions.flatMap (fun r => match r.times with | some e => e.keysOf | none => []) := by decide +kernel

/-- **Mode selection**: `GetMode(os.Args)`, as `main` calls it, computes the documented mode for every argument
    vector. -/
theorem C18_mode_spec (argv : List String) : getMode argv argv = .ok (modeOf argv) := by
  match argv with
  | [] => simp [getMode, modeOf]
  | [_] => simp [getMode, modeOf]
  | [a, b] =>
    by_cases hb : b = "-t"
    · subst hb; simp [getMode, modeOf]
    · simp only [getMode, List.length_cons, List.length_nil]
      simp [hb]
      unfold modeOf
      split <;> simp_all
  | _ :: _ :: _ :: _ => simp [getMode, modeOf]

/-- the argument vectors of the two documented modes -/
theorem modeOf_eq (argv : List String) :
    (modeOf argv = 1 ↔ argv.length = 1) ∧ (modeOf argv = 2 ↔ ∃ a, argv = [a, "-t"]) := by
  match argv with
  | [] => simp [modeOf]
  | [_] => simp [modeOf]
  | [a, b] =>
    unfold modeOf
    split <;> simp_all
  | _ :: _ :: _ :: _ => simp [modeOf]

theorem C18_mode_traffic (argv : List String) : getMode argv argv = .ok 1 ↔ argv.length = 1 := by
  rw [C18_mode_spec, Except.ok.injEq]
  exact (modeOf_eq argv).1

theorem C18_mode_test (argv : List String) : getMode argv argv = .ok 2 ↔ ∃ a, argv = [a, "-t"] := by
  rw [C18_mode_spec, Except.ok.injEq]
  exact (modeOf_eq argv).2

/-- anything else: GetMode answers 0 (it never traps when given the process arguments) and `main` starts no procedure -/
theorem C18_mode_other (argv : List String) (h1 : argv.length ≠ 1) (h2 : ¬ ∃ a, argv = [a, "-t"]) :
    getMode argv argv = .ok 0 ∧ proceduresStarted argv = [] := by
  have h0 : modeOf argv = 0 := by
    unfold modeOf
    split
    · exact absurd rfl h1
    · exact absurd ⟨_, rfl⟩ h2
    · rfl
  refine ⟨by rw [C18_mode_spec, h0], ?_⟩
  simp only [proceduresStarted, C18_mode_spec, h0]
  decide

/-- before the mode switch `main` only reads the configuration and the mode; the switch has exactly the branches 1 and 2 -/
theorem C18_main_shape :
    preamble = ["c.GetConfiguration", "stgutg.GetMode(os.Args)"] ∧ modes.map (·.1) = [1, 2] ∧ callsOfMode 0 = [] := by
  decide +kernel

/-- GetMode compares `os.Args[1]`, not its parameter: harmless in `main` (it passes os.Args), visible otherwise -/
theorem getMode_reads_process_args :
    getMode ["stg", "-t"] ["stg"] = .error .panic ∧ getMode ["stg", "x"] ["stg", "-t"] = .ok 2 := by
  constructor <;> rfl

/-- the hypotheses of the mode theorems are inhabited: one vector per case -/
example : getMode ["stg"] ["stg"] = .ok 1 ∧ getMode ["stg", "-t"] ["stg", "-t"] = .ok 2 ∧
    getMode ["stg", "-x"] ["stg", "-x"] = .ok 0 ∧ getMode ["stg", "-t", "-t"] ["stg", "-t", "-t"] = .ok 0 ∧
    getMode [] [] = .ok 0 := by
  refine ⟨rfl, rfl, ?_, rfl, rfl⟩
  simp [getMode]

end Stgutg.Props.C18
