/-
  C01 / C02 — the reference AMF's `step` (Spec/Amf.lean) on the uplink messages of NG Setup + registration, layer by layer, and its
  `run` over messages that raise no clause.
    NGAP layer   `C01_step_ng_setup_request`, `C01_step_initial_ue_message`, `C01_step_uplink_nas_transport`: the octets the
                 emulator's wrapper returns for in-range arguments raise no NGAP clause (Proofs/BuildersJudge.lean) and hand the
                 NAS-PDU to the judge's NAS handlers
    NAS security `step_protected`: a message protected by a UE in step with the judge's record passes `receiveUl` (C06)
    NAS handlers `onPlainUplink_authenticationResponse`, `onRegistrationRequest_ok`, `onProtected_securityModeComplete`,
                 `onProtected_registrationComplete` on what the emulator's constructors build (C09)
    `C01_step_registration_request`: the INITIAL UE MESSAGE with the Registration Request opens the UE's record
    `Steps`, `run_clean_step`: the judge's `run` along messages that raise no clause; `regSt`, `regUe`: the states of the
    registration phase.
  The messages after the Registration Request are judged, with those of the later procedures, in Props/C02Steps.lean (`step_event`).
-/
import Stgutg.Proofs.Emulator
import Stgutg.Proofs.BuildersJudge
import Stgutg.Proofs.EmulatorReencode
import Stgutg.Props.C09

namespace Stgutg.Props.C01
open Stgutg Stgutg.Model.Emulator Stgutg.Proofs.Emulator Stgutg.Builders
open Stgutg.Model.NasProtect Stgutg.Proofs.NasProtect Stgutg.Spec.NasSecurity
open Stgutg.Spec.NgapView Stgutg.Spec.Ts38413

open Stgutg.Proofs.BuildersJudge in
/-- the reference AMF's plain-NAS handler on the octets `GetAuthenticationResponse(resStar, "")` produces, for every 16-octet
    RES* and a UE in state "authentication request sent": they are a plain 5GMM message (security header type 0) that parses
    under table 8.2.2.1.1 with `resStar` as authentication response parameter (C09), so the only clause in question is
    `res-star`, and the UE moves to "security mode command sent" -/
theorem onPlainUplink_authenticationResponse (u : Spec.Amf.UeSt) (resStar : Bytes)
    (h16 : resStar.length = 16) (hreg : u.reg = .authSent) :
    ∃ bs, Nas.Ctor.encodeWith Gen.Nas.layout_AuthenticationResponse (Nas.Ctor.authenticationResponse resStar []) = .ok bs ∧
      Spec.Amf.byteAt bs 1 = 0 ∧
      ∀ s k, Spec.Amf.onPlainUplink s k u bs =
        (if resStar = u.aka.resStar then s else s.fail k "res-star").setUe { u with reg := .smcSent } := by
  obtain ⟨_, bs, henc, hs⟩ := Props.C09.authenticationResponse_sent resStar [] (.inl h16)
  have hne : resStar ≠ [] := by intro h; simp [h] at h16
  rw [if_neg hne, if_neg (fun h => hne h.1)] at hs
  obtain ⟨hparse, -, hb1, -⟩ := hs.judge rfl
  refine ⟨bs, henc, hb1, fun s k => ?_⟩
  unfold Spec.Amf.onPlainUplink
  simp only [hparse]
  by_cases hres : resStar = u.aka.resStar <;>
    simp [Spec.Ts24501.Intended.authenticationResponse, Spec.Ts24501.Intended.present, Spec.Amf.optIE, hreg, hres]

/-! ### the reference AMF's `step` on the uplink messages of the exchange (Spec/Amf.lean), in conversation order

  Each theorem: for ALL configurations / AMF choices in the stated ranges, the octets the emulator's wrapper returns make the
  judge's `step` raise no clause and move its state as the conversation expects. Together they are the per-message
  obligations of `C01_accepted_statement`. -/

open Stgutg.Proofs.BuildersJudge Stgutg.Proofs.BuildersRoles in
/-- **C01_step_ng_setup_request.** UL1: on the NG SETUP REQUEST `ManageNGSetup` sends (gNB id of 22..32 bits, non-empty
    name, the 3-octet PLMN `m` of the configuration: `C01_plmn`), an AMF configured with that PLMN that has not seen an NG Setup
    on the association raises no clause and records the setup. -/
theorem C01_step_ng_setup_request (P : Prims) (cfg : Spec.Amf.Cfg) (chs : List Spec.Amf.Choice) (s : Spec.Amf.St) (k : Nat)
    (E : Model.Convert.Ext) (plmn g m name : Bytes) (bl : Int)
    (hm : m.length = 3) (h22 : 22 ≤ bl) (h32 : bl ≤ 32) (hg : g.length = (bl.toNat + 7) / 8)
    (hc : Canonical g bl.toNat) (hname : 1 ≤ name.length)
    (hcfg : Spec.Amf.plmnOf cfg = some m) (hfirst : s.ngSetup = false) :
    ∃ b, Wrapper.run E .GetNGSetupRequest plmn [.octs g, .octs m, .int bl, .str name] = .ok (.ok b) ∧
      Spec.Amf.step P cfg chs s k b = { s with ngSetup := true } := by
  obtain ⟨pdu, b, hw, hd, f1, f2, f3, f4⟩ := ngSetupRequest_wire E plmn g m name bl hm h22 h32 hg hc hname
  exact ⟨b, hw, step_ngSetupRequest P cfg chs s k b pdu m hd f1 f2 f3 f4 hcfg hfirst⟩

open Stgutg.Proofs.BuildersJudge in
/-- **C01_step_initial_ue_message.** UL2, NGAP layer: after NG Setup the INITIAL UE MESSAGE carrying a plain Registration
    Request `nas` raises no NGAP clause (decodable, expected message, mandatory IEs) and the judge goes on with
    `onRegistrationRequest` on exactly the RAN-UE-NGAP-ID and NAS-PDU the emulator passed. -/
theorem C01_step_initial_ue_message (P : Prims) (cfg : Spec.Amf.Cfg) (chs : List Spec.Amf.Choice) (s : Spec.Amf.St)
    (E : Model.Convert.Ext) (plmn : Bytes) (hplmn : plmn.length = 3) (ran : Int) (nas : Bytes)
    (hr0 : 0 ≤ ran) (hr1 : ran < 2 ^ 32) (hsetup : s.ngSetup = true)
    (hplain : Spec.Amf.byteAt nas 1 % 16 = 0) (hty : Spec.Amf.byteAt nas 2 = 0x41) :
    ∃ pdu b, Wrapper.run E .GetInitialUEMessage plmn [.int ran, .octs nas, .str []] = .ok (.ok b) ∧
      Spec.Amf.ieInt pdu ieRANUENGAPID = some ran ∧
      ∀ k, Spec.Amf.step P cfg chs s k b = Spec.Amf.onRegistrationRequest P cfg chs s k pdu nas := by
  obtain ⟨pdu, b, hw, hd, f1, f2, f3, f4, f5⟩ := initialUEMessage_wire E plmn hplmn ran nas hr0 hr1
  exact ⟨pdu, b, hw, f4, fun k => step_initialUEMessage P cfg chs s k b pdu nas hd f1 f2 f3 f5 hsetup hplain hty⟩

open Stgutg.Proofs.BuildersJudge in
/-- **C01_step_uplink_nas_transport.** UL3, UL4, UL6, NGAP layer: UPLINK NAS TRANSPORT from the UE the AMF knows under this
    RAN-UE-NGAP-ID, with the AMF-UE-NGAP-ID the AMF assigned (any value in 0..2^40−1): no NGAP clause (decodable, expected
    message, mandatory IEs, both identifiers as assigned); the NAS-PDU goes to the plain / protected NAS handler unchanged. -/
theorem C01_step_uplink_nas_transport (P : Prims) (cfg : Spec.Amf.Cfg) (chs : List Spec.Amf.Choice) (s : Spec.Amf.St)
    (E : Model.Convert.Ext) (plmn : Bytes) (hplmn : plmn.length = 3) (ran : Int) (nas : Bytes)
    (hr0 : 0 ≤ ran) (hr1 : ran < 2 ^ 32)
    (u : Spec.Amf.UeSt) (hu : s.ues.find? (·.ran == ran) = some u) (ha1 : u.ch.amfUeNgapId < 2 ^ 40) :
    ∃ b, Wrapper.run E .GetUplinkNASTransport plmn [.int u.ch.amfUeNgapId, .int ran, .octs nas] = .ok (.ok b) ∧
      ∀ k, Spec.Amf.step P cfg chs s k b =
        if Spec.Amf.byteAt nas 1 % 16 == 0 then Spec.Amf.onPlainUplink s k u nas
        else Spec.Amf.onProtectedUplink P cfg s k u false nas := by
  obtain ⟨pdu, b, hw, hd, f1, f2, f3, f4, f5, f6⟩ := uplinkNasTransport_wire E plmn hplmn (u.ch.amfUeNgapId : Int) ran nas
    (by omega) (by exact_mod_cast ha1) hr0 hr1
  exact ⟨b, hw, fun k => step_uplinkNasTransport P cfg chs s k b pdu _ ran nas hd f1 f2 f3 f4 f5 f6 u hu rfl⟩

/-- a NAS message protected by a UE in step with the judge's state `u` under a COUNT the judge expects and has not seen, sent in
    UPLINK NAS TRANSPORT with the assigned identifiers: no NGAP clause, the NAS-security clause accepts it, and the judge goes on
    with its protected-NAS handler -/
theorem step_protected (P : Prims) (hP : PrimsOk P) (cfg : Spec.Amf.Cfg) (chs : List Spec.Amf.Choice) (s : Spec.Amf.St)
    (E : Model.Convert.Ext) (plmn : Bytes) (hplmn : plmn.length = 3) (ran : Int) (hr0 : 0 ≤ ran) (hr1 : ran < 2 ^ 32)
    (u : Spec.Amf.UeSt) (hu : s.ues.find? (·.ran == ran) = some u) (ha1 : u.ch.amfUeNgapId < 2 ^ 40)
    (sec : UeSec) (hin : InStep sec u) (plain : Bytes) (sht : UInt8) (newCtx : Bool) (hsht : protectedType sht.toNat = true)
    (hnz : (sht.toNat % 16 == 0) = false) (allowed : List Nat) (c : Nat) (hc : (if newCtx then 0 else cval sec.ulCount) = c)
    (hall : allowed.contains sht.toNat = true) (hcount : Spec.Amf.expectedCount u true sht.toNat (c % 256) = some c)
    (hfresh : Spec.Amf.fresh u sht.toNat c = true) :
    ∃ o b, (Model.NasProtect.encodeNasPduWithSecurity P sec plain sht true newCtx).2 = .ok o ∧
      Wrapper.run E .GetUplinkNASTransport plmn [.int u.ch.amfUeNgapId, .int ran, .octs o] = .ok (.ok b) ∧
      Spec.Amf.byteAt o 1 = sht.toNat ∧ Spec.Amf.receiveUl P u true allowed o = .ok (plain, c) ∧
      (∀ k, Spec.Amf.step P cfg chs s k b = Spec.Amf.onProtectedUplink P cfg s k u false o) ∧
      InStep (Model.NasProtect.encodeNasPduWithSecurity P sec plain sht true newCtx).1 u ∧
      cval (Model.NasProtect.encodeNasPduWithSecurity P sec plain sht true newCtx).1.ulCount = (c + 1) % 2 ^ 24 := by
  obtain ⟨o, ho, h1, hr, hin', hcnt⟩ := protected_received P hP sec u hin plain sht newCtx hsht true allowed c hc hall hcount hfresh
  obtain ⟨b, hrun, hstep⟩ := C01_step_uplink_nas_transport P cfg chs s E plmn hplmn ran o hr0 hr1 u hu ha1
  refine ⟨o, b, ho, hrun, h1, hr, fun k => ?_, hin', hcnt⟩
  simp only [hstep, h1, hnz, Bool.false_eq_true, if_false]

/-- the judge's protected-NAS handler on an accepted REGISTRATION COMPLETE -/
theorem onProtected_registrationComplete (P : Prims) (cfg : Spec.Amf.Cfg) (s : Spec.Amf.St) (k : Nat) (u : Spec.Amf.UeSt)
    (nas rc : Bytes) (c : Nat) (ics cflag : Bool) (hsht : Spec.Amf.byteAt nas 1 = 2) (hreg : u.reg = .ctxSetup ics cflag)
    (hrul : Spec.Amf.receiveUl P u true [2] nas = .ok (rc, c))
    (hb0 : Spec.Amf.byteAt rc 0 = 0x7E) (hb1 : Spec.Amf.byteAt rc 1 = 0) (hb2 : Spec.Amf.byteAt rc 2 = 0x43)
    (hparse : (Spec.Amf.parseNas Spec.Ts24501.registrationComplete rc).isSome = true) :
    Spec.Amf.onProtectedUplink P cfg s k u false nas =
      s.setUe { Spec.Amf.accepted u 2 c with reg := if ics then .registered else .ctxSetup ics true } := by
  have hsmc : (Spec.Amf.Reg.ctxSetup ics cflag == Spec.Amf.Reg.smcSent) = false := by cases ics <;> cases cflag <;> rfl
  have haccreg : (Spec.Amf.accepted u 2 c).reg = .ctxSetup ics cflag := by
    simp [Spec.Amf.accepted, Spec.NasSecurity.newContext, hreg]
  unfold Spec.Amf.onProtectedUplink
  simp only [hsht, hreg, hsmc, Bool.false_eq_true, if_false, hrul, hb0, hb1, hb2, hparse, if_true]
  simp [haccreg]

/-- the UE security capability (IEI 2E) of a Registration Request with no requested NSSAI before it -/
theorem optIE_registrationRequest_cap (suci cap : Bytes) (o10 : Option Bytes) :
    Spec.Amf.optIE (Spec.Ts24501.Intended.registrationRequest 1 suci none (some cap) o10 none none) 0x2E = some cap := by
  cases o10 <;> simp [Spec.Amf.optIE, Spec.Ts24501.Intended.registrationRequest, Spec.Ts24501.Intended.present]

/-- the judge's handler on a parsed plain REGISTRATION REQUEST: with the subscriber identified from the SUCI, a choice and
    vector for it, no reuse of SUPI / RAN-UE-NGAP-ID, and a security capability announcing the selected algorithms, no clause
    is raised and the UE's state is opened -/
theorem onRegistrationRequest_ok (P : Prims) (cfg : Spec.Amf.Cfg) (chs : List Spec.Amf.Choice) (s : Spec.Amf.St) (k : Nat)
    (pdu : Aper.Val) (nas suci cap : Bytes) (ran : Int) (o10 : Option Bytes)
    (hparse : Spec.Amf.parseNas Spec.Ts24501.registrationRequest nas =
      some (Spec.Ts24501.Intended.registrationRequest 1 suci none (some cap) o10 none none))
    (hran : Spec.Amf.ieInt pdu ieRANUENGAPID = some ran)
    (j : Nat) (ch : Spec.Amf.Choice) (aka : Spec.Ts33501A.Aka) (hsub : Spec.Amf.subscriberOf cfg suci = some j)
    (hch : chs[j]? = some ch) (hvec : Spec.Amf.vector P cfg j ch = some aka)
    (hnew : s.ues.any (·.j == j) = false) (hnewran : s.ues.any (·.ran == ran) = false)
    (hea : Spec.Identity.eaSupported cap Spec.Amf.selectedEa = true) (hia : Spec.Identity.iaSupported cap Spec.Amf.selectedIa = true) :
    Spec.Amf.onRegistrationRequest P cfg chs s k pdu nas =
      { s with ues := s.ues ++ [{ j := j, ran := ran, ch := ch, aka := aka }] } := by
  unfold Spec.Amf.onRegistrationRequest
  simp only [hparse]
  have hopt := optIE_registrationRequest_cap suci cap o10
  simp [Spec.Ts24501.Intended.registrationRequest, hsub, hch, hran, hvec, hnew, hnewran] at hopt ⊢
  simp [hopt, hea, hia]

open Stgutg.Proofs.BuildersJudge in
/-- **C01_step_registration_request.** UL2 complete, given that the reference AMF identifies subscriber `j` from the SUCI
    (`hsub`; C01_suci states the SUCI's content for every configuration, `C01_subscriber_identified` carries it into the
    reference AMF's own decimal arithmetic): the INITIAL UE MESSAGE with the REGISTRATION REQUEST the emulator builds (registration
    type 1, the SUCI `mi`, the UE security capability `secCap`) raises NO clause in the judge's `step` — NGAP and NAS — and opens
    the UE's state with the RAN-UE-NGAP-ID it carries. -/
theorem C01_step_registration_request (P : Prims) (cfg : Spec.Amf.Cfg) (chs : List Spec.Amf.Choice) (s : Spec.Amf.St)
    (E : Model.Convert.Ext) (plmn : Bytes) (hplmn : plmn.length = 3) (ran : Int) (hr0 : 0 ≤ ran) (hr1 : ran < 2 ^ 32)
    (hsetup : s.ngSetup = true) (mi secCap : Nas.Val)
    (hmi : mi.iei = 0 ∧ mi.len = mi.data.length ∧ mi.data.length < 65536)
    (hsc : secCap.iei = 0x2E ∧ secCap.len = secCap.data.length ∧ secCap.data.length < 256)
    (hea : Spec.Identity.eaSupported secCap.data Spec.Amf.selectedEa = true)
    (hia : Spec.Identity.iaSupported secCap.data Spec.Amf.selectedIa = true)
    (j : Nat) (ch : Spec.Amf.Choice) (aka : Spec.Ts33501A.Aka) (hsub : Spec.Amf.subscriberOf cfg mi.data = some j)
    (hch : chs[j]? = some ch) (hvec : Spec.Amf.vector P cfg j ch = some aka)
    (hnew : s.ues.any (·.j == j) = false) (hnewran : s.ues.any (·.ran == ran) = false) :
    ∃ nas b, Nas.Ctor.encodeWith Gen.Nas.layout_RegistrationRequest
        (Nas.Ctor.registrationRequest 1 mi none (some secCap) none none none) = .ok nas ∧
      Wrapper.run E .GetInitialUEMessage plmn [.int ran, .octs nas, .str []] = .ok (.ok b) ∧
      ∀ k, Spec.Amf.step P cfg chs s k b = { s with ues := s.ues ++ [{ j := j, ran := ran, ch := ch, aka := aka }] } := by
  obtain ⟨_, nas, henc, hs⟩ := Props.C09.registrationRequest_sent 1 mi none (some secCap) none none none
    (by decide) hmi (by intro x hx; cases hx) (by intro x hx; cases hx; exact hsc) (by intro x hx; cases hx)
    (by intro x hx; cases hx) (by intro c hc; cases hc)
  obtain ⟨hparse, -, hb1, hb2⟩ := hs.judge rfl
  obtain ⟨pdu, b, hrun, hran, hstep⟩ := C01_step_initial_ue_message P cfg chs s E plmn hplmn ran nas hr0 hr1 hsetup
    (by rw [hb1]; rfl) (by rw [hb2]; rfl)
  refine ⟨nas, b, henc, hrun, fun k => ?_⟩
  rw [hstep]
  exact onRegistrationRequest_ok P cfg chs s k pdu nas mi.data secCap.data ran none hparse hran j ch aka hsub hch hvec
    hnew hnewran hea hia

/-- the judge's protected-NAS handler on an accepted SECURITY MODE COMPLETE whose NAS message container holds a complete
    Registration Request naming the same subscriber and announcing the selected algorithms -/
theorem onProtected_securityModeComplete (P : Prims) (cfg : Spec.Amf.Cfg) (s : Spec.Amf.St) (k : Nat) (u : Spec.Amf.UeSt)
    (nas smc rr suci cap : Bytes) (hsht : Spec.Amf.byteAt nas 1 = 4) (hreg : u.reg = .smcSent)
    (hrul : Spec.Amf.receiveUl P u true [4] nas = .ok (smc, 0))
    (hb0 : Spec.Amf.byteAt smc 0 = 0x7E) (hb1 : Spec.Amf.byteAt smc 1 = 0) (hb2 : Spec.Amf.byteAt smc 2 = 0x5E)
    (hparse : Spec.Amf.parseNas Spec.Ts24501.securityModeComplete smc = some (Spec.Ts24501.Intended.securityModeComplete (some rr)))
    (o10 : Option Bytes)
    (hparse2 : Spec.Amf.parseNas Spec.Ts24501.registrationRequest rr =
      some (Spec.Ts24501.Intended.registrationRequest 1 suci none (some cap) o10 none none))
    (hsuci : Spec.Amf.suciIs cfg u.j suci = true)
    (hea : Spec.Identity.eaSupported cap Spec.Amf.selectedEa = true) (hia : Spec.Identity.iaSupported cap Spec.Amf.selectedIa = true) :
    Spec.Amf.onProtectedUplink P cfg s k u false nas =
      s.setUe { Spec.Amf.accepted u 4 0 with reg := .ctxSetup false false } := by
  have hj : (Spec.Amf.accepted u 4 0).j = u.j := by simp [Spec.Amf.accepted, Spec.NasSecurity.newContext]
  have hopt := optIE_registrationRequest_cap suci cap o10
  have hcont : Spec.Amf.optIE (Spec.Ts24501.Intended.securityModeComplete (some rr)) 0x71 = some rr := by
    simp [Spec.Amf.optIE, Spec.Ts24501.Intended.securityModeComplete, Spec.Ts24501.Intended.present]
  have hm4 : (Spec.Ts24501.Intended.registrationRequest 1 suci none (some cap) o10 none none).mand[4]?.getD [] = suci := by
    simp [Spec.Ts24501.Intended.registrationRequest]
  unfold Spec.Amf.onProtectedUplink
  simp only [hsht, hreg, beq_self_eq_true, if_true, hrul, hb0, hb1, hb2]
  simp only [hparse, hcont, hparse2, hm4, hopt, hj, hsuci, hea, hia]
  simp

/-! ### the whole uplink script of NG Setup + one registration, judged -/

/-- a step that raises no clause is simply taken (the attribution of clauses to C01 / C02 has nothing to attribute) -/
theorem run_clean_step (P : Prims) (life : Bool) (cfg : Spec.Amf.Cfg) (chs : List Spec.Amf.Choice) (s : Spec.Amf.St) (k : Nat)
    (ul : Bytes) (rest : List Bytes) (hs : s.fails = []) (hs' : (Spec.Amf.step P cfg chs s k ul).fails = []) :
    Spec.Amf.run P life cfg chs s k (ul :: rest) = Spec.Amf.run P life cfg chs (Spec.Amf.step P cfg chs s k ul) (k + 1) rest := by
  conv => lhs; unfold Spec.Amf.run
  generalize Spec.Amf.step P cfg chs s k ul = s' at hs' ⊢
  cases s'
  simp only at hs'
  subst hs'
  simp only [hs]
  cases Spec.Amf.registrationPhase s ul <;> simp

theorem run_nil (P : Prims) (life : Bool) (cfg : Spec.Amf.Cfg) (chs : List Spec.Amf.Choice) (s : Spec.Amf.St) (k : Nat) :
    Spec.Amf.run P life cfg chs s k [] = s := by
  unfold Spec.Amf.run; rfl

/-- the judge takes the messages `uls`, read at position `k` in state `s`, to state `s'`, whatever follows them -/
def Steps (P : Prims) (life : Bool) (cfg : Spec.Amf.Cfg) (chs : List Spec.Amf.Choice) (s : Spec.Amf.St) (k : Nat) (uls : List Bytes)
    (s' : Spec.Amf.St) : Prop :=
  ∀ rest, Spec.Amf.run P life cfg chs s k (uls ++ rest) = Spec.Amf.run P life cfg chs s' (k + uls.length) rest

theorem Steps.nil {P : Prims} {life : Bool} {cfg : Spec.Amf.Cfg} {chs : List Spec.Amf.Choice} {s : Spec.Amf.St} {k : Nat} :
    Steps P life cfg chs s k [] s := fun _ => rfl

theorem Steps.trans {P : Prims} {life : Bool} {cfg : Spec.Amf.Cfg} {chs : List Spec.Amf.Choice} {s s1 s2 : Spec.Amf.St} {k : Nat}
    {u1 u2 : List Bytes} (h1 : Steps P life cfg chs s k u1 s1) (h2 : Steps P life cfg chs s1 (k + u1.length) u2 s2) :
    Steps P life cfg chs s k (u1 ++ u2) s2 := fun rest => by
  rw [List.append_assoc, h1, h2, List.length_append, Nat.add_assoc]

/-- a step that raises no clause, then the rest -/
theorem Steps.step {P : Prims} {life : Bool} {cfg : Spec.Amf.Cfg} {chs : List Spec.Amf.Choice} {s s1 s' : Spec.Amf.St} {k : Nat}
    {ul : Bytes} {uls : List Bytes} (hs : s.fails = []) (h1 : Spec.Amf.step P cfg chs s k ul = s1) (hs1 : s1.fails = [])
    (h : Steps P life cfg chs s1 (k + 1) uls s') : Steps P life cfg chs s k (ul :: uls) s' := fun rest => by
  rw [List.cons_append, run_clean_step P life cfg chs s k ul _ hs (by rw [h1]; exact hs1), h1, h rest, List.length_cons,
    Nat.add_assoc, Nat.add_comm 1]

/-- the judge's state of subscriber `j` -/
def regUe (j : Nat) (ran : Int) (ch : Spec.Amf.Choice) (aka : Spec.Ts33501A.Aka) (reg : Spec.Amf.Reg) (last : Option Nat)
    (used : List Nat) : Spec.Amf.UeSt := { j := j, ran := ran, ch := ch, aka := aka, reg := reg, last := last, used := used }

/-- NG Setup done, these UEs known, no clause raised -/
def regSt (us : List Spec.Amf.UeSt) : Spec.Amf.St := { ngSetup := true, ues := us }

theorem regSt_find (us : List Spec.Amf.UeSt) (u : Spec.Amf.UeSt) (h : ∀ x ∈ us, x.ran ≠ u.ran) :
    (regSt (us ++ [u])).ues.find? (·.ran == u.ran) = some u := by
  simp only [regSt, List.find?_append]
  have : us.find? (·.ran == u.ran) = none := by
    rw [List.find?_eq_none]; intro x hx; simpa using h x hx
  rw [this]; simp

theorem regSt_setUe (us : List Spec.Amf.UeSt) (u u' : Spec.Amf.UeSt) (hj : u'.j = u.j) (h : ∀ x ∈ us, x.j ≠ u.j) :
    (regSt (us ++ [u])).setUe u' = regSt (us ++ [u']) := by
  simp only [regSt, Spec.Amf.St.setUe, List.map_append, List.map_cons, List.map_nil, hj, beq_self_eq_true, if_true]
  congr 2
  conv => rhs; rw [← List.map_id us]
  apply List.map_congr_left
  intro x hx
  have := h x hx
  simp [this]

end Stgutg.Props.C01
