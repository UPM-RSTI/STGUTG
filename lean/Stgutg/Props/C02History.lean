/-
  C02 — the judge on a UE's whole history after registration: any sequence of the procedures `EstablishPDU`,
  `ServiceRequest`, `ReleasePDU` that respects their prerequisites, of any length the 24-bit NAS COUNT allows.
  A procedure is a list of messages of the table, judged by `run_events` (Props/C02Life.lean): `proc_step`; the history is an
  induction on the list of procedures.
-/
import Stgutg.Props.C02Life
import Stgutg.Props.C02Calls

namespace Stgutg.Props.C02
open Stgutg Stgutg.Model.Emulator Stgutg.Proofs.Emulator Stgutg.Builders
open Stgutg.Model.NasProtect Stgutg.Proofs.NasProtect Stgutg.Spec.NasSecurity
open Stgutg.Spec.NgapView Stgutg.Spec.Ts38413 Stgutg.Proofs.BuildersJudge Stgutg.Proofs.BuildersLife

/-- the session state a procedure leaves; `none` = its prerequisite does not hold (TS 24.501 6.4.1.7: a new request for an
    existing session is allowed; service request and release need an established session) -/
def sessAfter : Spec.Amf.Sess → Proc → Option Spec.Amf.Sess
  | .none, .establish | .established, .establish | .released, .establish => some .established
  | .established, .service => some .established
  | .established, .release => some .released
  | _, _ => none

/-- the session state a history leaves; `none` = some prerequisite fails on the way -/
def sessAlong : Spec.Amf.Sess → List Proc → Option Spec.Amf.Sess
  | se, [] => some se
  | se, p :: ps => (sessAfter se p).bind (sessAlong · ps)

def cost (ps : List Proc) : Nat := (ps.map Proc.cost).sum
def len (ps : List Proc) : Nat := (ps.map Proc.len).sum

/-- what the judge knows of the UE and the emulator holds for it, between two procedures -/
structure Known (a : Args) (s : Spec.Amf.St) (u : Spec.Amf.UeSt) (sec : UeSec) (c : Nat) : Prop where
  clean : s.fails = []
  setup : s.ngSetup = true
  find : s.ues.find? (·.ran == a.ran) = some u
  amf : u.ch.amfUeNgapId = a.amf
  live : Live sec u c
  reg : u.reg = .registered
  psi : u.sess = .none ∨ u.psi = a.psi

/-- the judge's record of the UE after a procedure that started with last accepted COUNT `c` -/
def ueAfter (a : Args) (u : Spec.Amf.UeSt) (c : Nat) : Proc → Spec.Amf.UeSt
  | .establish => { u with last := some (c + 1), used := (c + 1) :: u.used, sess := .established, psi := a.psi }
  | .service => { u with last := some (c + 1), used := (c + 1) :: u.used, svcPending := false }
  | .release => { u with last := some (c + 2), used := (c + 2) :: (c + 1) :: u.used, sess := .released }

def stAfter (a : Args) (s : Spec.Amf.St) (u : Spec.Amf.UeSt) (c : Nat) : Proc → Spec.Amf.St
  | .establish => { s.setUe (ueAfter a u c .establish) with established := s.established ++ [u.j] }
  | .service => { s.setUe (ueAfter a u c .service) with services := s.services + 1 }
  | .release => { s.setUe (ueAfter a u c .release) with releases := s.releases + 1 }

theorem stAfter_facts (a : Args) (s : Spec.Amf.St) (u : Spec.Amf.UeSt) (c : Nat) (p : Proc) :
    (stAfter a s u c p).fails = s.fails ∧ (stAfter a s u c p).ngSetup = s.ngSetup ∧
    (stAfter a s u c p).ues = (s.setUe (ueAfter a u c p)).ues ∧
    (stAfter a s u c p).established = s.established ++ (if p = .establish then [u.j] else []) ∧
    (stAfter a s u c p).services = s.services + (if p = .service then 1 else 0) ∧
    (stAfter a s u c p).releases = s.releases + (if p = .release then 1 else 0) ∧
    (stAfter a s u c p).deregs = s.deregs := by
  cases p <;> simp [stAfter, Spec.Amf.St.setUe]

theorem ueAfter_facts (a : Args) (u : Spec.Amf.UeSt) (c : Nat) (p : Proc) :
    (ueAfter a u c p).j = u.j ∧ (ueAfter a u c p).ran = u.ran ∧ (ueAfter a u c p).ch = u.ch ∧ (ueAfter a u c p).reg = u.reg := by
  cases p <;> simp [ueAfter]

theorem sessAfter_establish {se se' : Spec.Amf.Sess} (h : sessAfter se .establish = some se') :
    (se = .none ∨ se = .established ∨ se = .released) ∧ se' = .established := by
  cases se <;> simp [sessAfter] at h ⊢ <;> exact h.symm

theorem sessAfter_service {se se' : Spec.Amf.Sess} (h : sessAfter se .service = some se') :
    se = .established ∧ se' = .established := by
  cases se <;> simp [sessAfter] at h ⊢
  exact h.symm

theorem sessAfter_release {se se' : Spec.Amf.Sess} (h : sessAfter se .release = some se') :
    se = .established ∧ se' = .released := by
  cases se <;> simp [sessAfter] at h ⊢
  exact h.symm

/-- the record and the state after a procedure's messages are the ones `ueAfter` / `stAfter` write out -/
theorem after_proc (a : Args) (s : Spec.Amf.St) (u : Spec.Amf.UeSt) (c : Nat) (h : u.last = some c) (p : Proc) :
    uAfter a (procEvs p) u = ueAfter a u c p ∧ sAfter a (procEvs p) u s = stAfter a s u c p := by
  obtain ⟨⟩ := u
  subst h
  cases p <;> exact ⟨rfl, (sAfter_cons a _ _ _ s).trans rfl⟩

/-- one procedure: its messages are a list of the table (`procEvs`), its prerequisite (`sessAfter`) the prerequisites of the
    messages along the list, and `run_events` judges them -/
theorem proc_step (P : Prims) (hP : PrimsOk P) (life : Bool) (cfg : Spec.Amf.Cfg) (chs : List Spec.Amf.Choice)
    (E : Model.Convert.Ext) (a : Args) (ha : a.OK E) (s : Spec.Amf.St) (k : Nat) (u : Spec.Amf.UeSt) (sec : UeSec) (c : Nat)
    (hk : Known a s u sec c) (p : Proc) (se : Spec.Amf.Sess) (hse : sessAfter u.sess p = some se) (hc : c + p.cost + 1 < 2 ^ 24) :
    ∃ uls sec', procUls P E a p sec uls sec' ∧ uls.length = p.len ∧
      Known a (stAfter a s u c p) (ueAfter a u c p) sec' (c + p.cost) ∧ (ueAfter a u c p).sess = se ∧
      ∀ rest, Spec.Amf.run P life cfg chs s k (uls ++ rest) = Spec.Amf.run P life cfg chs (stAfter a s u c p) (k + p.len) rest := by
  obtain ⟨hclean, hsetup, hfind, hamf, hlive, hreg, hpsi⟩ := hk
  have hp : u.sess = .established → u.psi = a.psi := fun h => hpsi.resolve_left (by rw [h]; exact Spec.Amf.Sess.noConfusion)
  have hn : nextCount u = c + 1 := by simp only [nextCount, hlive.hlast]
  have hcnt : Counted u := ⟨c, hlive.hlast, by cases p <;> simp only [Proc.cost] at hc <;> omega⟩
  have hpre : PreAlong cfg a (procEvs p) u ∧ (ueAfter a u c p).sess = se ∧ (ueAfter a u c p).psi = a.psi := by
    cases p with
    | establish => obtain ⟨h, rfl⟩ := sessAfter_establish hse; exact ⟨⟨⟨hcnt, hreg, h⟩, ⟨rfl, rfl⟩, trivial⟩, rfl, rfl⟩
    | service => obtain ⟨h, rfl⟩ := sessAfter_service hse; exact ⟨⟨⟨hcnt, hreg, h⟩, ⟨rfl, hp h⟩, trivial⟩, h, hp h⟩
    | release =>
      obtain ⟨h, rfl⟩ := sessAfter_release hse
      exact ⟨⟨⟨hcnt, hreg, h, hp h⟩, ⟨⟨_, _, rfl⟩, hp h⟩,
        ⟨⟨_, rfl, by rw [hn]; simp only [Proc.cost] at hc; omega⟩, hreg, ⟨_, _, rfl⟩, hp h⟩, trivial⟩, rfl, hp h⟩
  obtain ⟨uls, sec', hem, hlen, hk', hrun⟩ := run_events P hP cfg chs E a ha.ids (procEvs p) s u sec
    ⟨hclean, hfind, hamf, hlive.sync⟩ (fun _ _ _ => ha) (fun _ => hsetup) hpre.1
  obtain ⟨hu, hs⟩ := after_proc a s u c hlive.hlast p
  rw [hu, hs] at hk'
  rw [hs] at hrun
  have hl : (procEvs p).length = p.len ∧ (ueAfter a u c p).last = some (c + p.cost) := by cases p <;> exact ⟨rfl, rfl⟩
  exact ⟨uls, sec', procUls_of_emits P E a p sec uls sec' hem, hlen.trans hl.1,
    ⟨hk'.clean, (stAfter_facts a s u c p).2.1.trans hsetup, hk'.find, hk'.amf, (sync_iff_live _ _ _).mpr ⟨hk'.sync, hl.2⟩,
      (ueAfter_facts a u c p).2.2.2.trans hreg, .inr hpre.2.2⟩, hpre.2.1,
    fun rest => by rw [hrun life k rest, hlen, hl.1]⟩

section
variable (P : Prims) (hP : PrimsOk P) (life : Bool) (cfg : Spec.Amf.Cfg) (chs : List Spec.Amf.Choice) (E : Model.Convert.Ext)
    (a : Args) (ha : a.OK E) (s : Spec.Amf.St) (k : Nat) (u : Spec.Amf.UeSt) (sec : UeSec) (c : Nat) (hk : Known a s u sec c)
include hP ha hk

/-- **C02_establish_block.** The two uplink messages of `EstablishPDU` for a live, REGISTERED UE (no session, or one
    established / released before), judged from any clean state that knows the UE: no clause; afterwards the session is
    ESTABLISHED, the subscriber recorded, the COUNT advanced by one, and the invariant `Live` holds again. -/
theorem C02_establish_block (hsess : u.sess = .none ∨ u.sess = .established ∨ u.sess = .released) (hc : c + 2 < 2 ^ 24) :
    ∃ uls sec', procUls P E a .establish sec uls sec' ∧
      Known a (stAfter a s u c .establish) (ueAfter a u c .establish) sec' (c + 1) ∧
      ∀ rest, Spec.Amf.run P life cfg chs s k (uls ++ rest) =
        Spec.Amf.run P life cfg chs (stAfter a s u c .establish) (k + 2) rest := by
  obtain ⟨uls, sec', h1, -, h2, -, h3⟩ := proc_step P hP life cfg chs E a ha s k u sec c hk .establish .established
    (by rcases hsess with h | h | h <;> rw [h] <;> rfl) hc
  exact ⟨uls, sec', h1, h2, h3⟩

/-- **C02_service_block.** The two uplink messages of `ServiceRequest` for a live, REGISTERED UE with an established session:
    no clause; the service request is counted and the COUNT advanced by one. -/
theorem C02_service_block (hsess : u.sess = .established) (hc : c + 2 < 2 ^ 24) :
    ∃ uls sec', procUls P E a .service sec uls sec' ∧
      Known a (stAfter a s u c .service) (ueAfter a u c .service) sec' (c + 1) ∧
      ∀ rest, Spec.Amf.run P life cfg chs s k (uls ++ rest) =
        Spec.Amf.run P life cfg chs (stAfter a s u c .service) (k + 2) rest := by
  obtain ⟨uls, sec', h1, -, h2, -, h3⟩ := proc_step P hP life cfg chs E a ha s k u sec c hk .service .established
    (by rw [hsess]; rfl) hc
  exact ⟨uls, sec', h1, h2, h3⟩

/-- **C02_release_block.** The three uplink messages of `ReleasePDU` (release request, NGAP release response, release
    complete) for a live, REGISTERED UE with an established session: no clause; the session is RELEASED, the release counted
    once, the COUNT advanced by two. -/
theorem C02_release_block (hsess : u.sess = .established) (hc : c + 3 < 2 ^ 24) :
    ∃ uls sec', procUls P E a .release sec uls sec' ∧
      Known a (stAfter a s u c .release) (ueAfter a u c .release) sec' (c + 2) ∧
      ∀ rest, Spec.Amf.run P life cfg chs s k (uls ++ rest) =
        Spec.Amf.run P life cfg chs (stAfter a s u c .release) (k + 3) rest := by
  obtain ⟨uls, sec', h1, -, h2, -, h3⟩ := proc_step P hP life cfg chs E a ha s k u sec c hk .release .released
    (by rw [hsess]; rfl) hc
  exact ⟨uls, sec', h1, h2, h3⟩

end

theorem stAfter_other (a : Args) (s : Spec.Amf.St) (u : Spec.Amf.UeSt) (c : Nat) (p : Proc) (hur : u.ran = a.ran)
    (ran' : Int) (v : Spec.Amf.UeSt) (hr : ran' ≠ a.ran) (hj : v.j ≠ u.j) (hv : s.ues.find? (·.ran == ran') = some v) :
    (stAfter a s u c p).ues.find? (·.ran == ran') = some v := by
  rw [(stAfter_facts a s u c p).2.2.1]
  apply setUe_find_other s ran' v _ hv
  · rw [(ueAfter_facts a u c p).2.1, hur]; exact fun h => hr h.symm
  · rw [(ueAfter_facts a u c p).1]; exact hj

theorem count_cons_proc (p q : Proc) (ps : List Proc) : (p :: ps).count q = (if p = q then 1 else 0) + ps.count q := by
  rw [List.count_cons, Nat.add_comm]; simp only [beq_iff_eq]

/-- what a history leaves of the judge's state: no clause, the UE known and live with COUNT advanced by the number of
    protected messages, each procedure counted, everything else as before -/
structure HistoryEnd (a : Args) (ps : List Proc) (s s' : Spec.Amf.St) (u u' : Spec.Amf.UeSt) (sec' : UeSec) (c : Nat) : Prop where
  known : Known a s' u' sec' (c + cost ps)
  sess : sessAlong u.sess ps = some u'.sess
  j : u'.j = u.j
  established : s'.established = s.established ++ List.replicate (ps.count .establish) u.j
  services : s'.services = s.services + ps.count .service
  releases : s'.releases = s.releases + ps.count .release
  deregs : s'.deregs = s.deregs
  others : ∀ ran' v, ran' ≠ a.ran → v.j ≠ u.j → s.ues.find? (·.ran == ran') = some v → s'.ues.find? (·.ran == ran') = some v

/-- **C02_history_accepted.** The fold over a UE's whole history after registration: ANY sequence `ps` of `EstablishPDU`,
    `ServiceRequest`, `ReleasePDU` whose prerequisites hold along the way (`sessAlong`), as long as the UL NAS COUNT stays
    below 2^24 − 1 (`cost ps` protected messages: COUNT `c + 1 … c + cost ps`, each used once, strictly increasing —
    `C02_count_unique` is the emulator's side of this), with the arguments the emulator passes in their ranges: the uplink
    messages the emulator's wrappers return (`histUls`: constructors of C09, `EncodeNasPduWithSecurity` under the threaded
    security state, wrappers of C13) are judged by the reference AMF WITHOUT A CLAUSE, from any clean state that knows the UE;
    every procedure is counted, and the other UEs' records are untouched (so histories of different UEs interleave). -/
theorem C02_history_accepted (P : Prims) (hP : PrimsOk P) (life : Bool) (cfg : Spec.Amf.Cfg) (chs : List Spec.Amf.Choice)
    (E : Model.Convert.Ext) (a : Args) (ha : a.OK E) : ∀ (ps : List Proc) (s : Spec.Amf.St) (k : Nat) (u : Spec.Amf.UeSt)
    (sec : UeSec) (c : Nat), Known a s u sec c → (sessAlong u.sess ps).isSome = true → c + cost ps + 1 < 2 ^ 24 →
    ∃ uls sec' s' u', histUls P E a ps sec uls sec' ∧ uls.length = len ps ∧ HistoryEnd a ps s s' u u' sec' c ∧
      ∀ rest, Spec.Amf.run P life cfg chs s k (uls ++ rest) = Spec.Amf.run P life cfg chs s' (k + len ps) rest := by
  intro ps
  induction ps with
  | nil =>
    intro s k u sec c hk _ _
    exact ⟨[], sec, s, u, ⟨rfl, rfl⟩, rfl,
      ⟨by simpa [cost] using hk, rfl, rfl, by simp, by simp, by simp, rfl, fun _ _ _ _ h => h⟩, fun rest => by simp [len]⟩
  | cons p ps ih =>
    intro s k u sec c hk hal hc
    simp only [sessAlong] at hal
    obtain ⟨se, hse⟩ : ∃ se, sessAfter u.sess p = some se := by
      cases h : sessAfter u.sess p with
      | none => rw [h] at hal; simp at hal
      | some se => exact ⟨se, rfl⟩
    rw [hse] at hal
    simp only [Option.bind_some] at hal
    have hcost : cost (p :: ps) = p.cost + cost ps := by simp [cost]
    have hlen : len (p :: ps) = p.len + len ps := by simp [len]
    obtain ⟨u1, sec1, hp1, hl1, hk1, hs1, hrun1⟩ := proc_step P hP life cfg chs E a ha s k u sec c hk p se hse (by omega)
    obtain ⟨u2, sec2, s2, ue2, hh2, hl2, he2, hrun2⟩ := ih (stAfter a s u c p) (k + p.len) (ueAfter a u c p) sec1 (c + p.cost) hk1
      (by rw [hs1]; exact hal) (by omega)
    have hur := find_ran s a.ran u hk.find
    obtain ⟨f1, f2, f3, f4, f5, f6, f7⟩ := stAfter_facts a s u c p
    have hj1 := (ueAfter_facts a u c p).1
    refine ⟨u1 ++ u2, sec2, s2, ue2, ⟨u1, sec1, u2, hp1, hh2, rfl⟩, by simp [hl1, hl2, hlen], ?_, fun rest => ?_⟩
    · refine ⟨?_, ?_, by rw [he2.j, hj1], ?_, ?_, ?_, by rw [he2.deregs, f7], ?_⟩
      · have := he2.known
        rw [hcost, ← Nat.add_assoc]
        exact this
      · simp only [sessAlong, hse, Option.bind_some]
        rw [← hs1]; exact he2.sess
      · rw [he2.established, f4, hj1, List.append_assoc]
        congr 1
        rw [count_cons_proc]
        split
        · rw [Nat.add_comm, List.replicate_succ]; rfl
        · rw [Nat.zero_add]; rfl
      · rw [he2.services, f5, count_cons_proc, Nat.add_assoc]
      · rw [he2.releases, f6, count_cons_proc, Nat.add_assoc]
      · intro ran' v hr hj hv
        exact he2.others ran' v hr (by rw [hj1]; exact hj) (stAfter_other a s u c p hur ran' v hr hj hv)
    · rw [List.append_assoc, hrun1, hrun2, hlen, Nat.add_assoc]

end Stgutg.Props.C02
