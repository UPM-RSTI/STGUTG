/-
  C01 / C02 — the judge's `run` on a list of uplink messages of one UE, from any clean state that knows the UE: `step_event`
  (Props/C02Steps.lean) folded along the list (`run_events`). The procedures (`procEvs`), the registration after its first message
  (`regTail`, `registration_tail`) and the de-registration (`deregEvs`) are lists; their messages are the calls of
  Props/C02Calls.lean (`procUls_of_emits`, `regUls_of_emits`, `deregUls_of_emits`).
-/
import Stgutg.Props.C02Steps

namespace Stgutg.Props.C02
open Stgutg Stgutg.Model.Emulator Stgutg.Proofs.Emulator Stgutg.Builders
open Stgutg.Model.NasProtect Stgutg.Proofs.NasProtect Stgutg.Spec.NasSecurity
open Stgutg.Props.C01

/-- the judge's record of the UE after a list of messages -/
def uAfter (a : Args) : List Ev → Spec.Amf.UeSt → Spec.Amf.UeSt
  | [], u => u
  | e :: es, u => uAfter a es (e.next a u)

/-- the judge's state after a list of messages -/
def sAfter (a : Args) : List Ev → Spec.Amf.UeSt → Spec.Amf.St → Spec.Amf.St
  | [], _, s => s
  | e :: es, u, s => sAfter a es (e.next a u) (e.bump u (s.setUe (e.next a u)))

/-- the prerequisite of every message holds when its turn comes -/
def PreAlong (cfg : Spec.Amf.Cfg) (a : Args) : List Ev → Spec.Amf.UeSt → Prop
  | [], _ => True
  | e :: es, u => e.pre cfg a u ∧ PreAlong cfg a es (e.next a u)

/-- `Emits` along a list, the security state threaded from message to message -/
def EmitsAll (P : Prims) (E : Model.Convert.Ext) (a : Args) : List Ev → UeSec → List Bytes → UeSec → Prop
  | [], sec, bs, sec' => bs = [] ∧ sec' = sec
  | e :: es, sec, bs, sec' => ∃ b sec1 bs', Emits P E a e sec b sec1 ∧ EmitsAll P E a es sec1 bs' sec' ∧ bs = b :: bs'

/-- **the fold.** A list of messages of the table whose prerequisites hold along the way, made by the emulator from a security state
    in step with the judge's record: judged at any position, for C01 or for C02, from any clean state that knows the UE, without a
    clause; afterwards the judge knows the UE's last record and is in step with the emulator again. -/
theorem run_events (P : Prims) (hP : PrimsOk P) (cfg : Spec.Amf.Cfg) (chs : List Spec.Amf.Choice) (E : Model.Convert.Ext)
    (a : Args) (hi : a.Ids) : ∀ (evs : List Ev) (s : Spec.Amf.St) (u : Spec.Amf.UeSt) (sec : UeSec), Knows a s u sec →
    (∀ e ∈ evs, e.ids = false → a.OK E) → (Ev.svcReq ∈ evs → s.ngSetup = true) → PreAlong cfg a evs u →
    ∃ bs sec', EmitsAll P E a evs sec bs sec' ∧ bs.length = evs.length ∧ Knows a (sAfter a evs u s) (uAfter a evs u) sec' ∧
      ∀ life k, Steps P life cfg chs s k bs (sAfter a evs u s)
  | [], s, _, sec, hk, _, _, _ => ⟨[], sec, ⟨rfl, rfl⟩, rfl, hk, fun _ _ => .nil⟩
  | e :: es, s, u, sec, hk, ho, hn, hpre => by
    obtain ⟨b, sec1, hem, hstep, hs1⟩ := step_event P hP cfg chs E a hi s u sec hk e (ho e (List.mem_cons_self ..))
      (fun h => hn (h ▸ List.mem_cons_self ..)) hpre.1
    obtain ⟨f1, f2, f3, g1, g2, g3⟩ := Ev.facts a u e (s.setUe (e.next a u))
    have hk1 : Knows a (e.bump u (s.setUe (e.next a u))) (e.next a u) sec1 :=
      ⟨f1.trans hk.clean, by rw [f3]; exact setUe_find s a.ran u _ hk.find g1 (g2.trans (find_ran s a.ran u hk.find)),
       by rw [g3]; exact hk.amf, hs1⟩
    obtain ⟨bs, sec', hems, hlen, hk', hrun⟩ := run_events P hP cfg chs E a hi es _ _ sec1 hk1
      (fun e' he' => ho e' (List.mem_cons_of_mem _ he')) (fun h => f2.trans (hn (List.mem_cons_of_mem _ h))) hpre.2
    exact ⟨b :: bs, sec', ⟨b, sec1, bs, hem, hems, rfl⟩, by simp [hlen], hk',
      fun life k => .step hk.clean (hstep k) hk1.clean (hrun life (k + 1))⟩

theorem Ev.bump_setUe (u v : Spec.Amf.UeSt) (ev : Ev) (s : Spec.Amf.St) : (ev.bump u s).setUe v = ev.bump u (s.setUe v) := by
  cases ev <;> rfl

theorem uAfter_j (a : Args) : ∀ (evs : List Ev) (u : Spec.Amf.UeSt), (uAfter a evs u).j = u.j
  | [], _ => rfl
  | e :: es, u => (uAfter_j a es _).trans (Ev.facts a u e {}).2.2.2.1

/-- what the judge counts on a list of messages -/
def bumps (a : Args) : List Ev → Spec.Amf.UeSt → Spec.Amf.St → Spec.Amf.St
  | [], _, s => s
  | e :: es, u, s => bumps a es (e.next a u) (e.bump u s)

/-- the state after a list of messages: the UE's last record written once, and the counts -/
theorem sAfter_cons (a : Args) : ∀ (es : List Ev) (e : Ev) (u : Spec.Amf.UeSt) (s : Spec.Amf.St),
    sAfter a (e :: es) u s = bumps a (e :: es) u (s.setUe (uAfter a (e :: es) u))
  | [], _, _, _ => rfl
  | e' :: es, e, u, s => by
    show sAfter a (e' :: es) _ _ = bumps a (e' :: es) _ (e.bump u _)
    rw [sAfter_cons a es e', Ev.bump_setUe, setUe_setUe _ _ _ ((uAfter_j a (e' :: es) _).symm)]
    rfl

/-! ### the procedures, the registration and the de-registration as lists of messages -/

def procEvs : Proc → List Ev
  | .establish => [.estReq, .setupRsp]
  | .service => [.svcReq, .icsRspSvc]
  | .release => [.relReq, .relRsp, .relCpl]

theorem procUls_of_emits (P : Prims) (E : Model.Convert.Ext) (a : Args) (p : Proc) (sec : UeSec) (uls : List Bytes) (sec' : UeSec)
    (h : EmitsAll P E a (procEvs p) sec uls sec') : procUls P E a p sec uls sec' := by
  cases p with
  | establish =>
    obtain ⟨b1, _, _, ⟨plain, o, h1, h2, h3, rfl⟩, ⟨b2, _, _, ⟨h4, rfl⟩, ⟨rfl, rfl⟩, rfl⟩, rfl⟩ := h
    exact ⟨plain, o, b1, b2, h1, h2, h3, h4, rfl, rfl⟩
  | service =>
    obtain ⟨b1, _, _, ⟨plain, o, h1, h2, h3, rfl⟩, ⟨b2, _, _, ⟨h4, rfl⟩, ⟨rfl, rfl⟩, rfl⟩, rfl⟩ := h
    exact ⟨plain, o, b1, b2, h1, h2, h3, h4, rfl, rfl⟩
  | release =>
    obtain ⟨b1, _, _, ⟨p1, o1, h1, h2, h3, rfl⟩, ⟨b2, _, _, ⟨h4, rfl⟩, ⟨b3, _, _, ⟨p3, o3, h5, h6, h7, rfl⟩, ⟨rfl, rfl⟩, rfl⟩, rfl⟩, rfl⟩ := h
    exact ⟨p1, o1, b1, b2, p3, o3, b3, h1, h2, h3, h4, h5, h6, h7, rfl, rfl⟩

/-- the two messages of `DeregisterUE` -/
def deregEvs (mi : Nas.Val) : List Ev := [.deregReq mi, .ctxRelCpl]

theorem deregUls_of_emits (P : Prims) (E : Model.Convert.Ext) (a : Args) (mi : Nas.Val) (sec : UeSec) (uls : List Bytes) (sec' : UeSec)
    (h : EmitsAll P E a (deregEvs mi) sec uls sec') : deregUls P E a mi sec uls := by
  obtain ⟨b1, _, _, ⟨plain, o, h1, h2, h3, rfl⟩, ⟨b2, _, _, ⟨h4, rfl⟩, ⟨rfl, rfl⟩, rfl⟩, rfl⟩ := h
  exact ⟨plain, o, b1, b2, h1, h2, h3, h4, rfl⟩

/-- the four messages of `RegisterUE` after the Registration Request -/
def regTail (mi secCap : Nas.Val) (resStar : Bytes) : List Ev := [.authResp resStar, .smc mi secCap, .icsRsp, .regCpl]

/-- the INITIAL UE MESSAGE with the Registration Request, then `regTail`: the calls of `RegisterUE` -/
theorem regUls_of_emits (P : Prims) (E : Model.Convert.Ext) (a : Args) (mi secCap : Nas.Val) (resStar : Bytes) (sec : UeSec)
    (nas2 b2 : Bytes) (uls : List Bytes) (sec' : UeSec)
    (h2 : Nas.Ctor.encodeWith Gen.Nas.layout_RegistrationRequest
      (Nas.Ctor.registrationRequest 1 mi none (some secCap) none none none) = .ok nas2)
    (hb2 : Wrapper.run E .GetInitialUEMessage a.plmn [.int a.ran, .octs nas2, .str []] = .ok (.ok b2))
    (h : EmitsAll P E a (regTail mi secCap resStar) sec uls sec') : regUls P E a mi secCap resStar sec (b2 :: uls) sec' := by
  obtain ⟨b3, _, _, ⟨nas3, h3, hb3, rfl⟩, ⟨b4, _, _, ⟨rr, hrr, smc, o1, hsmc, ho1, hb4, rfl⟩, ⟨b5, _, _, ⟨hb5, rfl⟩,
    ⟨b6, _, _, ⟨rc, o2, hrc, ho2, hb6, rfl⟩, ⟨rfl, rfl⟩, rfl⟩, rfl⟩, rfl⟩, rfl⟩ := h
  exact ⟨nas2, b2, nas3, b3, rr, smc, o1, b4, b5, rc, o2, b6, h2, hb2, h3, hb3, hrr, hsmc, ho1, hb4, hb5, hrc, ho2, hb6, rfl, rfl⟩

/-- **the registration after its first message**: from the record the Registration Request opened (emulator's context holding the
    keys of the network's vector) the four remaining messages of `RegisterUE` are judged without a clause and leave the UE
    REGISTERED, last accepted COUNT 1, emulator and judge in step (`Live … 1`) -/
theorem registration_tail (P : Prims) (hP : PrimsOk P) (cfg : Spec.Amf.Cfg) (chs : List Spec.Amf.Choice) (E : Model.Convert.Ext)
    (a : Args) (hi : a.Ids) (s : Spec.Amf.St) (j : Nat) (ch : Spec.Amf.Choice) (aka : Spec.Ts33501A.Aka) (sec : UeSec)
    (hclean : s.fails = [])
    (hfind : s.ues.find? (·.ran == a.ran) = some (regUe j a.ran ch aka .authSent none []))
    (hamf : ch.amfUeNgapId = a.amf) (hin : InStep sec (regUe j a.ran ch aka .authSent none []))
    (hres : aka.resStar.length = 16) (mi secCap : Nas.Val)
    (hsmc : (Ev.smc mi secCap).pre cfg a (regUe j a.ran ch aka .smcSent none [])) :
    ∃ bs sec', EmitsAll P E a (regTail mi secCap aka.resStar) sec bs sec' ∧
      Live sec' (regUe j a.ran ch aka .registered (some 1) [1, 0]) 1 ∧
      ∀ life k, Steps P life cfg chs s k bs (s.setUe (regUe j a.ran ch aka .registered (some 1) [1, 0])) := by
  obtain ⟨bs, sec', h1, -, h3, h4⟩ := run_events P hP cfg chs E a hi (regTail mi secCap aka.resStar) s _ sec
    ⟨hclean, hfind, hamf, hin, fun c hc => by cases hc⟩
    (fun e he h => by simp only [regTail, List.mem_cons, List.not_mem_nil, or_false] at he; rcases he with rfl | rfl | rfl | rfl <;> cases h)
    (fun h => by simp [regTail] at h)
    ⟨⟨rfl, rfl, hres⟩, hsmc, ⟨rfl, false, rfl⟩, ⟨⟨0, rfl, by decide⟩, true, false, rfl⟩, trivial⟩
  rw [regTail, sAfter_cons] at h4
  exact ⟨bs, sec', h1, (sync_iff_live _ _ _).mpr ⟨h3.sync, rfl⟩, h4⟩

theorem sAfter_dereg (a : Args) (mi : Nas.Val) (s : Spec.Amf.St) (u : Spec.Amf.UeSt) (c : Nat) (h : u.last = some c) :
    sAfter a (deregEvs mi) u s =
      { s.setUe { u with last := some (c + 1), used := (c + 1) :: u.used, reg := .deregistered } with deregs := s.deregs + 1 } := by
  rw [deregEvs, sAfter_cons]
  obtain ⟨⟩ := u
  subst h
  rfl

/-- **C02_deregister_block.** The two uplink messages of `DeregisterUE` for a live, REGISTERED UE: no clause; the UE is
    DEREGISTERED and the de-registration counted. -/
theorem C02_deregister_block (P : Prims) (hP : PrimsOk P) (life : Bool) (cfg : Spec.Amf.Cfg) (chs : List Spec.Amf.Choice)
    (s : Spec.Amf.St) (k : Nat) (E : Model.Convert.Ext) (plmn : Bytes) (hplmn : plmn.length = 3) (ran : Int)
    (hr0 : 0 ≤ ran) (hr1 : ran < 2 ^ 32) (hclean : s.fails = [])
    (u : Spec.Amf.UeSt) (hu : s.ues.find? (·.ran == ran) = some u) (ha1 : u.ch.amfUeNgapId < 2 ^ 40)
    (sec : UeSec) (c : Nat) (hl : Live sec u c) (hreg : u.reg = .registered)
    (hc : c + 2 < 2 ^ 24) (mi : Nas.Val) (hlen : mi.len = mi.data.length) (hlt : mi.data.length < 65536)
    (hsuci : Spec.Amf.suciIs cfg u.j mi.data = true) :
    ∃ plain o b1 b2, Nas.Ctor.encodeWith Gen.Nas.layout_DeregistrationRequestUEOriginatingDeregistration
          (Nas.Ctor.deregistrationRequest 1 0 4 mi) = .ok plain ∧
      (Model.NasProtect.encodeNasPduWithSecurity P sec plain 2 true false).2 = .ok o ∧
      Wrapper.run E .GetUplinkNASTransport plmn [.int u.ch.amfUeNgapId, .int ran, .octs o] = .ok (.ok b1) ∧
      Wrapper.run E .GetUEContextReleaseComplete plmn [.int u.ch.amfUeNgapId, .int ran, .nil] = .ok (.ok b2) ∧
      ∀ rest, Spec.Amf.run P life cfg chs s k (b1 :: b2 :: rest) =
        Spec.Amf.run P life cfg chs
          { s.setUe { u with last := some (c + 1), used := (c + 1) :: u.used, reg := .deregistered } with
            deregs := s.deregs + 1 } (k + 2) rest := by
  let a : Args := ⟨plmn, u.ch.amfUeNgapId, ran, 0, [], 0, [], none⟩
  obtain ⟨bs, sec', hem, -, -, hsteps⟩ := run_events P hP cfg chs E a ⟨hplmn, ha1, hr0, hr1⟩ (deregEvs mi) s u sec
    ⟨hclean, hu, rfl, hl.sync⟩
    (fun e he h => by simp only [deregEvs, List.mem_cons, List.not_mem_nil, or_false] at he; rcases he with rfl | rfl <;> cases h)
    (fun h => by simp [deregEvs] at h) ⟨⟨⟨c, hl.hlast, hc⟩, hreg, hlen, hlt, hsuci⟩, rfl, trivial⟩
  obtain ⟨plain, o, b1, b2, h1, h2, h3, h4, rfl⟩ := deregUls_of_emits P E a mi sec bs sec' hem
  refine ⟨plain, o, b1, b2, h1, h2, h3, h4, fun rest => ?_⟩
  rw [← sAfter_dereg a mi s u c hl.hlast]
  exact hsteps life k rest

end Stgutg.Props.C02
