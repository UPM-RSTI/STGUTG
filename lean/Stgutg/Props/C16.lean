/-
  C16 — emulated UEs have distinct identities derived from the configured IMSI.
  Property theorems only; helper lemmas live in Stgutg/Proofs/UeIdentity.lean.

  Model: Model/UeIdentity.lean (CreateUE with strconv.Atoi / fmt.Sprintf("%0*d") modelled, NewRanUeContext,
  GetAuthSubscription, GetUESecurityCapability). Go strings are byte lists; UE indices are the loop counters 0..n-1 of
  stg-utg.go.  Capability bits: Spec/Ts24501Identity.lean (TS 24.501 9.11.3.54).
  Vocabulary (defined in Proofs/UeIdentity.lean): `DecimalImsi imsi` = non-empty decimal string of at most 18 digits;
  `Fits imsi n` = decVal imsi + n ≤ 10^|imsi|; `MsinFits imsi p n` = p ≤ |imsi| and decVal (imsi.drop p) + n ≤ 10^(|imsi| - p),
  i.e. the digits after the first p = 3 + |MNC| can accommodate n UEs.
-/
import Stgutg.Proofs.UeIdentity

namespace Stgutg.Props.C16
open Stgutg Stgutg.Model.UeIdentity Stgutg.Proofs.UeIdentity

/-- the hypotheses are satisfiable: the shipped IMSI "001010000000001" (MNC 01, p = 5) with the full population of
    10 000 UEs, and an MSIN that the last of 10 000 UEs exhausts exactly (…9999990000 + 9999) -/
example : DecimalImsi [48, 48, 49, 48, 49, 48, 48, 48, 48, 48, 48, 48, 48, 48, 49] ∧
    MsinFits [48, 48, 49, 48, 49, 48, 48, 48, 48, 48, 48, 48, 48, 48, 49] 5 10000 ∧
    Fits [48, 48, 49, 48, 49, 48, 48, 48, 48, 48, 48, 48, 48, 48, 49] 10000 := by
  refine ⟨⟨by decide, by decide, by decide⟩, ⟨by decide, by decide⟩, by unfold Fits; decide⟩
example : MsinFits [57, 57, 57, 57, 57, 57, 57, 57, 57, 57, 57, 48, 48, 48, 48] 5 10000 := ⟨by decide, by decide⟩

/-- **C16, distinct SUPIs.** UEs created from one configured IMSI with different indices have different SUPIs, for
    every population the digits can accommodate (whatever credentials they are given). -/
theorem C16_supi_distinct {imsi : Bytes} (h : DecimalImsi imsi) {n : Nat} (hfit : Fits imsi n)
    {i j : Nat} (hi : i < n) (hj : j < n) (hij : i ≠ j) (k opc op k' opc' op' : Bytes) :
    (createUE imsi (i : Int) k opc op).supi ≠ (createUE imsi (j : Int) k' opc' op').supi := by
  unfold Fits at hfit
  rw [createUE_supi h i (by omega), createUE_supi h j (by omega)]
  intro e
  have := decW_inj (by omega) (by omega) (List.append_cancel_left e)
  omega

/-- **C16, SUPIs stay inside the configured PLMN.** While the MSIN digits accommodate the population, every SUPI is
    `"imsi-"` followed by as many decimal digits as the configured IMSI, starts with the configured MCC/MNC digits
    (leading zeros kept), and its MSIN is the configured MSIN plus the index. -/
theorem C16_supi_in_plmn {imsi : Bytes} (h : DecimalImsi imsi) {p n : Nat} (hfit : MsinFits imsi p n)
    {i : Nat} (hi : i < n) (k opc op : Bytes) :
    (createUE imsi (i : Int) k opc op).supi.length = 5 + imsi.length ∧
    (createUE imsi (i : Int) k opc op).supi.take (5 + p) = imsiPrefix ++ imsi.take p ∧
    (∀ c ∈ (createUE imsi (i : Int) k opc op).supi.drop 5, isDigitByte c = true) ∧
    decVal ((createUE imsi (i : Int) k opc op).supi.drop (5 + p)) = decVal (imsi.drop p) + i := by
  have hF : Fits imsi n := msinFits_fits h hfit
  have hdig := decW_add_index h hfit hi
  obtain ⟨hp, hf⟩ := hfit
  unfold Fits at hF
  rw [createUE_supi h i (by omega)]
  have hlt : (imsi.take p).length = p := by rw [List.length_take]; omega
  have hpl : imsiPrefix.length = 5 := rfl
  refine ⟨?_, ?_, ?_, ?_⟩
  · rw [List.length_append, decW_length, hpl]
  · rw [hdig, ← List.append_assoc, List.take_left' (by rw [List.length_append, hlt, hpl])]
  · rw [List.drop_left' hpl]
    exact decW_digits _ _
  · rw [hdig, ← List.append_assoc, List.drop_left' (by rw [List.length_append, hlt, hpl]), decVal_decW,
      Nat.mod_eq_of_lt (by omega)]

/-- **C16, what the network sees.** The mobile identity `RegisterUE` / `DeregisterUE` build for UE `i`
    (`EncodeSuci(TrimPrefix(ue.Supi, "imsi-"), len(mnc))`) is read by the independent TS 24.501 decoder as the null-scheme
    SUCI with the configured MCC and MNC and MSIN = configured MSIN + i (so distinct UEs present distinct SUCIs). -/
theorem C16_suci_of_ue {imsi : Bytes} (h : DecimalImsi imsi) {m n : Nat} (hm : m = 2 ∨ m = 3)
    (hlen : 3 + m < imsi.length) (hfit : MsinFits imsi (3 + m) n) {i : Nat} (hi : i < n) (k opc op : Bytes) :
    ∃ buf, Model.Suci.encodeSuci (Model.Suci.trimImsiPrefix (createUE imsi (i : Int) k opc op).supi) (m : Int) = .ok buf ∧
      Spec.Identity.decodeSuci buf = some (Spec.Identity.nullSchemeSuci (digitsOf (imsi.take 3))
        (digitsOf ((imsi.drop 3).take m)) (digitsOf (decW (imsi.length - (3 + m)) (decVal (imsi.drop (3 + m)) + i)))) :=
  suci_of_created_ue h hm hlen hfit hi k opc op

/-- **C16, distinct RAN-UE-NGAP-IDs.** The ids `(imsi + i) mod 10^4` of a population of at most 10 000 UEs are
    pairwise distinct (and lie in 0..9999). -/
theorem C16_ran_id_distinct {imsi : Bytes} (h : DecimalImsi imsi) {n : Nat} (hn : n ≤ 10000)
    {i j : Nat} (hi : i < n) (hj : j < n) (hij : i ≠ j) (k opc op k' opc' op' : Bytes) :
    (createUE imsi (i : Int) k opc op).ranUeNgapId ≠ (createUE imsi (j : Int) k' opc' op').ranUeNgapId ∧
    0 ≤ (createUE imsi (i : Int) k opc op).ranUeNgapId ∧ (createUE imsi (i : Int) k opc op).ranUeNgapId < 10000 := by
  have h62 : (10000 : Nat) < 2 ^ 62 := by decide
  rw [createUE_ranId h i (by omega), createUE_ranId h j (by omega)]
  omega

/-- **C16, credentials.** Every UE carries the configured K, OPc and OP (and the AMF field "8000"), whatever the
    IMSI string and index. -/
theorem C16_credentials (imsi : Bytes) (idx : Int) (k opc op : Bytes) :
    (createUE imsi idx k opc op).k = k ∧ (createUE imsi idx k opc op).opc = opc ∧
    (createUE imsi idx k opc op).op = op ∧ (createUE imsi idx k opc op).amf = [56, 48, 48, 48] :=
  ⟨rfl, rfl, rfl, rfl⟩

/-- **C16, capability = algorithms (any supported pair).** The UE security capability advertises exactly the 5G-EA
    bit of the ciphering algorithm and exactly the 5G-IA bit of the integrity algorithm (TS 24.501 9.11.3.54). -/
theorem C16_capability (c i : UInt8) (hc : c ≤ 3) (hi : i ≤ 3) (k : Nat) :
    (Spec.Identity.eaSupported (getUESecurityCapability c i).buffer k = true ↔ k = c.toNat) ∧
    (Spec.Identity.iaSupported (getUESecurityCapability c i).buffer k = true ↔ k = i.toNat) := by
  have hc' : c.toNat < 4 := by rw [UInt8.le_iff_toNat_le] at hc; exact Nat.lt_succ_of_le hc
  have hi' : i.toNat < 4 := by rw [UInt8.le_iff_toNat_le] at hi; exact Nat.lt_succ_of_le hi
  by_cases hk : k < 8
  · have := cap_fin ⟨c.toNat, hc'⟩ ⟨i.toNat, hi'⟩ ⟨k, hk⟩
    simp only [UInt8.ofNat_toNat] at this
    rw [this.1, this.2]
    simp
  · obtain ⟨a, b, hb⟩ := cap_shape c i
    rw [hb]
    have hk' : decide (k < 8) = false := by simpa using hk
    simp only [Spec.Identity.eaSupported, Spec.Identity.iaSupported, hk', Bool.false_and, Bool.false_eq_true, false_iff]
    omega

/-- **C16, the created UE advertises what it uses.** `CreateUE` configures NEA0 / NIA2, and the capability built from
    that context has 5G-EA0 and 128-5G-IA2 set and no other algorithm bit. -/
theorem C16_capability_of_created_ue (imsi : Bytes) (idx : Int) (k opc op : Bytes) (a : Nat) :
    let ue := createUE imsi idx k opc op
    (Spec.Identity.eaSupported (getUESecurityCapability ue.cipheringAlg ue.integrityAlg).buffer a = true ↔ a = 0) ∧
    (Spec.Identity.iaSupported (getUESecurityCapability ue.cipheringAlg ue.integrityAlg).buffer a = true ↔ a = 2) :=
  C16_capability 0 2 (by decide) (by decide) a

end Stgutg.Props.C16
