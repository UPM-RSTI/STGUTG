/-
  C11 — subscriber and PLMN identities are encoded per TS 24.501 / TS 38.413.
  Property theorems only; helper lemmas live in Stgutg/Proofs/Suci.lean.

  Digits are `Nat`s below 10; `asc ds` is the ASCII text the Go code receives. `ValidImsi mcc mnc msin` (defined in
  Proofs/Suci.lean): 3-digit MCC, 2- or 3-digit MNC, MSIN of at least one digit, every digit below 10.
  Models: Model/Suci.lean (EncodeSuci, the NG Setup PLMN, the builders' copies), Model/Convert.lean (PlmnIDToNas).
  Specification: Spec/Ts24501Identity.lean (figure 9.11.3.4.3 with an independent decoder, the 3-octet PLMN).
-/
import Stgutg.Proofs.Suci

namespace Stgutg.Props.C11
open Stgutg Stgutg.Proofs.Suci

/-- the hypotheses are satisfiable: the shipped configuration 001/01 and a 3-digit-MNC IMSI with an odd MSIN -/
example : ValidImsi [0, 0, 1] [0, 1] [0, 0, 0, 0, 0, 0, 0, 0, 0, 1] := ⟨rfl, .inl rfl, by decide, by decide⟩
example : ValidImsi [3, 1, 0] [4, 1, 0] [1, 2, 3, 4, 5, 6, 7, 8, 9] := ⟨rfl, .inr rfl, by decide, by decide⟩

/-- **C11, SUCI.** For every MCC, every 2- or 3-digit MNC and every MSIN (odd or even length) the mobile identity
    built by `EncodeSuci` is read by the independent TS 24.501 9.11.3.4 decoder as the null-scheme SUCI of exactly
    that IMSI: same MCC, MNC and MSIN, routing indicator 0, protection scheme 0, home network key identifier 0. -/
theorem C11_suci {mcc mnc msin : List Nat} (h : ValidImsi mcc mnc msin) :
    ∃ buf, Model.Suci.encodeSuci (asc (mcc ++ mnc ++ msin)) (mnc.length : Int) = .ok buf ∧
      Spec.Identity.decodeSuci buf = some (Spec.Identity.nullSchemeSuci mcc mnc msin) :=
  suci_decodes h

/-- **C11, SUCI = the figure's encoding.** The same buffer is what the specification's own encoder produces. -/
theorem C11_suci_is_spec_encoding {mcc mnc msin : List Nat} (h : ValidImsi mcc mnc msin) :
    ∃ buf, Model.Suci.encodeSuci (asc (mcc ++ mnc ++ msin)) (mnc.length : Int) = .ok buf ∧
      Spec.Identity.encodeSuci (Spec.Identity.nullSchemeSuci mcc mnc msin) = some buf := by
  obtain ⟨o5, o6, o7, hp, hb⟩ := suci_buffer h
  refine ⟨_, hb, ?_⟩
  have hm : Spec.Identity.allDigits msin = true := by
    simp only [Spec.Identity.allDigits, List.all_eq_true, Spec.Identity.isDigit, decide_eq_true_eq]
    exact fun d hd => h.digits d (by simp [hd])
  have hne : (!msin.isEmpty) = true := by
    have := h.msin1
    cases msin <;> simp_all
  have h0 : Spec.Identity.octet 15 0 = 0xf0 ∧ Spec.Identity.octet 15 15 = 0xff ∧ Spec.Identity.octet 0 0 = 0 := by decide
  have hr : Spec.Identity.allDigits [0] = true := by decide
  simp only [Spec.Identity.encodeSuci, Spec.Identity.nullSchemeSuci, hp, Spec.Identity.routingEncode, hm, hne, hr,
    h0.1, h0.2.1, h0.2.2]
  rfl

/-- **C11, NG Setup PLMN.** The PLMN identity `ManageNGSetup` announces — octets 1..3 of the SUCI buffer of the
    configured IMSI, given with or without the "imsi-" prefix — is the 3-octet PLMN encoding of its MCC and MNC. -/
theorem C11_plmn_ngsetup {mcc mnc msin : List Nat} (h : ValidImsi mcc mnc msin) (withPrefix : Bool) :
    ∃ p, Spec.Identity.plmn3 mcc mnc = some p ∧
      Model.Suci.ngSetupPlmn ((if withPrefix then [105, 109, 115, 105, 45] else []) ++ asc (mcc ++ mnc ++ msin))
        (mnc.length : Int) = .ok p := by
  obtain ⟨o5, o6, o7, hp, hb⟩ := suci_buffer h
  refine ⟨_, hp, ?_⟩
  have htrim : Model.Suci.trimImsiPrefix ((if withPrefix then [105, 109, 115, 105, 45] else []) ++ asc (mcc ++ mnc ++ msin))
      = asc (mcc ++ mnc ++ msin) := by
    cases withPrefix
    · obtain ⟨h3, _, _, hd⟩ := h
      match mcc, h3 with
      | [c1, c2, c3], _ =>
        exact trim_digits c1 _ (hd c1 (by simp))
    · exact trim_prefix _
  unfold Model.Suci.ngSetupPlmn
  rw [htrim, hb]
  rfl

/-- **C11, agreement with the library.** `nasConvert.PlmnIDToNas` on the same MCC/MNC strings returns the same three
    octets: the NG Setup PLMN, the SUCI's PLMN octets and the library conversion agree. -/
theorem C11_plmn_agrees {mcc mnc msin : List Nat} (h : ValidImsi mcc mnc msin) :
    Model.Convert.plmnIDToNas (asc mcc) (asc mnc) =
      Model.Suci.ngSetupPlmn (asc (mcc ++ mnc ++ msin)) (mnc.length : Int) := by
  obtain ⟨p, hp, hn⟩ := C11_plmn_ngsetup h false
  simp only [Bool.false_eq_true, if_false, List.nil_append] at hn
  rw [hn]
  exact plmnIDToNas_digits mcc mnc p hp

/-- **C11, user location.** After NG Setup every PLMN field the builders fill — Global gNB ID and broadcast PLMN of
    the NG Setup Request, NR-CGI and TAI of the user location information of later messages — is that same PLMN. -/
theorem C11_uli_same_plmn {mcc mnc msin : List Nat} (h : ValidImsi mcc mnc msin) :
    ∃ p, Spec.Identity.plmn3 mcc mnc = some p ∧
      Model.Suci.ngSetupFields (asc (mcc ++ mnc ++ msin)) (mnc.length : Int) =
        .ok { globalGnb := p, broadcast := p, uliNrCgi := p, uliTai := p } := by
  obtain ⟨p, hp, hn⟩ := C11_plmn_ngsetup h false
  simp only [Bool.false_eq_true, if_false, List.nil_append] at hn
  exact ⟨p, hp, by unfold Model.Suci.ngSetupFields; rw [hn]; rfl⟩

/-- **C11, read-back.** An independent reader of the three octets recovers the MCC and the MNC (and its length). -/
theorem C11_plmn_decodes (mcc mnc : List Nat) (p : Bytes) (h : Spec.Identity.plmn3 mcc mnc = some p) :
    Spec.Identity.plmn3Decode p = some (mcc, mnc) := plmn3Decode_plmn3 mcc mnc p h

/-! ### TS 38.413 9.3.3.5 read literally

    The property text treats "the TS 38.413 / TS 24.501 PLMN encoding" as one layout, and `plmn3` is the TS 24.501
    (TS 24.008) one. TS 38.413 9.3.3.5 read literally orders the six digits MCC1 MCC2 MCC3 MNC1 MNC2 MNC3, which puts
    MNC digit 1 (not 3) next to MCC digit 3. The two readings coincide for every 2-digit MNC and differ for a 3-digit MNC
    unless its three digits are equal. -/

theorem C11_ngap_literal_mnc2 (mcc mnc : List Nat) (hc : mcc.length = 3) (h : mnc.length = 2) :
    Spec.Identity.plmn3Ngap38413Literal mcc mnc = Spec.Identity.plmn3 mcc mnc := by
  match mcc, hc, mnc, h with
  | [c1, c2, c3], _, [n1, n2], _ => simp [Spec.Identity.plmn3Ngap38413Literal, Spec.Identity.plmn3]

theorem C11_ngap_literal_mnc3 (c1 c2 c3 n1 n2 n3 : Nat) (hd : ∀ d ∈ [c1, c2, c3, n1, n2, n3], d < 10) :
    Spec.Identity.plmn3Ngap38413Literal [c1, c2, c3] [n1, n2, n3] = Spec.Identity.plmn3 [c1, c2, c3] [n1, n2, n3]
      ↔ (n1 = n2 ∧ n2 = n3) := by
  have hc3 : c3 < 10 := hd c3 (by simp)
  have hn1 : n1 < 10 := hd n1 (by simp)
  have hn2 : n2 < 10 := hd n2 (by simp)
  have hn3 : n3 < 10 := hd n3 (by simp)
  have hall : (Spec.Identity.allDigits [c1, c2, c3] && Spec.Identity.allDigits [n1, n2, n3]) = true := by
    simp [Spec.Identity.allDigits, Spec.Identity.isDigit, hd c1, hd c2, hc3, hn1, hn2, hn3]
  simp only [Spec.Identity.plmn3Ngap38413Literal, Spec.Identity.plmn3, List.cons_append, List.nil_append, hall, if_true,
    Option.some.injEq, List.cons.injEq, and_true, true_and]
  constructor
  · rintro ⟨h2, h3⟩
    have a := octet_inj (by omega) (by omega) (by omega) (by omega) h2
    have b := octet_inj (by omega) (by omega) (by omega) (by omega) h3
    omega
  · rintro ⟨rfl, rfl⟩
    exact ⟨rfl, rfl⟩

theorem C11_ngap_literal_differs_310_410 :
    Spec.Identity.plmn3 [3, 1, 0] [4, 1, 0] = some [0x13, 0x00, 0x14] ∧
    Spec.Identity.plmn3Ngap38413Literal [3, 1, 0] [4, 1, 0] = some [0x13, 0x40, 0x01] := by decide

end Stgutg.Props.C11
