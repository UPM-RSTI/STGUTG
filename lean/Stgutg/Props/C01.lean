/-
  C01 — NG Setup + UE registration is accepted by a conformant AMF.
  The property theorems, each with the lemmas that serve only it; what several of them share lives in Stgutg/Proofs/Emulator*.lean.

  Model: Model/Emulator.lean (`manageNGSetup`, `registerUE`, test mode), tied to the code by the `convo-reg` correspondence
         domain (the real binary and in-process procedure calls against the scripted AMF; byte-identical uplink messages).
  Spec:  Spec/Amf.lean — the reference AMF as a judge of the uplink transcript (TS 38.413 message / mandatory IEs / ids,
         TS 24.501 parse, SUCI/PLMN, RES* = XRES*, header type, MAC, NAS COUNT).

  The statement's clauses, each for ALL configurations and ALL AMF choices (primitives AES / HMAC / CMAC / CTR are parameters):
    C01_res_star                 RES* returned and K_AMF / K_NASenc / K_NASint installed = the network's vector (C05 + TS 33.102 AUTN)
    C01_authentication_response_accepted  the judge's step on the Authentication Response built from that RES* raises no clause (C09);
                                 a different RES* is refused (`C01_wrong_res_star_refused`)
    C01_registration_protected   Security Mode Complete: header type 4, NAS COUNT 0; Registration Complete: header type 2,
                                 NAS COUNT 1 (= previous + 1); both pass the reference AMF's NAS-security clause (MAC valid
                                 under the network-derived keys, the plain message recovered) (C06)
    C01_suci / C01_plmn          the SUCI of UE i decodes to the configured MCC/MNC and MSIN + i; the NG Setup PLMN is the
                                 configured PLMN (C11, C16)
    C01_security_capability      the capability announces the algorithms the AMF selects (C16)
    C01_ngap_*                   every NGAP message of the exchange is the TS 38.413 message expected at its step (class,
                                 procedure code), has its mandatory IEs with the assigned criticality, and carries the
                                 AMF-UE-NGAP-ID / RAN-UE-NGAP-ID / NAS-PDU it was given (C13)
    C01_*_seen                   for ALL in-range arguments (gNB id of 22..32 bits, AMF-UE-NGAP-ID < 2^40, RAN-UE-NGAP-ID < 2^32,
                                 3-octet PLMN, any NAS-PDU) the wrapper returns octets and the reference AMF's decoder returns
                                 exactly the built PDU: the `ConfPdu` / `regular` hypotheses of `C01_amf_sees_built_pdu` are
                                 discharged by C13's static analysis of the builder skeletons (`C01_builder_seen`)
    C01_step_*                   the judge's `step` (Spec/Amf.lean) on each of the six uplink messages, in conversation order: NG SETUP
                                 REQUEST, REGISTRATION REQUEST in INITIAL UE MESSAGE (Props/C01Steps.lean), AUTHENTICATION RESPONSE,
                                 SECURITY MODE COMPLETE, INITIAL CONTEXT SETUP RESPONSE, REGISTRATION COMPLETE (cases of `step_event`,
                                 Props/C02Steps.lean) — each raises NO clause (NGAP and NAS) and moves the judge's state as the
                                 conversation expects
    C01_subscriber_identified    the judge attributes the SUCI of the emulator's UE j to subscriber j (its own decimal arithmetic =
                                 the emulator's `%0*d` of IMSI + j; distinct UEs, distinct MSINs)
    C01_registration_script_accepted / C01_registration_accepted_for_config
                                 `Spec.Amf.judge … = accept` on the six-message uplink script of NG Setup + one registration, for
                                 ALL decimal-IMSI configurations (MNC of 2 or 3 digits), gNB ids of 22..32 bits, RAN-UE-NGAP-ID
                                 < 2^32 and ALL AMF choices (RAND, SQN, AMF field, AMF-UE-NGAP-ID < 2^40), with the SUCI and
                                 capability the emulator really builds
    C01_accepted_n_for_downlink / C01_accepted_for_downlink / C01_accepted_partial
                                 `C01_accepted_statement` THROUGH `emulate` (the emulator model executed symbolically,
                                 Proofs/EmulatorRun.lean: `manageNGSetup_run`, `registerUE_runs`, `testMode_registrations`): judge (emulate cfg
                                 dls).uls = accept, given what the emulator READS from the downlink messages (`DlReads` per UE).
                                 All three are instances of `accepted_of_reads` (N UEs, any UE context after `GetNasPdu` that has
                                 the created identity and algorithms); the one-UE theorems are its case N = 1.
                                 Their hypotheses `hin` / `hkeys` (the UE context holds the keys of the network's vector) come
                                 from `C01_res_star`: `C01_keys_in_step`, `C01_keys_of_network_challenge`
    C01_accepted / C01_accepted_n
                                 the full statement: judge (emulate cfg (dl cfg choices)).uls = accept with `dl` = `Spec.AmfDl.dl`
                                 (Spec/AmfDownlink.lean: the conformant AMF's five downlink messages per UE, built with the X.691 /
                                 TS 24.501 SPECIFICATION encoders), for one UE and for N ≤ 10 000 UEs (`C01_registration_block`: the five
                                 uplink messages of one registration judged from any state — the Registration Request, then
                                 `registration_tail` of Props/C02Life.lean; `C01_register_one`, `C01_register_loop`:
                                 the loop body and the loop, emulator and judge together, instances of `register_one` / `register_loop`;
                                 `C01_dlReads_of_spec`: what the emulator reads from the specified downlink —
                                 Proofs/EmulatorDownlink.lean, Proofs/EmulatorDownlinkNas.lean)
  `C01_accepted_statement` is proved in the form `C01_accepted_n`. Its hypotheses beyond well-formed configuration and AMF
  choices: `Spec.AmfDl.dl` is defined for every UE (the three protected NAS messages exist — a property of the primitives' output
  lengths), every downlink message fits the emulator's 2048-octet read buffer, N ≤ 10 000 (C16's distinct-id range), and nothing
  is requested after registration (the procedures after it are C02's: `Props.C02.C02_script_accepted`). The reference AMF is also
  evaluated on every real transcript (spec column of the `convo` op), and `C01_accepted_witness` evaluates one whole
  conversation with real crypto in the kernel. Traffic mode (XDP) is not modelled.
-/
import Stgutg.Proofs.Emulator
import Stgutg.Proofs.EmulatorWitness
import Stgutg.Proofs.BuildersPath
import Stgutg.Proofs.BuildersJudge
import Stgutg.Proofs.EmulatorSubscriber
import Stgutg.Proofs.EmulatorRun
import Stgutg.Proofs.EmulatorReencode
import Stgutg.Proofs.EmulatorDownlinkNas
import Stgutg.Props.C09
import Stgutg.Props.C11
import Stgutg.Props.C02Life

namespace Stgutg.Props.C01
open Stgutg Stgutg.Model.Emulator Stgutg.Proofs.Emulator Stgutg.Builders
open Stgutg.Model.NasProtect Stgutg.Proofs.NasProtect Stgutg.Spec.NasSecurity
open Stgutg.Model.KeyDerivation Stgutg.Proofs.KeyDerivation Stgutg.Proofs.Milenage
open Stgutg.Spec.Ts35206 (BlockCipher)
open Stgutg.Proofs.EmulatorReencode (wire_heads wire_of_table)

/-! ### RES* = XRES*, keys = the network's keys -/

/-- TS 33.102 6.3.2: the first six octets of AUTN are SQN ⊕ AK -/
theorem autn_take6 (P : Prims) (k opc rand sqn amf : Bytes) (hE : BlockCipher P.aes) (hk : k.length = 16) (hopc : opc.length = 16)
    (hrand : rand.length = 16) (hsqn : sqn.length = 6) :
    (Spec.Ts35206.autn P.aes k opc rand sqn amf).take 6 = xorBytes sqn (Spec.Ts35206.f5 P.aes k opc rand) := by
  unfold Spec.Ts35206.autn
  have h6 : (xorBytes sqn (Spec.Ts35206.f5 P.aes k opc rand)).length = 6 := by
    rw [Proofs.Hex.xorBytes_length, f5_length hE hk hopc hrand, hsqn]; rfl
  rw [List.append_assoc, List.take_left' h6]

/-- **C01_res_star.** For every K, OPc, RAND, SQN, AMF field, MCC, 2- or 3-digit MNC and SUPI of 5..15 digits: given the
    AUTN the network sends for its choice (TS 33.102: SQN ⊕ AK ‖ AMF ‖ MAC-A), `DeriveRESstarAndSetKey` succeeds, the RES* it
    returns is the XRES* of the network's vector (`Spec.Amf.vector`: TS 35.206 + TS 33.501 Annex A over the SQN the network
    chose), and the K_AMF, K_NASenc, K_NASint it installs are the network's. (OPc configured; OP-only configurations reduce
    to this by `Props.C05.op_opc`.) -/
theorem C01_res_star (P : Prims) (hE : BlockCipher P.aes) (hH : MacLen P.hmac)
    (cfg : Spec.Amf.Cfg) (ch : Spec.Amf.Choice) (j : Nat) (aka : Spec.Ts33501A.Aka)
    (a : AuthSubs) (amf k opc digits : Bytes) (ds : List Nat)
    (hvec : Spec.Amf.vector P cfg j ch = some aka)
    (hk : hexDecode a.k = some k) (hk' : Spec.Amf.hexText cfg.k = some k) (hk16 : k.length = 16)
    (hopcne : a.opc ≠ []) (hopc : hexDecode a.opc = some opc) (hopc' : Spec.Amf.opcOf P cfg = some opc) (hopc16 : opc.length = 16)
    (hamf : hexDecode a.amf = some amf) (hamf2 : 2 ≤ amf.length)
    (hrand : ch.rand.length = 16) (hsqn : ch.sqn.length = 6)
    (hds : Spec.Amf.supiDigits cfg j = some ds) (hdig : Spec.Amf.asciiDigits ds = digits)
    (hd : digits.all isDigit = true) (h5 : 5 ≤ digits.length) (h15 : digits.length ≤ 15)
    (hmcc : cfg.mcc.length = 3) (hmnc : cfg.mnc.length = 2 ∨ cfg.mnc.length = 3) :
    ∃ keys, DeriveRESstarAndSetKey P (Props.C05.imsiPrefix ++ digits) 0 2 a
        (Spec.Ts35206.autn P.aes k opc ch.rand ch.sqn ch.amf) ch.rand (snName cfg.mnc cfg.mcc) cfg.mnc cfg.mcc = .ok keys ∧
      keys.resStar = aka.resStar ∧ keys.kamf = aka.kamf ∧ keys.knasEnc = aka.knasEnc ∧ keys.knasInt = aka.knasInt := by
  refine ⟨_, Props.C05.derive_eq_spec P hE hH a amf k opc ch.rand _ cfg.mcc cfg.mnc digits 0 2 hamf hamf2 hk hk16 hopcne hopc hopc16
    hrand hd h5 h15 hmcc hmnc, ?_⟩
  unfold Spec.Amf.vector at hvec
  simp only [hk', hopc', hds, hdig] at hvec
  injection hvec with hvec
  subst hvec
  simp only [Props.C05.specKeys, autn_take6 P k opc ch.rand ch.sqn ch.amf hE hk16 hopc16 hrand hsqn]
  exact ⟨rfl, rfl, rfl, rfl⟩

/-- the hypotheses about the configuration are satisfiable: K and OPc of the shipped src/config.yaml are read alike, as 16
    octets, by the code's `hex.DecodeString` model and by the reference AMF's reader; subscriber 2 of IMSI 001010000000001 -/
example :
    hexDecode (str ['4', '6', '5', 'B', '5', 'C', 'E', '8', 'B', '1', '9', '9', 'B', '4', '9', 'F', 'A', 'A', '5', 'F', '0', 'A', '2', 'E', 'E', '2', '3', '8', 'A', '6', 'B', 'C'])
      = Spec.Amf.hexText (str ['4', '6', '5', 'B', '5', 'C', 'E', '8', 'B', '1', '9', '9', 'B', '4', '9', 'F', 'A', 'A', '5', 'F', '0', 'A', '2', 'E', 'E', '2', '3', '8', 'A', '6', 'B', 'C']) ∧
    (hexDecode (str ['4', '6', '5', 'B', '5', 'C', 'E', '8', 'B', '1', '9', '9', 'B', '4', '9', 'F', 'A', 'A', '5', 'F', '0', 'A', '2', 'E', 'E', '2', '3', '8', 'A', '6', 'B', 'C'])).map List.length = some 16 ∧
    hexDecode (str ['E', '8', 'E', 'D', '2', '8', '9', 'D', 'E', 'B', 'A', '9', '5', '2', 'E', '4', '2', '8', '3', 'B', '5', '4', 'E', '8', '8', 'E', '6', '1', '8', '3', 'C', 'A'])
      = Spec.Amf.hexText (str ['E', '8', 'E', 'D', '2', '8', '9', 'D', 'E', 'B', 'A', '9', '5', '2', 'E', '4', '2', '8', '3', 'B', '5', '4', 'E', '8', '8', 'E', '6', '1', '8', '3', 'C', 'A']) ∧
    Spec.Amf.supiDigits { imsi := str ['0', '0', '1', '0', '1', '0', '0', '0', '0', '0', '0', '0', '0', '0', '1'], mcc := [], mnc := [], k := [], opc := [], op := [],
                          gnbId := [], bitLength := 0, name := [], abba := [], reg := 1, pdu := 0, svc := 0, rel := 0, dereg := 0 } 2
      = some [0, 0, 1, 0, 1, 0, 0, 0, 0, 0, 0, 0, 0, 0, 3] :=
  ⟨by decide, by decide, by decide, by decide⟩

/-- **C01_authentication_response_accepted.** The reference AMF's step on the AUTHENTICATION RESPONSE: for every 16-octet
    RES* equal to the XRES* of the network's vector (which `C01_res_star` gives for what `DeriveRESstarAndSetKey` returns), the
    octets `GetAuthenticationResponse(resStar, "")` produces parse, with the standard's parser under table 8.2.2.1.1, as an
    AUTHENTICATION RESPONSE whose authentication response parameter is XRES*: the judge raises no clause and moves the UE from
    "authentication request sent" to "security mode command sent" (C09 + the judge's definition). -/
theorem C01_authentication_response_accepted (s : Spec.Amf.St) (k : Nat) (u : Spec.Amf.UeSt) (resStar : Bytes)
    (h16 : resStar.length = 16) (hreg : u.reg = .authSent) (hres : resStar = u.aka.resStar) :
    ∃ bs, Nas.Ctor.encodeWith Gen.Nas.layout_AuthenticationResponse (Nas.Ctor.authenticationResponse resStar []) = .ok bs ∧
      Spec.Amf.onPlainUplink s k u bs = s.setUe { u with reg := .smcSent } := by
  obtain ⟨bs, henc, -, h⟩ := onPlainUplink_authenticationResponse u resStar h16 hreg
  exact ⟨bs, henc, by rw [h, if_pos hres]⟩

/-- … and a RES* that differs from XRES* is refused under the clause `res-star` -/
theorem C01_wrong_res_star_refused (s : Spec.Amf.St) (k : Nat) (u : Spec.Amf.UeSt) (resStar : Bytes)
    (h16 : resStar.length = 16) (hreg : u.reg = .authSent) (hres : resStar ≠ u.aka.resStar) :
    ∃ bs, Nas.Ctor.encodeWith Gen.Nas.layout_AuthenticationResponse (Nas.Ctor.authenticationResponse resStar []) = .ok bs ∧
      Spec.Amf.onPlainUplink s k u bs = (s.fail k "res-star").setUe { u with reg := .smcSent } := by
  obtain ⟨bs, henc, -, h⟩ := onPlainUplink_authenticationResponse u resStar h16 hreg
  exact ⟨bs, henc, by rw [h, if_neg hres]⟩

/-! ### security header type, MAC, NAS COUNT -/

/-- **C01_registration_protected.** For every pair of plain messages, every key pair and primitives: when the UE context holds
    the keys and algorithms of the network's vector, what `EncodeNasPduWithSecurity(ue, smc, 4, true, true)` returns is
    accepted by the reference AMF's NAS-security clause as header type 4 under NAS COUNT 0 with plain message `smc`
    (Security Mode Complete starts the count at 0), and what `EncodeNasPduWithSecurity(ue, rc, 2, true, false)` returns next is
    accepted as header type 2 under NAS COUNT exactly one above (1) with plain message `rc` — the MAC is valid under the
    network-derived K_NASint over sequence number ‖ message, and the stored UL NAS COUNT afterwards is 2. -/
theorem C01_registration_protected (P : Prims) (hP : PrimsOk P) (sec : UeSec) (u : Spec.Amf.UeSt) (hin : InStep sec u)
    (smc rc : Bytes) :
    let r1 := Model.NasProtect.encodeNasPduWithSecurity P sec smc 4 true true
    let r2 := Model.NasProtect.encodeNasPduWithSecurity P r1.1 rc 2 true false
    ∃ o1 o2, r1.2 = .ok o1 ∧ r2.2 = .ok o2 ∧
      Spec.Amf.byteAt o1 1 = 4 ∧ Spec.Amf.byteAt o2 1 = 2 ∧
      Spec.Amf.receiveUl P u true [4] o1 = .ok (smc, 0) ∧
      Spec.Amf.receiveUl P (Spec.Amf.accepted u 4 0) true [2] o2 = .ok (rc, 1) ∧
      cval r2.1.ulCount = 2 ∧ InStep r2.1 (Spec.Amf.accepted (Spec.Amf.accepted u 4 0) 2 1) := by
  intro r1 r2
  obtain ⟨o1, ho1, a1, ar, ain, ac⟩ := protected_received P hP sec u hin smc 4 true rfl true [4] 0 rfl rfl rfl rfl
  have hin1 : InStep r1.1 (Spec.Amf.accepted u 4 0) := ⟨by rw [ain.1]; rfl, ain.2⟩
  obtain ⟨o2, ho2, b1, br, bin, bc⟩ := protected_received P hP r1.1 (Spec.Amf.accepted u 4 0) hin1 rc 2 false rfl true [2] 1
    ((if_neg Bool.false_ne_true).trans ac) rfl rfl rfl
  exact ⟨o1, o2, ho1, ho2, a1, b1, ar, br, bc, ⟨by rw [bin.1]; rfl, bin.2⟩⟩

/-- the hypotheses are satisfiable: the toy primitives, and the real SP 800-38A CTR / RFC 4493 CMAC over AES-128 -/
example : ∃ P, PrimsOk P := ⟨toyPrims, toyPrims_ok⟩
example : PrimsOk Crypto.prims := cryptoPrims_ok
example : InStep { ulCount := 7, dlCount := 9, cipheringAlg := 0, integrityAlg := 2, knasEnc := [1], knasInt := [2] }
    { j := 0, ran := 1, ch := { rand := [], sqn := [], amf := [], ngKsi := 0, amfUeNgapId := 5, ueIp := [], teid := 0, upfIp := [] },
      aka := { resStar := [], kausf := [], kseaf := [], kamf := [], knasEnc := [1], knasInt := [2] } } :=
  ⟨rfl, Or.inr rfl, Or.inl rfl⟩

/-! ### SUCI and PLMN identify the configured subscriber -/

open Stgutg.Proofs.UeIdentity in
/-- **C01_suci.** The mobile identity in the Registration Request of UE `i` (the index in the registration loop) is read by
    the independent TS 24.501 9.11.3.4 decoder as the null-scheme SUCI with the configured MCC and MNC and
    MSIN = configured MSIN + i: it identifies subscriber `i` of the configured range (C16 / C11). -/
theorem C01_suci (cfg : Cfg) (h : DecimalImsi cfg.imsi) {m n : Nat} (hm : m = 2 ∨ m = 3) (hmnc : cfg.mnc.length = m)
    (hlen : 3 + m < cfg.imsi.length) (hfit : MsinFits cfg.imsi (3 + m) n) {i : Nat} (hi : i < n) :
    ∃ buf, Model.Suci.encodeSuci (Model.Suci.trimImsiPrefix (createUE cfg i).ctx.supi) cfg.mnc.length = .ok buf ∧
      Spec.Identity.decodeSuci buf = some (Spec.Identity.nullSchemeSuci (digitsOf (cfg.imsi.take 3))
        (digitsOf ((cfg.imsi.drop 3).take m))
        (digitsOf (Model.UeIdentity.decW (cfg.imsi.length - (3 + m)) (Model.UeIdentity.decVal (cfg.imsi.drop (3 + m)) + i)))) := by
  rw [hmnc]
  exact Props.C16.C16_suci_of_ue h hm hlen hfit hi cfg.k cfg.opc cfg.op

open Stgutg.Proofs.Suci in
/-- **C01_plmn.** The PLMN identity `ManageNGSetup` announces in Global RAN Node ID / Supported TA List (and every later
    builder copies into user location information) is the 3-octet encoding of the configured MCC and MNC (2 or 3 digits),
    the PLMN of the SUCIs above (C11). -/
theorem C01_plmn {mcc mnc msin : List Nat} (h : ValidImsi mcc mnc msin) :
    ∃ p, Spec.Identity.plmn3 mcc mnc = some p ∧
      Model.Suci.ngSetupPlmn (asc (mcc ++ mnc ++ msin)) ((asc mnc).length : Int) = .ok p ∧
      Spec.Identity.plmn3Decode p = some (mcc, mnc) := by
  obtain ⟨p, hp, hn⟩ := Props.C11.C11_plmn_ngsetup h false
  refine ⟨p, hp, ?_, Props.C11.C11_plmn_decodes mcc mnc p hp⟩
  simpa [asc] using hn

/-- **C01_security_capability.** The UE security capability of every created UE announces 5G-EA0 and 128-5G-IA2 — the
    algorithms the reference AMF selects — and no other (C16). -/
theorem C01_security_capability (cfg : Cfg) (i : Int) :
    Spec.Identity.eaSupported (secCapVal (createUE cfg i)).data Spec.Amf.selectedEa = true ∧
    Spec.Identity.iaSupported (secCapVal (createUE cfg i)).data Spec.Amf.selectedIa = true := by
  have := Props.C16.C16_capability_of_created_ue cfg.imsi i cfg.k cfg.opc cfg.op
  exact ⟨(this 0).1.mpr rfl, (this 2).2.mpr rfl⟩

/-! ### the NGAP messages of the exchange -/

open Stgutg.Spec.NgapView Stgutg.Spec.Ts38413

/-- what C13 gives for a PDU a wrapper hands to the encoder: message class and procedure code of TS 38.413 9.4.3, and
    every mandatory IE of the message's table with its assigned criticality -/
def IsMessage (pdu : Aper.Val) (m : Spec.Ts38413.Msg) : Prop :=
  pduPresent pdu = some ((msgClass m).index + 1) ∧ pduProc pdu = some (procCode m : Int) ∧
  ∀ ms, mandatory m = some ms → ∃ hs : List (Int × Nat), headers pdu = some (hs.map some) ∧ ∀ x ∈ ms, ((x.1 : Int), x.2) ∈ hs

theorem isMessage_of_shaped (E : Model.Convert.Ext) (t : Template) (ht : t ∈ Proofs.Builders.allTable) (plmn : Bytes)
    (args : List Aper.Val) (pdu : Aper.Val) (h : Proofs.Builders.Shaped E t plmn args pdu) : IsMessage pdu t.message :=
  ⟨(Props.C13.C13_class E t ht plmn args pdu h).1, (Props.C13.C13_class E t ht plmn args pdu h).2,
   fun ms hm => Props.C13.C13_mandatory E t ht ms hm plmn args pdu h⟩

/-- **C01_ngap_initial_ue_message.** UL2: `GetInitialUEMessage(ran, nas, "")` is INITIAL UE MESSAGE with RAN-UE-NGAP-ID `ran`,
    NAS-PDU `nas`, user location information and RRC establishment cause. -/
theorem C01_ngap_initial_ue_message (E : Model.Convert.Ext) (plmn : Bytes) (ran : Int) (nas : Bytes) (pdu : Aper.Val)
    (hb : Wrapper.pdu E .GetInitialUEMessage plmn [.int ran, .octs nas, .str []] = .ok pdu) :
    IsMessage pdu .InitialUEMessage ∧
    (∃ v, ieValuesById pdu (ieRANUENGAPID : Int) = some [some v] ∧ Val.at [0] v = some (.int ran)) ∧
    (∃ v, ieValuesById pdu (ieNASPDU : Int) = some [some v] ∧ Val.at [0] v = some (.octs nas)) := by
  have ht : tInitialUEMessage ∈ Proofs.Builders.allTable := mem_allTable_hand (by simp [handTable])
  have hsh := Proofs.Builders.build_shaped E tInitialUEMessage plmn _ pdu (show build E tInitialUEMessage plmn [.int ran, .octs nas, .str []] = .ok pdu from hb)
  refine ⟨isMessage_of_shaped E _ ht plmn _ pdu hsh, ?_, ?_⟩
  · exact Props.C13.C13_carries_ran E _ ht 0 (by decide) plmn _ pdu hsh (.int ran) rfl
  · have := Props.C13.C13_carries_nas E _ ht 1 (by decide) plmn _ pdu hsh (.octs nas) rfl
    simpa [bytesOf, tInitialUEMessage] using this

/-- **C01_ngap_uplink_nas_transport.** UL3, UL4, UL6 (and every later NAS message): `GetUplinkNASTransport(amf, ran, nas)` is
    UPLINK NAS TRANSPORT carrying the AMF-UE-NGAP-ID it was given (the one the emulator took from the Authentication Request's
    DOWNLINK NAS TRANSPORT), the UE's RAN-UE-NGAP-ID and the NAS-PDU. -/
theorem C01_ngap_uplink_nas_transport (E : Model.Convert.Ext) (plmn : Bytes) (amf ran : Int) (nas : Bytes) (pdu : Aper.Val)
    (hb : Wrapper.pdu E .GetUplinkNASTransport plmn [.int amf, .int ran, .octs nas] = .ok pdu) :
    IsMessage pdu .UplinkNASTransport ∧
    (∃ v, ieValuesById pdu (ieAMFUENGAPID : Int) = some [some v] ∧ Val.at [0] v = some (.int amf)) ∧
    (∃ v, ieValuesById pdu (ieRANUENGAPID : Int) = some [some v] ∧ Val.at [0] v = some (.int ran)) ∧
    (∃ v, ieValuesById pdu (ieNASPDU : Int) = some [some v] ∧ Val.at [0] v = some (.octs nas)) := by
  have ht : tUplinkNasTransport ∈ Proofs.Builders.allTable := mem_allTable_hand (by simp [handTable])
  have hsh := Proofs.Builders.build_shaped E tUplinkNasTransport plmn _ pdu (show build E tUplinkNasTransport plmn [.int amf, .int ran, .octs nas] = .ok pdu from hb)
  refine ⟨isMessage_of_shaped E _ ht plmn _ pdu hsh, ?_, ?_, ?_⟩
  · have := Props.C13.C13_carries_amf E _ ht 0 (by decide) plmn _ pdu hsh (.int amf) rfl
    simpa [amfIe, tUplinkNasTransport] using this
  · exact Props.C13.C13_carries_ran E _ ht 1 (by decide) plmn _ pdu hsh (.int ran) rfl
  · have := Props.C13.C13_carries_nas E _ ht 2 (by decide) plmn _ pdu hsh (.octs nas) rfl
    simpa [bytesOf, tUplinkNasTransport] using this

/-- **C01_ngap_initial_context_setup_response.** UL5: `GetInitialContextSetupResponse(amf, ran)` is INITIAL CONTEXT SETUP
    RESPONSE with both identifiers. -/
theorem C01_ngap_initial_context_setup_response (E : Model.Convert.Ext) (plmn : Bytes) (amf ran : Int) (pdu : Aper.Val)
    (hb : Wrapper.pdu E .GetInitialContextSetupResponse plmn [.int amf, .int ran] = .ok pdu) :
    IsMessage pdu .InitialContextSetupResponse ∧
    (∃ v, ieValuesById pdu (ieAMFUENGAPID : Int) = some [some v] ∧ Val.at [0] v = some (.int amf)) ∧
    (∃ v, ieValuesById pdu (ieRANUENGAPID : Int) = some [some v] ∧ Val.at [0] v = some (.int ran)) := by
  have ht : tInitialContextSetupResponseForRegistraionTest ∈ Proofs.Builders.allTable := mem_allTable_hand (by simp [handTable])
  have hsh := Proofs.Builders.build_shaped E tInitialContextSetupResponseForRegistraionTest plmn _ pdu
    (show build E tInitialContextSetupResponseForRegistraionTest plmn [.int amf, .int ran] = .ok pdu from hb)
  refine ⟨isMessage_of_shaped E _ ht plmn _ pdu hsh, ?_, ?_⟩
  · have := Props.C13.C13_carries_amf E _ ht 0 (by decide) plmn _ pdu hsh (.int amf) rfl
    simpa [amfIe, tInitialContextSetupResponseForRegistraionTest] using this
  · exact Props.C13.C13_carries_ran E _ ht 1 (by decide) plmn _ pdu hsh (.int ran) rfl

/-! ### what the AMF decodes is what was built -/

/-- **C01_amf_sees_built_pdu.** "The AMF's decoder inverts the encoder on this PDU", from the composite APER round trip
    (C04) and the canonical-encoding theorem (C03): whenever the PDU a wrapper hands to `ngap.Encoder` is within its
    constraints (`ConfPdu`: the identifiers in range — AMF-UE-NGAP-ID < 2^40, RAN-UE-NGAP-ID < 2^32, PDU session ID ≤ 255 —,
    the NAS-PDU and every open-type content shorter than 16384 octets) and regular, the reference AMF decodes the octets on
    the wire to exactly that PDU. Every C13 fact above (`C01_ngap_*`) is then a fact about what the AMF sees. The two
    hypotheses are decidable predicates on the value; that the builder templates satisfy them for ALL in-range arguments is
    `C01_builder_seen` below (from C13's `skeleton_table` + `tmOK_sound`). -/
theorem C01_amf_sees_built_pdu (v : Aper.Val) (b : Bytes)
    (hc : Props.C04.ConfPdu Spec.Amf.ngapFuel v)
    (hr : Proofs.AperSpec.regular Gen.Ngap.schema Spec.Amf.ngapFuel (.struct Gen.Ngap.pduId) false v = true)
    (h : Builders.encodePdu v = .ok b) : Spec.Amf.decodeNgap b = some v :=
  amf_sees_built_pdu v b hc hr h

set_option maxRecDepth 1000000 in
/-- the hypotheses are satisfiable: C04's NG SETUP REQUEST (four IEs in open types) -/
example : Props.C04.ConfPdu Spec.Amf.ngapFuel Props.C04.ngSetupRequest ∧
    Proofs.AperSpec.regular Gen.Ngap.schema Spec.Amf.ngapFuel (.struct Gen.Ngap.pduId) false Props.C04.ngSetupRequest = true :=
  ⟨Props.C04.ngSetupRequest_conf, by decide +kernel⟩

/-! ### the `ConfPdu` / `regular` hypotheses discharged from the argument ranges (C13: `InRange`) -/

open Stgutg.Proofs.BuildersRange Stgutg.Proofs.BuildersRoles Stgutg.Proofs.BuildersPath in
/-- **C01_builder_seen.** For every builder of the table and all in-range arguments (`InRange true`, C13), the builder
    returns a PDU, `ngap.Encoder` returns octets, and the reference AMF decodes these octets to exactly that PDU: the
    `ConfPdu` and `regular` hypotheses of `C01_amf_sees_built_pdu` follow from the static analysis of the builder's
    skeleton (`Props.C13.skeleton_table`) and the ranges of the arguments. -/
theorem C01_builder_seen (E : Model.Convert.Ext) (t : Template) (ht : t ∈ Proofs.Builders.allTable) (plmn : Bytes)
    (args : List Aper.Val) (h : InRange true E t plmn args)
    (hnc : Props.C13.NonCanonicalConst t = false) :
    ∃ pdu b, build E t plmn args = .ok pdu ∧ encodePdu pdu = .ok b ∧ Spec.Amf.decodeNgap b = some pdu := by
  obtain ⟨c, tm, hsel, hout, -⟩ := id h
  obtain ⟨b, hb, he, hd⟩ := Proofs.BuildersJudge.skeleton_seen E t ht plmn args h c tm hsel hout hnc
  exact ⟨_, b, hb, he, hd⟩

open Stgutg.Proofs.BuildersRange in
/-- a wrapper that hands the builder's PDU to `ngap.Encoder`, on in-range arguments: it returns octets, which the reference AMF
    decodes to the PDU built -/
theorem wrapper_seen (E : Model.Convert.Ext) (wr : Wrapper) (t : Template) (ht : t ∈ Proofs.Builders.allTable) (plmn : Bytes)
    (args : List Aper.Val) (hwr : Wrapper.pdu E wr plmn args = build E t plmn args) (h : InRange true E t plmn args)
    (hnc : Props.C13.NonCanonicalConst t = false) :
    ∃ pdu b, build E t plmn args = .ok pdu ∧ Wrapper.run E wr plmn args = .ok (.ok b) ∧ Spec.Amf.decodeNgap b = some pdu := by
  obtain ⟨pdu, b, hb, he, hd⟩ := C01_builder_seen E t ht plmn args h hnc
  refine ⟨pdu, b, hb, ?_, hd⟩
  unfold Wrapper.run
  rw [hwr, hb]
  simp only [he]

open Stgutg.Proofs.BuildersRange Stgutg.Proofs.BuildersRoles Stgutg.Proofs.BuildersPath in
/-- **C01_ng_setup_request_seen.** UL1, for every configuration with a gNB id of `bitlength` = 22..32 bits held in
    ⌈bitlength/8⌉ octets (unused bits clear), a PLMN of 3 octets (what `C01_plmn` gives) and a non-empty gNB name:
    `GetNGSetupRequest` returns octets, the reference AMF decodes them to the PDU the wrapper built, and that PDU is NG SETUP
    REQUEST with its mandatory IEs, the configured name and gNB id. -/
theorem C01_ng_setup_request_seen (E : Model.Convert.Ext) (plmn g m name : Bytes) (bl : Int)
    (hm : m.length = 3) (h22 : 22 ≤ bl) (h32 : bl ≤ 32) (hg : g.length = (bl.toNat + 7) / 8)
    (hc : Canonical g bl.toNat) (hname : 1 ≤ name.length) :
    ∃ pdu b, Wrapper.run E .GetNGSetupRequest plmn [.octs g, .octs m, .int bl, .str name] = .ok (.ok b) ∧
      Spec.Amf.decodeNgap b = some pdu ∧ IsMessage pdu .NGSetupRequest ∧
      (∃ v, ieValuesById pdu (ieRANNodeName : Int) = some [some v] ∧ Val.at [0] v = some (.str name)) ∧
      (∃ v, ieValuesById pdu (ieGlobalRANNodeID : Int) = some [some v] ∧ Val.at [1, 0, 1, 1, 0] v = some (.bits g bl.toNat)) := by
  have ht : tGetNGSetupRequest ∈ Proofs.Builders.allTable := List.mem_append_right _ (by simp)
  obtain ⟨pdu, b, hb, hrun, hd⟩ := wrapper_seen E .GetNGSetupRequest _ ht plmn _ (ngsetup_wrapper_eq ..)
    (inRange_ngSetupRequest E plmn g m name bl hm h22 h32 hg hc hname) rfl
  have hsh := Proofs.Builders.build_shaped E _ plmn _ pdu hb
  exact ⟨pdu, b, hrun, hd, isMessage_of_shaped E _ ht plmn _ pdu hsh,
    Props.C13.C13_carries_name E _ ht 3 (by decide) plmn _ pdu hsh (.str name) rfl,
    Props.C13.C13_carries_gnbid_ngsetup E _ ht 0 2 (by decide) (by decide) plmn _ pdu hsh (.octs g) (.int bl) rfl rfl⟩

open Stgutg.Proofs.BuildersRange Stgutg.Proofs.BuildersRoles Stgutg.Proofs.BuildersPath in
/-- **C01_initial_ue_message_seen.** UL2, for every RAN-UE-NGAP-ID in 0..2^32−1, every NAS-PDU and every announced 3-octet
    PLMN: `GetInitialUEMessage(ran, nas, "")` returns octets which the reference AMF decodes to INITIAL UE MESSAGE with its
    mandatory IEs, that RAN-UE-NGAP-ID and that NAS-PDU. -/
theorem C01_initial_ue_message_seen (E : Model.Convert.Ext) (plmn : Bytes) (hplmn : plmn.length = 3) (ran : Int) (nas : Bytes)
    (hr0 : 0 ≤ ran) (hr1 : ran < 2 ^ 32) :
    ∃ pdu b, Wrapper.run E .GetInitialUEMessage plmn [.int ran, .octs nas, .str []] = .ok (.ok b) ∧
      Spec.Amf.decodeNgap b = some pdu ∧ IsMessage pdu .InitialUEMessage ∧
      (∃ v, ieValuesById pdu (ieRANUENGAPID : Int) = some [some v] ∧ Val.at [0] v = some (.int ran)) ∧
      (∃ v, ieValuesById pdu (ieNASPDU : Int) = some [some v] ∧ Val.at [0] v = some (.octs nas)) := by
  obtain ⟨pdu, b, hb, hrun, hd⟩ := wrapper_seen E .GetInitialUEMessage _ (mem_allTable_hand (by simp [handTable])) plmn _ rfl
    (inRange_initialUEMessage E plmn hplmn ran nas hr0 hr1) rfl
  exact ⟨pdu, b, hrun, hd, C01_ngap_initial_ue_message E plmn ran nas pdu hb⟩

open Stgutg.Proofs.BuildersRange Stgutg.Proofs.BuildersRoles Stgutg.Proofs.BuildersPath in
/-- **C01_uplink_nas_transport_seen.** UL3, UL4, UL6, for every AMF-UE-NGAP-ID the AMF may assign (0..2^40−1), every
    RAN-UE-NGAP-ID in 0..2^32−1 and every NAS-PDU: `GetUplinkNASTransport` returns octets which the reference AMF decodes
    to UPLINK NAS TRANSPORT with its mandatory IEs and exactly these three values. -/
theorem C01_uplink_nas_transport_seen (E : Model.Convert.Ext) (plmn : Bytes) (hplmn : plmn.length = 3) (amf ran : Int)
    (nas : Bytes) (ha0 : 0 ≤ amf) (ha1 : amf < 2 ^ 40) (hr0 : 0 ≤ ran) (hr1 : ran < 2 ^ 32) :
    ∃ pdu b, Wrapper.run E .GetUplinkNASTransport plmn [.int amf, .int ran, .octs nas] = .ok (.ok b) ∧
      Spec.Amf.decodeNgap b = some pdu ∧ IsMessage pdu .UplinkNASTransport ∧
      (∃ v, ieValuesById pdu (ieAMFUENGAPID : Int) = some [some v] ∧ Val.at [0] v = some (.int amf)) ∧
      (∃ v, ieValuesById pdu (ieRANUENGAPID : Int) = some [some v] ∧ Val.at [0] v = some (.int ran)) ∧
      (∃ v, ieValuesById pdu (ieNASPDU : Int) = some [some v] ∧ Val.at [0] v = some (.octs nas)) := by
  obtain ⟨pdu, b, hb, hrun, hd⟩ := wrapper_seen E .GetUplinkNASTransport _ (mem_allTable_hand (by simp [handTable])) plmn _ rfl
    (inRange_uplinkNasTransport E plmn hplmn amf ran nas ha0 ha1 hr0 hr1) rfl
  exact ⟨pdu, b, hrun, hd, C01_ngap_uplink_nas_transport E plmn amf ran nas pdu hb⟩

open Stgutg.Proofs.BuildersRange Stgutg.Proofs.BuildersRoles Stgutg.Proofs.BuildersPath in
/-- **C01_initial_context_setup_response_seen.** UL5. -/
theorem C01_initial_context_setup_response_seen (E : Model.Convert.Ext) (plmn : Bytes) (hplmn : plmn.length = 3)
    (amf ran : Int) (ha0 : 0 ≤ amf) (ha1 : amf < 2 ^ 40) (hr0 : 0 ≤ ran) (hr1 : ran < 2 ^ 32) :
    ∃ pdu b, Wrapper.run E .GetInitialContextSetupResponse plmn [.int amf, .int ran] = .ok (.ok b) ∧
      Spec.Amf.decodeNgap b = some pdu ∧ IsMessage pdu .InitialContextSetupResponse ∧
      (∃ v, ieValuesById pdu (ieAMFUENGAPID : Int) = some [some v] ∧ Val.at [0] v = some (.int amf)) ∧
      (∃ v, ieValuesById pdu (ieRANUENGAPID : Int) = some [some v] ∧ Val.at [0] v = some (.int ran)) := by
  obtain ⟨pdu, b, hb, hrun, hd⟩ := wrapper_seen E .GetInitialContextSetupResponse _ (mem_allTable_hand (by simp [handTable])) plmn _
    rfl (inRange_initialContextSetupResponse E plmn hplmn amf ran ha0 ha1 hr0 hr1) rfl
  exact ⟨pdu, b, hrun, hd, C01_ngap_initial_context_setup_response E plmn amf ran pdu hb⟩

/-- **C01_registration_block.** The five uplink messages of the registration of subscriber `j` (`regUls`: UL2 … UL6 of
    `C01_registration_script_accepted`, with the RES* of the network's vector), judged (for C01 or for C02: `life`) at ANY position
    from ANY state in which NG Setup is done, no clause is raised, and neither `j` nor its RAN-UE-NGAP-ID occurs among the UEs known
    so far: the judge raises no clause and ends with `j` REGISTERED after the others — whatever follows in the transcript is judged
    from that state. -/
theorem C01_registration_block (P : Prims) (hP : PrimsOk P) (cfg : Spec.Amf.Cfg) (chs : List Spec.Amf.Choice)
    (E : Model.Convert.Ext) (a : Props.C02.Args) (hm : a.plmn.length = 3) (hr0 : 0 ≤ a.ran) (hr1 : a.ran < 2 ^ 32)
    (ha1 : a.amf < 2 ^ 40) (us : List Spec.Amf.UeSt) (j : Nat) (hnew : ∀ x ∈ us, x.ran ≠ a.ran ∧ x.j ≠ j) (mi secCap : Nas.Val)
    (hmi : mi.iei = 0 ∧ mi.len = mi.data.length ∧ mi.data.length < 65536)
    (hsc : secCap.iei = 0x2E ∧ secCap.len = secCap.data.length ∧ secCap.data.length < 256)
    (hea : Spec.Identity.eaSupported secCap.data Spec.Amf.selectedEa = true)
    (hia : Spec.Identity.iaSupported secCap.data Spec.Amf.selectedIa = true)
    (ch : Spec.Amf.Choice) (aka : Spec.Ts33501A.Aka) (hsub : Spec.Amf.subscriberOf cfg mi.data = some j)
    (hch : chs[j]? = some ch) (hvec : Spec.Amf.vector P cfg j ch = some aka)
    (hamf : ch.amfUeNgapId = a.amf) (hres : aka.resStar.length = 16)
    (sec : UeSec) (hin : InStep sec (regUe j a.ran ch aka .authSent none []))
    (hrr : ∀ rr, Nas.Ctor.encodeWith Gen.Nas.layout_RegistrationRequest
      (Nas.Ctor.registrationRequest 1 mi none (some secCap) (some cap5GMMVal) none none) = .ok rr → rr.length < 65536) :
    ∃ uls sec', Props.C02.regUls P E a mi secCap aka.resStar sec uls sec' ∧
      ∀ life k, Steps P life cfg chs (regSt us) k uls (regSt (us ++ [regUe j a.ran ch aka .registered (some 1) [1, 0]])) := by
  have hsuci : Spec.Amf.suciIs cfg j mi.data = true := by
    have := List.find?_some hsub
    exact this
  have hran : ∀ x ∈ us, x.ran ≠ a.ran := fun x hx => (hnew x hx).1
  have hj : ∀ x ∈ us, x.j ≠ j := fun x hx => (hnew x hx).2
  -- the Registration Request opens the record; the other four messages are messages of the table (Props/C02Life.lean)
  obtain ⟨nas2, b2, e2, e3, hstep2⟩ := C01_step_registration_request P cfg chs (regSt us)
    E a.plmn hm a.ran hr0 hr1 rfl mi secCap hmi hsc hea hia j ch aka hsub hch hvec
    (by simp only [regSt, List.any_eq_false, beq_iff_eq]; exact hj) (by simp only [regSt, List.any_eq_false, beq_iff_eq]; exact hran)
  obtain ⟨bs, sec', hem, -, hsteps⟩ := Props.C02.registration_tail P hP cfg chs E a ⟨hm, ha1, hr0, hr1⟩
    (regSt (us ++ [regUe j a.ran ch aka .authSent none []])) j ch aka sec rfl (regSt_find us (regUe j a.ran ch aka .authSent none []) hran) hamf hin hres mi secCap
    ⟨rfl, hmi, hsc, hea, hia, hsuci, hrr⟩
  refine ⟨b2 :: bs, sec', Props.C02.regUls_of_emits P E a mi secCap aka.resStar sec nas2 b2 bs sec' e2 e3 hem, fun life k => ?_⟩
  refine .step rfl (hstep2 k) rfl ?_
  rw [← regSt_setUe us (regUe j a.ran ch aka .authSent none []) (regUe j a.ran ch aka .registered (some 1) [1, 0]) rfl hj]
  exact hsteps life (k + 1)

/-- NG Setup accepted, then messages judged without a clause up to a state in which every configured subscriber is
    REGISTERED: the judge accepts the transcript (C01's completion clauses) -/
theorem judge_of_registered (P : Prims) (cfg : Spec.Amf.Cfg) (chs : List Spec.Amf.Choice) (b1 : Bytes) (uls : List Bytes)
    (us : List Spec.Amf.UeSt) (hstep1 : Spec.Amf.step P cfg chs {} 0 b1 = { ({} : Spec.Amf.St) with ngSetup := true })
    (hrun : Spec.Amf.run P false cfg chs (regSt []) 1 uls = regSt us)
    (hlen : us.length = Spec.Amf.subscribers cfg) (hall : ∀ x ∈ us, Spec.Amf.isRegisteredOrLater x = true) :
    Spec.Amf.judge P false cfg chs (b1 :: uls) none true = .accept := by
  have h1 := run_clean_step P false cfg chs {} 0 b1 uls rfl (by rw [hstep1])
  rw [hstep1, Nat.zero_add] at h1
  unfold Spec.Amf.judge Spec.Amf.clauses
  rw [h1, show ({ ({} : Spec.Amf.St) with ngSetup := true }) = regSt [] from rfl, hrun]
  simp [Spec.Amf.finish, regSt, hlen, List.all_eq_true.mpr hall]

open Stgutg.Proofs.BuildersRoles in
/-- **C01_registration_script_accepted.** The judge accepts the whole uplink script of NG Setup + one registration, for ALL
    configurations and AMF choices in the stated ranges (primitives AES / CMAC / CTR are parameters): the six messages are
    what the emulator's wrappers return for
      UL1 `GetNGSetupRequest(gnbId, plmn, bitlength, name)`,
    and (`regUls`)
      UL2 `GetInitialUEMessage(ran, RegistrationRequest(SUCI, capability), "")`,
      UL3 `GetUplinkNASTransport(amf, ran, AuthenticationResponse(RES*))` with RES* = the vector's XRES* (`C01_res_star`),
      UL4 `GetUplinkNASTransport(amf, ran, protect(SecurityModeComplete(RegistrationRequest + 5GMM capability), 4, new context))`,
      UL5 `GetInitialContextSetupResponse(amf, ran)`,
      UL6 `GetUplinkNASTransport(amf, ran, protect(RegistrationComplete, 2))` under the security state UL4 left,
    with `amf` the AMF-UE-NGAP-ID of the AMF's choice (any value below 2^40), `TestPlmn` = the announced PLMN from UL2 on.
    `Spec.Amf.judge … = accept`: every message decodes as the TS 38.413 message expected in the UE's state with its mandatory
    IEs and the assigned identifiers, the PLMN is the configured one, the NAS messages parse, the capability announces the
    selected algorithms, RES* = XRES*, header types 4 then 2, MACs valid, NAS COUNT 0 then 1, and the registration completes.
    Hypotheses discharged elsewhere: `hsub` (the reference AMF identifies subscriber 0 from the SUCI, in its own decimal
    arithmetic: `C01_subscriber_identified`), `hrr` (the complete Registration Request fits a NAS message container:
    `registrationRequest_short`), `hin` (the UE context holds the keys of the network's vector: `C01_res_star`); that the
    emulator makes exactly these calls is `register_one`. -/
theorem C01_registration_script_accepted (P : Prims) (hP : PrimsOk P) (cfg : Spec.Amf.Cfg) (chs : List Spec.Amf.Choice)
    (E : Model.Convert.Ext) (a : Props.C02.Args) (plmn0 g name : Bytes) (bl : Int)
    (hm : a.plmn.length = 3) (h22 : 22 ≤ bl) (h32 : bl ≤ 32) (hg : g.length = (bl.toNat + 7) / 8)
    (hc : Canonical g bl.toNat) (hname : 1 ≤ name.length) (hcfg : Spec.Amf.plmnOf cfg = some a.plmn)
    (hone : Spec.Amf.subscribers cfg = 1)
    (hr0 : 0 ≤ a.ran) (hr1 : a.ran < 2 ^ 32) (ha1 : a.amf < 2 ^ 40) (mi secCap : Nas.Val)
    (hmi : mi.iei = 0 ∧ mi.len = mi.data.length ∧ mi.data.length < 65536)
    (hsc : secCap.iei = 0x2E ∧ secCap.len = secCap.data.length ∧ secCap.data.length < 256)
    (hea : Spec.Identity.eaSupported secCap.data Spec.Amf.selectedEa = true)
    (hia : Spec.Identity.iaSupported secCap.data Spec.Amf.selectedIa = true)
    (ch : Spec.Amf.Choice) (aka : Spec.Ts33501A.Aka) (hsub : Spec.Amf.subscriberOf cfg mi.data = some 0)
    (hch : chs[0]? = some ch) (hvec : Spec.Amf.vector P cfg 0 ch = some aka)
    (hamf : ch.amfUeNgapId = a.amf) (hres : aka.resStar.length = 16)
    (sec : UeSec) (hin : InStep sec (regUe 0 a.ran ch aka .authSent none []))
    (hrr : ∀ rr, Nas.Ctor.encodeWith Gen.Nas.layout_RegistrationRequest
      (Nas.Ctor.registrationRequest 1 mi none (some secCap) (some cap5GMMVal) none none) = .ok rr → rr.length < 65536) :
    ∃ b1 uls sec',
      Wrapper.run E .GetNGSetupRequest plmn0 [.octs g, .octs a.plmn, .int bl, .str name] = .ok (.ok b1) ∧
      Props.C02.regUls P E a mi secCap aka.resStar sec uls sec' ∧
      Spec.Amf.judge P false cfg chs (b1 :: uls) none true = .accept := by
  obtain ⟨b1, hrun1, hstep1⟩ := C01_step_ng_setup_request P cfg chs {} 0 E plmn0 g a.plmn name bl hm h22 h32 hg hc hname hcfg rfl
  obtain ⟨uls, sec', hreg, hsteps⟩ := C01_registration_block P hP cfg chs E a hm hr0 hr1 ha1 [] 0 (by simp) mi secCap hmi hsc hea hia
    ch aka hsub hch hvec hamf hres sec hin hrr
  refine ⟨b1, uls, sec', hrun1, hreg, ?_⟩
  have hrun := hsteps false 1 []
  rw [List.append_nil, run_nil] at hrun
  exact judge_of_registered P cfg chs b1 _ _ hstep1 hrun hone.symm (by simp [regUe, Spec.Amf.isRegisteredOrLater])

open Stgutg.Proofs.UeIdentity Stgutg.Proofs.EmulatorSubscriber in
/-- **C01_subscriber_identified.** The reference AMF attributes the SUCI of the emulator's UE `j` to subscriber `j`, for every
    decimal IMSI configuration (MCC = first 3 digits, MNC = next 2 or 3) whose MSIN digits accommodate the configured
    population: the emulator's `%0*d` of IMSI + j and the judge's digit arithmetic agree, and distinct UEs have distinct MSINs.
    The SUCI buffer has at most 8 + |IMSI| octets. -/
theorem C01_subscriber_identified (scfg : Spec.Amf.Cfg) (h : DecimalImsi scfg.imsi) {m : Nat} (hm : m = 2 ∨ m = 3)
    (hmcc : scfg.mcc = scfg.imsi.take 3) (hmnc : scfg.mnc = (scfg.imsi.drop 3).take m) (hlen : 3 + m < scfg.imsi.length)
    (hfit : MsinFits scfg.imsi (3 + m) (Spec.Amf.subscribers scfg)) {j : Nat} (hj : j < Spec.Amf.subscribers scfg)
    (k opc op : Bytes) :
    ∃ buf, Model.Suci.encodeSuci (Model.Suci.trimImsiPrefix (Model.UeIdentity.createUE scfg.imsi (j : Int) k opc op).supi) (m : Int)
        = .ok buf ∧ buf.length ≤ 8 + scfg.imsi.length ∧ Spec.Amf.subscriberOf scfg buf = some j := by
  obtain ⟨buf, hb, hdec⟩ := suci_of_created_ue h hm hlen hfit hj k opc op
  exact ⟨buf, hb, suci_of_created_ue_short h hm hlen hfit hj k opc op buf hb,
    subscriberOf_eq scfg h hmcc hmnc hlen hfit hj buf hdec⟩

/-- the UE security capability IE `RegisterUE` passes to the constructors -/
theorem secCapVal_shape (cfg : Cfg) (i : Int) :
    (secCapVal (createUE cfg i)).iei = 0x2E ∧ (secCapVal (createUE cfg i)).len = (secCapVal (createUE cfg i)).data.length ∧
    (secCapVal (createUE cfg i)).data.length < 256 := ⟨rfl, rfl, by show (2 : Nat) < 256; omega⟩

open Stgutg.Proofs.EmulatorSubscriber in
/-- the complete Registration Request (with the 5GMM capability) is short: it fits the NAS message container -/
theorem registrationRequest_short (mi secCap : Nas.Val)
    (hmi : mi.iei = 0 ∧ mi.len = mi.data.length ∧ mi.data.length < 65536)
    (hsc : secCap.iei = 0x2E ∧ secCap.len = secCap.data.length ∧ secCap.data.length < 256)
    (hshort : mi.data.length ≤ 26) (rr : Bytes)
    (hrr : Nas.Ctor.encodeWith Gen.Nas.layout_RegistrationRequest
      (Nas.Ctor.registrationRequest 1 mi none (some secCap) (some cap5GMMVal) none none) = .ok rr) : rr.length < 65536 := by
  obtain ⟨w, rr', _, henc, hparse⟩ := Props.C09.C09_ctor_registrationRequest 1 mi none (some secCap) (some cap5GMMVal) none none
    (by decide) hmi (by intro x hx; cases hx) (by intro x hx; cases hx; exact hsc)
    (by intro x hx; cases hx) (by intro x hx; cases hx; decide) (by intro c hc; cases hc)
  have henc' : Nas.Ctor.encodeWith Gen.Nas.layout_RegistrationRequest
      (Nas.Ctor.registrationRequest 1 mi none (some secCap) (some cap5GMMVal) none none) = .ok rr' := henc
  rw [hrr] at henc'
  cases henc'
  have := parse_length w rr _ hparse
  simp [mandBound, optBound, Spec.Ts24501.Intended.registrationRequest, Spec.Ts24501.Intended.present,
    Spec.Ts24501.Intended.halves, cap5GMMVal] at this
  omega

open Stgutg.Proofs.UeIdentity in
/-- what `RegisterUE` passes to the Registration Request constructors for UE `j` of a population of `N`: the SUCI `EncodeSuci`
    returns is a well-formed mobile identity which the reference AMF attributes to subscriber `j`, and the complete
    Registration Request built from it fits a NAS message container -/
theorem created_ue_identity (cfg : Cfg) (scfg : Spec.Amf.Cfg) (N : Nat) (hN : Spec.Amf.subscribers scfg = N)
    (himsi : scfg.imsi = cfg.imsi) (hd : DecimalImsi cfg.imsi) {w : Nat} (hw : w = 2 ∨ w = 3) (hmncl : cfg.mnc.length = w)
    (hmcc : scfg.mcc = cfg.imsi.take 3) (hmnc : scfg.mnc = (cfg.imsi.drop 3).take w) (hlen : 3 + w < cfg.imsi.length)
    (hfit : MsinFits cfg.imsi (3 + w) N) (j : Nat) (hj : j < N) :
    ∃ suci, Model.Suci.encodeSuci (Model.Suci.trimImsiPrefix (createUE cfg j).ctx.supi) cfg.mnc.length = .ok suci ∧
      ((suciVal suci).iei = 0 ∧ (suciVal suci).len = (suciVal suci).data.length ∧ (suciVal suci).data.length < 65536) ∧
      Spec.Amf.subscriberOf scfg (suciVal suci).data = some j ∧
      ∀ rr, Nas.Ctor.encodeWith Gen.Nas.layout_RegistrationRequest (Nas.Ctor.registrationRequest 1 (suciVal suci) none
        (some (secCapVal (createUE cfg j))) (some cap5GMMVal) none none) = .ok rr → rr.length < 65536 := by
  subst hN
  obtain ⟨suci, hsuci, hslen, hsub⟩ := C01_subscriber_identified scfg (himsi ▸ hd) hw (himsi ▸ hmcc) (himsi ▸ hmnc) (himsi ▸ hlen)
    (himsi ▸ hfit) hj cfg.k cfg.opc cfg.op
  rw [himsi] at hsuci hslen
  have h18 := hd.short
  have hmi : (suciVal suci).iei = 0 ∧ (suciVal suci).len = (suciVal suci).data.length ∧ (suciVal suci).data.length < 65536 :=
    ⟨rfl, by show suci.length % 65536 = suci.length; omega, by show suci.length < 65536; omega⟩
  exact ⟨suci, hmncl ▸ hsuci, hmi, hsub, fun rr hrr =>
    registrationRequest_short (suciVal suci) (secCapVal (createUE cfg j)) hmi (secCapVal_shape cfg j)
      (by show suci.length ≤ 26; omega) rr hrr⟩

open Stgutg.Proofs.UeIdentity in
/-- the RAN-UE-NGAP-ID of a created UE is (IMSI + j) mod 10000: in the range of the NGAP type -/
theorem createUE_ran_range (cfg : Cfg) (hd : DecimalImsi cfg.imsi) (j : Nat) (hj : j < 2 ^ 62) :
    0 ≤ (createUE cfg j).ctx.ranUeNgapId ∧ (createUE cfg j).ctx.ranUeNgapId < 2 ^ 32 := by
  have hran : (createUE cfg j).ctx.ranUeNgapId = (((Model.UeIdentity.decVal cfg.imsi + j) % 10000 : Nat) : Int) :=
    createUE_ranId hd j hj cfg.k cfg.opc cfg.op
  rw [hran]
  omega

theorem lt_two_pow_62_of_lt_pow10 {j w : Nat} (hw : w ≤ 18) (hj : j < 10 ^ w) : j < 2 ^ 62 :=
  Nat.lt_trans (Nat.lt_of_lt_of_le hj (Nat.pow_le_pow_right (by omega) hw)) (by decide)

open Stgutg.Proofs.UeIdentity in
/-- a population that fits the MSIN digits of a decimal IMSI has fewer than 10^18 UEs: every index is in the range where
    `CreateUE`'s `int64` arithmetic does not wrap (`createUE_ran_range`) -/
theorem index_lt_of_msinFits {imsi : Bytes} {p N j : Nat} (hd : DecimalImsi imsi) (hfit : MsinFits imsi p N) (hj : j < N) :
    j < 2 ^ 62 :=
  lt_two_pow_62_of_lt_pow10 (w := imsi.length - p) (by have := hd.short; omega) (by have := hfit.2; omega)

open Stgutg.Proofs.BuildersRoles Stgutg.Proofs.UeIdentity in
/-- **C01_registration_accepted_for_config.** `C01_registration_script_accepted` with the SUCI and the UE security capability
    the emulator really builds for its first UE (`CreateUE(imsi, 0, …)`, `EncodeSuci`, `GetUESecurityCapability`) and the
    judge's subscriber identification PROVED: for every decimal IMSI configuration (MCC 3 digits, MNC 2 or 3 digits, at least
    one MSIN digit, at most 18 digits — what `Atoi` reads —, one configured subscriber), every gNB id of 22..32 bits, name,
    RAN-UE-NGAP-ID below 2^32, and every choice of the AMF (RAND, SQN, AMF field, AMF-UE-NGAP-ID below 2^40 — through `aka` and
    `ch`), the reference AMF ACCEPTS the six uplink messages of NG Setup + registration. Hypotheses discharged elsewhere: `hin` (the UE
    context holds the keys of the network's vector when Security Mode Complete is protected: `C01_res_star`), `hres` (XRES* has
    16 octets: `vector_resStar_length`); that the emulator makes exactly these calls is `register_one`. -/
theorem C01_registration_accepted_for_config (P : Prims) (hP : PrimsOk P) (cfg : Cfg) (scfg : Spec.Amf.Cfg)
    (chs : List Spec.Amf.Choice) (E : Model.Convert.Ext) (a : Props.C02.Args) (plmn0 g name : Bytes) (bl : Int)
    (hm : a.plmn.length = 3) (h22 : 22 ≤ bl) (h32 : bl ≤ 32) (hg : g.length = (bl.toNat + 7) / 8)
    (hc : Canonical g bl.toNat) (hname : 1 ≤ name.length) (hcfg : Spec.Amf.plmnOf scfg = some a.plmn)
    (himsi : scfg.imsi = cfg.imsi) (hd : DecimalImsi cfg.imsi) {w : Nat} (hw : w = 2 ∨ w = 3) (hmncl : cfg.mnc.length = w)
    (hmcc : scfg.mcc = cfg.imsi.take 3) (hmnc : scfg.mnc = (cfg.imsi.drop 3).take w) (hlen : 3 + w < cfg.imsi.length)
    (hfit : MsinFits cfg.imsi (3 + w) 1) (hone : Spec.Amf.subscribers scfg = 1)
    (hr0 : 0 ≤ a.ran) (hr1 : a.ran < 2 ^ 32) (ha1 : a.amf < 2 ^ 40)
    (ch : Spec.Amf.Choice) (aka : Spec.Ts33501A.Aka) (hch : chs[0]? = some ch) (hvec : Spec.Amf.vector P scfg 0 ch = some aka)
    (hamf : ch.amfUeNgapId = a.amf) (hres : aka.resStar.length = 16)
    (sec : UeSec) (hin : InStep sec (regUe 0 a.ran ch aka .authSent none [])) :
    ∃ suci b1 uls sec',
      Model.Suci.encodeSuci (Model.Suci.trimImsiPrefix (createUE cfg 0).ctx.supi) cfg.mnc.length = .ok suci ∧
      Wrapper.run E .GetNGSetupRequest plmn0 [.octs g, .octs a.plmn, .int bl, .str name] = .ok (.ok b1) ∧
      Props.C02.regUls P E a (suciVal suci) (secCapVal (createUE cfg 0)) aka.resStar sec uls sec' ∧
      Spec.Amf.judge P false scfg chs (b1 :: uls) none true = .accept := by
  obtain ⟨suci, hsuci, hmi, hsub, hrr⟩ := created_ue_identity cfg scfg 1 hone himsi hd hw hmncl hmcc hmnc hlen hfit 0 (by omega)
  have hcapS := C01_security_capability cfg 0
  obtain ⟨b1, uls, sec', h⟩ :=
    C01_registration_script_accepted P hP scfg chs E a plmn0 g name bl hm h22 h32 hg hc hname hcfg hone hr0 hr1 ha1
      (suciVal suci) (secCapVal (createUE cfg 0)) hmi (secCapVal_shape cfg 0) hcapS.1 hcapS.2 ch aka hsub hch hvec hamf hres sec hin hrr
  exact ⟨suci, b1, uls, sec', hsuci, h⟩

/-- XRES* of the network's vector has 16 octets (HMAC-SHA-256 output of 32 octets, the 128 least significant bits) -/
theorem vector_resStar_length (P : Prims) (hH : MacLen P.hmac) (cfg : Spec.Amf.Cfg) (j : Nat) (ch : Spec.Amf.Choice)
    (aka : Spec.Ts33501A.Aka) (hvec : Spec.Amf.vector P cfg j ch = some aka) : aka.resStar.length = 16 := by
  unfold Spec.Amf.vector at hvec
  split at hvec
  · simp only [Option.some.injEq] at hvec
    subst hvec
    simp only [Spec.Ts33501A.aka, Spec.Ts33501A.resStar, Spec.Ts33501A.low128, Spec.Ts33501A.kdf, List.length_drop, hH _ _]
  · cases hvec

/-- **C01_keys_in_step.** The hypothesis `hin` of the two theorems above, from `C01_res_star`: once `RegisterUE` has installed the
    K_NASenc / K_NASint that `DeriveRESstarAndSetKey` returned, and these are the keys of the network's vector (the conclusion of
    `C01_res_star`), the UE context of a created UE is in step with the judge's UE state — same keys, the algorithms the AMF
    selects (5G-EA0, 128-5G-IA2), which are supported ones. -/
theorem C01_keys_in_step (cfg : Cfg) (i : Int) (knasEnc knasInt : Bytes) (u : Spec.Amf.UeSt)
    (henc : knasEnc = u.aka.knasEnc) (hint : knasInt = u.aka.knasInt) (ul dl : UInt32) :
    InStep { (createUE cfg i).sec with knasEnc := knasEnc, knasInt := knasInt, ulCount := ul, dlCount := dl } u := by
  subst henc hint
  exact ⟨rfl, .inr rfl, .inl rfl⟩

open Stgutg.Proofs.UeIdentity in
/-- a decimal-IMSI configuration of the emulator and the reference AMF's view of it (same IMSI, MCC = its first 3 digits, MNC =
    the next `w` = 2 or 3), with MSIN digits that accommodate the `N` configured subscribers -/
structure Population (cfg : Cfg) (scfg : Spec.Amf.Cfg) (w N : Nat) : Prop where
  hN : Spec.Amf.subscribers scfg = N
  himsi : scfg.imsi = cfg.imsi
  hd : DecimalImsi cfg.imsi
  hw : w = 2 ∨ w = 3
  hmncl : cfg.mnc.length = w
  hmcc : scfg.mcc = cfg.imsi.take 3
  hmnc : scfg.mnc = (cfg.imsi.drop 3).take w
  hlen : 3 + w < cfg.imsi.length
  hfit : MsinFits cfg.imsi (3 + w) N

open Stgutg.Proofs.EmulatorRun in
/-- **`RegisterUE`** makes exactly the calls `regUls` describes, reading in between the four downlink messages as `DlReads`
    describes them, and returns the AMF-UE-NGAP-ID it read, K_AMF and the security state the two protected messages leave
    (`EncodeNasPduWithSecurity` re-encodes Security Mode Complete and Registration Complete: C08, Proofs/EmulatorReencode.lean) -/
theorem registerUE_runs (P : Prims) (E : Model.Convert.Ext) (cfg : Cfg) (ue0 : Ue) (a : Props.C02.Args)
    (hran : ue0.ctx.ranUeNgapId = a.ran) (d2 d3 d4 d5 : Bytes) (keys : Model.KeyDerivation.UeKeys) (ue1 : Ue)
    (D : DlReads P cfg ue0 d2 d3 d4 d5 a.amf keys ue1) (hue1 : ue1.ctx = ue0.ctx) (suci : Bytes)
    (hsuci : Model.Suci.encodeSuci (Model.Suci.trimImsiPrefix ue0.ctx.supi) cfg.mnc.length = .ok suci)
    (hrr : ∀ rr, Nas.Ctor.encodeWith Gen.Nas.layout_RegistrationRequest (Nas.Ctor.registrationRequest 1 (suciVal suci) none
      (some (secCapVal ue0)) (some cap5GMMVal) none none) = .ok rr → rr.length < 65536)
    (uls : List Bytes) (sec' : UeSec)
    (hp : Props.C02.regUls P E a (suciVal suci) (secCapVal ue0) keys.resStar (secAfterKeys ue1 keys) uls sec') :
    Runs (registerUE P E cfg ue0) a.plmn [d2, d3, d4, d5] uls [] { amfUeNgapId := a.amf, kamf := keys.kamf, sec := sec' } := by
  obtain ⟨nas2, b2, nas3, b3, rr, smc, o1, b4, b5, rc, o2, b6, e1, e2, e3, e4, e5, e6, e7, e8, e9, e10, e11, e12, rfl, rfl⟩ := hp
  obtain ⟨pm4, hpd4, hpe4⟩ := Proofs.EmulatorReencode.reenc_smc rr smc (hrr rr e5) e6
  obtain ⟨pm6, hpd6, hpe6⟩ := Proofs.EmulatorReencode.reenc_rc rc e10
  have hr1 : ue1.ctx.ranUeNgapId = a.ran := by rw [hue1]; exact hran
  rw [← hran] at e2
  rw [← hr1] at e4 e8 e9 e12
  rw [registerUE, hsuci]
  refine .bind_val (orTrap_ok_apply _) ?_
  dsimp only
  refine .bind_val (ctor_ok _ _ _ e1) <| .bind_wrapperChecked e2 <| .bind_write _ <| .bind_read d2 ?_
  rw [D.hdec2]
  refine .bind_val (checked_ok_apply _) ?_
  rw [D.hdnt]
  dsimp only
  refine .bind_val (pure_apply _) <| .bind_val D.hgn ?_
  dsimp only
  rw [D.hauth]
  dsimp only
  refine .bind_val (pure_apply _) ?_
  dsimp only
  rw [D.hkeys]
  refine .bind_val (checked_ok_apply _) ?_
  rw [D.hamf]
  dsimp only
  refine .bind_val (pure_apply _) <| .bind_val (ctor_ok _ _ _ e3) <| .bind_wrapperUnchecked e4 <| .bind_write _ <| .bind_read d3 ?_
  rw [D.hdec3]
  refine .bind_val (checked_ok_apply _) <| .bind_val (ctor_ok _ _ _ e5) <| .bind_val (ctor_ok _ _ _ e6) <|
    .bind_val (protect_ok P { ctx := ue1.ctx, amfUeNgapId := a.amf, sec := secAfterKeys ue1 keys, kamf := keys.kamf } smc 4 true
      pm4 hpd4 hpe4 o1 e7) ?_
  dsimp only
  refine .bind_wrapperChecked e8 <| .bind_write _ <| .bind_read d4 ?_
  rw [D.hdec4]
  refine .bind_val (checked_ok_apply _) <| .bind_wrapperChecked e9 <| .bind_write _ <| .bind_val (ctor_ok _ _ _ e10) <|
    .bind_val (protect_ok P (ueAfterSmc P ue1 keys a.amf smc) rc 2 false pm6 hpd6 hpe6 o2 e11) ?_
  dsimp only
  refine .bind_wrapperChecked e12 <| .bind_write _ <| .bind_read d5 ?_
  -- the last answer is read and not looked at: any result of the decoder but a trap lets the procedure return
  cases hd5 : ngapDecode (d5.take 2048) with
  | ok v => exact .pure _
  | error e =>
    cases e with
    | error => exact .pure _
    | panic => exact absurd hd5 D.hdec5.1
    | hang => exact absurd hd5 D.hdec5.2

open Stgutg.Proofs.EmulatorRun in
/-- with the keys of the network's vector and the algorithms the AMF selects, the context `RegisterUE` protects Security Mode
    Complete under is in step with the judge's record of the UE whose authentication is under way -/
theorem inStep_afterKeys (ue1 : Ue) (keys : Model.KeyDerivation.UeKeys) (j : Nat) (ran : Int) (ch : Spec.Amf.Choice)
    (aka : Spec.Ts33501A.Aka) (halg : ue1.sec.cipheringAlg = 0 ∧ ue1.sec.integrityAlg = 2)
    (hkeys : keys.knasEnc = aka.knasEnc ∧ keys.knasInt = aka.knasInt) :
    InStep (secAfterKeys ue1 keys) (regUe j ran ch aka .authSent none []) := by
  refine ⟨?_, .inr halg.2, .inl halg.1⟩
  simp [Proofs.NasProtect.ctxOf, Spec.Amf.ctxOf, regUe, halg.1, halg.2, hkeys.1, hkeys.2, Spec.Amf.selectedIa, Spec.Amf.selectedEa]

open Stgutg.Proofs.BuildersRoles Stgutg.Proofs.UeIdentity Stgutg.Proofs.EmulatorRun in
/-- **one iteration of the registration loop, emulator and judge (of C01 or of C02: `life`) together**, for a UE context `ue1`
    after `GetNasPdu` that has the identity and algorithms of the created one (what `DlReads` leaves open): `RegisterUE` for UE
    `j` of a population of `N` makes the calls `regUls` describes (`registerUE_runs`); the five messages, judged at any position
    from a state in which NG Setup is done and `j` / its RAN-UE-NGAP-ID are new, raise no clause and leave `j` REGISTERED
    (`C01_registration_block`) -/
theorem register_one (P : Prims) (hP : PrimsOk P) (hH : MacLen P.hmac) (cfg : Cfg) (scfg : Spec.Amf.Cfg)
    (chs : List Spec.Amf.Choice) (E : Model.Convert.Ext) (N : Nat) {w : Nat} (W : Population cfg scfg w N) (m : Bytes)
    (hm : m.length = 3)
    (j : Nat) (hj : j < N) (us : List Spec.Amf.UeSt)
    (hnew : ∀ x ∈ us, x.ran ≠ (createUE cfg j).ctx.ranUeNgapId ∧ x.j ≠ j)
    (ch : Spec.Amf.Choice) (aka : Spec.Ts33501A.Aka) (hch : chs[j]? = some ch) (hvec : Spec.Amf.vector P scfg j ch = some aka)
    (hamf : ch.amfUeNgapId < 2 ^ 40)
    (d2 d3 d4 d5 : Bytes) (keys : Model.KeyDerivation.UeKeys) (ue1 : Ue)
    (D : DlReads P cfg (createUE cfg j) d2 d3 d4 d5 ch.amfUeNgapId keys ue1)
    (hue1 : ue1.ctx = (createUE cfg j).ctx ∧ ue1.sec.cipheringAlg = 0 ∧ ue1.sec.integrityAlg = 2)
    (hkeys : keys.resStar = aka.resStar ∧ keys.knasEnc = aka.knasEnc ∧ keys.knasInt = aka.knasInt) :
    ∃ mi uls sec1,
      Props.C02.regUls P E ⟨m, ch.amfUeNgapId, (createUE cfg j).ctx.ranUeNgapId, 0, [], 0, [], none⟩ mi (secCapVal (createUE cfg j))
        aka.resStar (secAfterKeys ue1 keys) uls sec1 ∧
      Runs (registerUE P E cfg (createUE cfg j)) m [d2, d3, d4, d5] uls []
        { amfUeNgapId := ch.amfUeNgapId, kamf := keys.kamf, sec := sec1 } ∧
      ∀ life k, Steps P life scfg chs (regSt us) k uls
        (regSt (us ++ [regUe j (createUE cfg j).ctx.ranUeNgapId ch aka .registered (some 1) [1, 0]])) := by
  obtain ⟨hN, himsi, hd, hw, hmncl, hmcc, hmnc, hlen, hfit⟩ := W
  obtain ⟨hr0, hr1⟩ := createUE_ran_range cfg hd j (index_lt_of_msinFits hd hfit hj)
  obtain ⟨suci, hsuci, hmi, hsub, hrr⟩ := created_ue_identity cfg scfg N hN himsi hd hw hmncl hmcc hmnc hlen hfit j hj
  have hcapS := C01_security_capability cfg j
  obtain ⟨uls, sec1, hp, hsteps⟩ :=
    C01_registration_block P hP scfg chs E ⟨m, ch.amfUeNgapId, (createUE cfg j).ctx.ranUeNgapId, 0, [], 0, [], none⟩ hm hr0 hr1 hamf
      us j hnew (suciVal suci) (secCapVal (createUE cfg j)) hmi (secCapVal_shape cfg j) hcapS.1 hcapS.2 ch aka hsub hch hvec rfl
      (vector_resStar_length P hH scfg j ch aka hvec) (secAfterKeys ue1 keys)
      (inStep_afterKeys ue1 keys j _ ch aka hue1.2 hkeys.2) hrr
  refine ⟨_, uls, sec1, hp, ?_, hsteps⟩
  rw [← hkeys.1] at hp
  exact registerUE_runs P E cfg (createUE cfg j) _ rfl d2 d3 d4 d5 keys ue1 D hue1.1 suci hsuci hrr uls sec1 hp

open Stgutg.Proofs.BuildersRoles Stgutg.Proofs.UeIdentity Stgutg.Proofs.EmulatorRun in
/-- **C01_register_one.** One iteration of the registration loop, emulator and judge together: `RegisterUE` for UE `j` of a
    population of `N` (`CreateUE(imsi, j, …)`), reading the four downlink messages `DlReads` describes, writes five uplink
    messages; judged at position `k` from a state in which NG Setup is done and `j` / its RAN-UE-NGAP-ID are new, they raise no
    clause and leave `j` REGISTERED. -/
theorem C01_register_one (P : Prims) (hP : PrimsOk P) (hH : MacLen P.hmac) (cfg : Cfg) (scfg : Spec.Amf.Cfg)
    (chs : List Spec.Amf.Choice) (E : Model.Convert.Ext) (N : Nat) (hN : Spec.Amf.subscribers scfg = N)
    (himsi : scfg.imsi = cfg.imsi) (hd : DecimalImsi cfg.imsi) {w : Nat} (hw : w = 2 ∨ w = 3) (hmncl : cfg.mnc.length = w)
    (hmcc : scfg.mcc = cfg.imsi.take 3) (hmnc : scfg.mnc = (cfg.imsi.drop 3).take w) (hlen : 3 + w < cfg.imsi.length)
    (hfit : MsinFits cfg.imsi (3 + w) N) (m : Bytes) (hm : m.length = 3)
    (j : Nat) (hj : j < N) (us : List Spec.Amf.UeSt)
    (hnew : ∀ x ∈ us, x.ran ≠ (createUE cfg j).ctx.ranUeNgapId ∧ x.j ≠ j)
    (ch : Spec.Amf.Choice) (aka : Spec.Ts33501A.Aka) (hch : chs[j]? = some ch) (hvec : Spec.Amf.vector P scfg j ch = some aka)
    (hamf : ch.amfUeNgapId < 2 ^ 40)
    (d2 d3 d4 d5 : Bytes) (keys : Model.KeyDerivation.UeKeys)
    (D : DlReads P cfg (createUE cfg j) d2 d3 d4 d5 ch.amfUeNgapId keys (createUE cfg j))
    (hkeys : keys.resStar = aka.resStar ∧ keys.knasEnc = aka.knasEnc ∧ keys.knasInt = aka.knasInt)
    (k : Nat) (wd : World) (rest : List Bytes) (hdls : wd.dls = d2 :: d3 :: d4 :: d5 :: rest) (hplmn : wd.plmn = m) :
    ∃ r b2 b3 b4 b5 b6,
      registerUE P E cfg (createUE cfg j) wd =
        ({ wd with dls := rest, ulsRev := b6 :: b5 :: b4 :: b3 :: b2 :: wd.ulsRev }, .ok r) ∧
      ∀ tail, Spec.Amf.run P false scfg chs (regSt us) k (b2 :: b3 :: b4 :: b5 :: b6 :: tail) =
        Spec.Amf.run P false scfg chs
          (regSt (us ++ [regUe j (createUE cfg j).ctx.ranUeNgapId ch aka .registered (some 1) [1, 0]])) (k + 5) tail := by
  obtain ⟨_, _, _, ⟨_, b2, _, b3, _, _, _, b4, b5, _, _, b6, -, -, -, -, -, -, -, -, -, -, -, -, rfl, rfl⟩, hruns, hsteps⟩ :=
    register_one P hP hH cfg scfg chs E N ⟨hN, himsi, hd, hw, hmncl, hmcc, hmnc, hlen, hfit⟩ m hm j hj us hnew ch aka hch hvec hamf
      d2 d3 d4 d5 keys (createUE cfg j) D ⟨rfl, rfl, rfl⟩ hkeys
  exact ⟨_, b2, b3, b4, b5, b6, hruns wd rest hplmn hdls, hsteps false k⟩

/-- the downlink messages UE `j`'s registration reads, for `j = i, …, i + n − 1`, in order -/
def dlsOf (dn : Nat → Bytes × Bytes × Bytes × Bytes) (i n : Nat) : List Bytes :=
  (List.range' i n).flatMap fun j => [(dn j).1, (dn j).2.1, (dn j).2.2.1, (dn j).2.2.2]

/-- the judge's UEs after the registrations of UEs 0 … i − 1 -/
def usOf (cfg : Cfg) (chf : Nat → Spec.Amf.Choice) (akaf : Nat → Spec.Ts33501A.Aka) (i : Nat) : List Spec.Amf.UeSt :=
  (List.range i).map fun j => regUe j (createUE cfg j).ctx.ranUeNgapId (chf j) (akaf j) .registered (some 1) [1, 0]

open Stgutg.Proofs.EmulatorRun in
/-- what the registrations of UEs 0 … N − 1 read, per UE: the AMF's choice and vector, the four downlink messages as `DlReads`
    describes them, a context after `GetNasPdu` with the identity and algorithms of the created one, and the keys of the vector -/
structure Reads (P : Prims) (cfg : Cfg) (scfg : Spec.Amf.Cfg) (chs : List Spec.Amf.Choice) (N : Nat)
    (chf : Nat → Spec.Amf.Choice) (akaf : Nat → Spec.Ts33501A.Aka) (dn : Nat → Bytes × Bytes × Bytes × Bytes)
    (keysf : Nat → Model.KeyDerivation.UeKeys) (ue1f : Nat → Ue) where
  hch : ∀ j, j < N → chs[j]? = some (chf j)
  hvec : ∀ j, j < N → Spec.Amf.vector P scfg j (chf j) = some (akaf j)
  hamf : ∀ j, j < N → (chf j).amfUeNgapId < 2 ^ 40
  hD : ∀ j, j < N → DlReads P cfg (createUE cfg j) (dn j).1 (dn j).2.1 (dn j).2.2.1 (dn j).2.2.2 (chf j).amfUeNgapId (keysf j) (ue1f j)
  hue1 : ∀ j, j < N → (ue1f j).ctx = (createUE cfg j).ctx ∧ (ue1f j).sec.cipheringAlg = 0 ∧ (ue1f j).sec.integrityAlg = 2
  hkeys : ∀ j, j < N → (keysf j).resStar = (akaf j).resStar ∧ (keysf j).knasEnc = (akaf j).knasEnc ∧
    (keysf j).knasInt = (akaf j).knasInt

theorem regUls_length {P : Prims} {E : Model.Convert.Ext} {a : Props.C02.Args} {mi secCap : Nas.Val} {resStar : Bytes} {sec sec' : UeSec}
    {uls : List Bytes} (h : Props.C02.regUls P E a mi secCap resStar sec uls sec') : uls.length = 5 := by
  obtain ⟨_, _, _, _, _, _, _, _, _, _, _, _, -, -, -, -, -, -, -, -, -, -, -, -, rfl, -⟩ := h
  rfl

open Stgutg.Proofs.UeIdentity Stgutg.Proofs.EmulatorRun in
/-- **the registration loop** for UEs `i … i + n − 1` of a population of `N ≤ 10 000`, emulator and judge (of C01 or of C02)
    together, for UE contexts `ue1f j` after `GetNasPdu` that share only identity and algorithms with the created ones
    (`Reads.hue1`); induction on the number `n` of iterations left, `register_one` for the loop body. The loop reads `4·n` downlink
    messages and writes `5·n` uplink messages; the list `main` keeps gains UE `j` as created, with the AMF-UE-NGAP-ID of the choice,
    K_AMF and the security state `secf' j` the calls of its registration leave; judged from the state "UEs 0 … i − 1 registered",
    the messages raise no clause and leave UEs 0 … i + n − 1 registered (the judge keys UEs by RAN-UE-NGAP-ID: distinct by C16;
    and by subscriber index). -/
theorem register_loop (P : Prims) (hP : PrimsOk P) (hH : MacLen P.hmac) (cfg : Cfg) (scfg : Spec.Amf.Cfg)
    (chs : List Spec.Amf.Choice) (E : Model.Convert.Ext) (N : Nat) (hN4 : N ≤ 10000) {w : Nat} (W : Population cfg scfg w N)
    (m : Bytes) (hm : m.length = 3) (chf : Nat → Spec.Amf.Choice) (akaf : Nat → Spec.Ts33501A.Aka)
    (dn : Nat → Bytes × Bytes × Bytes × Bytes) (keysf : Nat → Model.KeyDerivation.UeKeys) (ue1f : Nat → Ue)
    (R : Reads P cfg scfg chs N chf akaf dn keysf ue1f) :
    ∀ (n i : Nat) (ues : List Ue) (wd : World) (tailDls : List Bytes), i + n ≤ N →
      wd.dls = dlsOf dn i n ++ tailDls → wd.plmn = m →
      ∃ (wd' : World) (secf' : Nat → UeSec) (uls : List Bytes),
        registerLoop P E cfg n i ues wd = (wd', .ok (ues ++ (List.range' i n).map fun (j : Nat) =>
          { createUE cfg j with amfUeNgapId := (chf j).amfUeNgapId, kamf := (keysf j).kamf, sec := secf' j })) ∧
        wd'.dls = tailDls ∧ wd'.ulsRev = uls.reverse ++ wd.ulsRev ∧ wd'.plmn = m ∧ wd'.reportsRev = wd.reportsRev ∧
        uls.length = 5 * n ∧
        (∀ j, i ≤ j → j < i + n → ∃ mi u,
          Props.C02.regUls P E ⟨m, (chf j).amfUeNgapId, (createUE cfg j).ctx.ranUeNgapId, 0, [], 0, [], none⟩ mi
            (secCapVal (createUE cfg j)) (akaf j).resStar (secAfterKeys (ue1f j) (keysf j)) u (secf' j)) ∧
        ∀ life k, Steps P life scfg chs (regSt (usOf cfg chf akaf i)) k uls (regSt (usOf cfg chf akaf (i + n))) := by
  intro n
  induction n with
  | zero =>
    intro i ues wd tailDls _ hdls hplmn
    exact ⟨wd, fun _ => (createUE cfg 0).sec, [], by simp [registerLoop, pure_apply], by simpa [dlsOf] using hdls, by simp, hplmn,
      rfl, rfl, fun j h1 h2 => by omega, fun _ _ => Steps.nil⟩
  | succ n ih =>
    intro i ues wd tailDls hle hdls hplmn
    have hi : i < N := by omega
    have hnew : ∀ x ∈ usOf cfg chf akaf i, x.ran ≠ (createUE cfg i).ctx.ranUeNgapId ∧ x.j ≠ i := by
      intro x hx
      simp only [usOf, List.mem_map, List.mem_range] at hx
      obtain ⟨j', hj', rfl⟩ := hx
      refine ⟨?_, by simp [regUe]; omega⟩
      exact (Props.C16.C16_ran_id_distinct W.hd hN4 (by omega : j' < N) hi (by omega) cfg.k cfg.opc cfg.op cfg.k cfg.opc cfg.op).1
    have hdls' : wd.dls = [(dn i).1, (dn i).2.1, (dn i).2.2.1, (dn i).2.2.2] ++ (dlsOf dn (i + 1) n ++ tailDls) := by
      rw [hdls]; simp [dlsOf, List.range'_succ]
    obtain ⟨mi, u1, sec1, hp, hruns, hsteps⟩ := register_one P hP hH cfg scfg chs E N W m hm i hi (usOf cfg chf akaf i) hnew
      (chf i) (akaf i) (R.hch i hi) (R.hvec i hi) (R.hamf i hi) (dn i).1 (dn i).2.1 (dn i).2.2.1 (dn i).2.2.2 (keysf i) (ue1f i)
      (R.hD i hi) (R.hue1 i hi) (R.hkeys i hi)
    have hreg := hruns wd _ hplmn hdls'
    obtain ⟨wd', secf'', uls', hloop, h1, h2, h3, h4, h5, h6, h7⟩ := ih (i + 1)
      (ues ++ [{ createUE cfg i with amfUeNgapId := (chf i).amfUeNgapId, kamf := (keysf i).kamf, sec := sec1 }])
      { wd with dls := dlsOf dn (i + 1) n ++ tailDls, ulsRev := u1.reverse ++ wd.ulsRev,
                reportsRev := ([] : List Report).reverse ++ wd.reportsRev } tailDls (by omega) rfl hplmn
    refine ⟨wd', fun j => if j = i then sec1 else secf'' j, u1 ++ uls', ?_, h1, by rw [h2]; simp, h3, h4,
      by rw [List.length_append, regUls_length hp, h5]; omega, fun j hij hjn => ?_, fun life k => ?_⟩
    · simp only [registerLoop, Proofs.Emulator.bind_apply, hreg]
      rw [List.range'_succ, List.map_cons, if_pos rfl, hloop, List.append_assoc, List.singleton_append]
      congr 4
      apply List.map_congr_left
      intro j hj
      rw [if_neg (by have := (List.mem_range'_1.mp hj).1; omega)]
    · dsimp only
      by_cases hji : j = i
      · subst hji; rw [if_pos rfl]; exact ⟨mi, u1, hp⟩
      · rw [if_neg hji]; exact h6 j (by omega) (by omega)
    · have hus : usOf cfg chf akaf (i + 1) = usOf cfg chf akaf i ++
          [regUe i (createUE cfg i).ctx.ranUeNgapId (chf i) (akaf i) .registered (some 1) [1, 0]] := by
        simp [usOf, List.range_succ]
      have := (hsteps life k).trans (hus ▸ h7 life (k + u1.length))
      rwa [(by omega : i + 1 + n = i + (n + 1))] at this

open Stgutg.Proofs.UeIdentity Stgutg.Proofs.EmulatorRun in
/-- **C01_register_loop.** The registration loop of test mode for UEs `i … i + n − 1` of a population of `N ≤ 10 000`, emulator and
    judge together: the loop reads `4·n` downlink messages, writes `5·n` uplink messages and completes; judged at position `k`
    from the state "UEs 0 … i − 1 registered", they raise no clause and leave UEs 0 … i + n − 1 registered (the judge keys UEs by
    RAN-UE-NGAP-ID: distinct by C16; and by subscriber index). -/
theorem C01_register_loop (P : Prims) (hP : PrimsOk P) (hH : MacLen P.hmac) (cfg : Cfg) (scfg : Spec.Amf.Cfg)
    (chs : List Spec.Amf.Choice) (E : Model.Convert.Ext) (N : Nat) (hN : Spec.Amf.subscribers scfg = N) (hN4 : N ≤ 10000)
    (himsi : scfg.imsi = cfg.imsi) (hd : DecimalImsi cfg.imsi) {w : Nat} (hw : w = 2 ∨ w = 3) (hmncl : cfg.mnc.length = w)
    (hmcc : scfg.mcc = cfg.imsi.take 3) (hmnc : scfg.mnc = (cfg.imsi.drop 3).take w) (hlen : 3 + w < cfg.imsi.length)
    (hfit : MsinFits cfg.imsi (3 + w) N) (m : Bytes) (hm : m.length = 3)
    (chf : Nat → Spec.Amf.Choice) (akaf : Nat → Spec.Ts33501A.Aka) (dn : Nat → Bytes × Bytes × Bytes × Bytes)
    (keysf : Nat → Model.KeyDerivation.UeKeys)
    (hch : ∀ j, j < N → chs[j]? = some (chf j)) (hvec : ∀ j, j < N → Spec.Amf.vector P scfg j (chf j) = some (akaf j))
    (hamf : ∀ j, j < N → (chf j).amfUeNgapId < 2 ^ 40)
    (hD : ∀ j, j < N → DlReads P cfg (createUE cfg j) (dn j).1 (dn j).2.1 (dn j).2.2.1 (dn j).2.2.2 (chf j).amfUeNgapId (keysf j)
      (createUE cfg j))
    (hkeys : ∀ j, j < N → (keysf j).resStar = (akaf j).resStar ∧ (keysf j).knasEnc = (akaf j).knasEnc ∧
      (keysf j).knasInt = (akaf j).knasInt) :
    ∀ (n i : Nat) (ues : List Ue) (wd : World) (tailDls : List Bytes) (k : Nat), i + n ≤ N →
      wd.dls = dlsOf dn i n ++ tailDls → wd.plmn = m →
      ∃ wd' ues' uls, registerLoop P E cfg n i ues wd = (wd', .ok ues') ∧ wd'.dls = tailDls ∧
        wd'.ulsRev = uls.reverse ++ wd.ulsRev ∧ wd'.plmn = m ∧
        ∀ tail, Spec.Amf.run P false scfg chs (regSt (usOf cfg chf akaf i)) k (uls ++ tail) =
          Spec.Amf.run P false scfg chs (regSt (usOf cfg chf akaf (i + n))) (k + 5 * n) tail := by
  intro n i ues wd tailDls k hle hdls hplmn
  obtain ⟨wd', _, uls, hloop, h1, h2, h3, -, h5, -, hsteps⟩ :=
    register_loop P hP hH cfg scfg chs E N hN4 ⟨hN, himsi, hd, hw, hmncl, hmcc, hmnc, hlen, hfit⟩ m hm chf akaf dn keysf
      (fun j => createUE cfg j) ⟨hch, hvec, hamf, hD, fun _ _ => ⟨rfl, rfl, rfl⟩, hkeys⟩ n i ues wd tailDls hle hdls hplmn
  exact ⟨wd', _, uls, hloop, h1, h2, h3, fun tail => by rw [← h5]; exact hsteps false k tail⟩

def of_lt_one.{u} {p : Nat → Sort u} (h : p 0) (j : Nat) (hj : j < 1) : p j := (by omega : 0 = j) ▸ h

open Stgutg.Proofs.BuildersRoles Stgutg.Proofs.UeIdentity Stgutg.Proofs.EmulatorRun in
/-- NG Setup + the registration of `N ≤ 10 000` UEs (`Test_ue_registation` = N, nothing after it), through `emulate`, with the
    downlink side as hypotheses (`Reads`): the emulator completes and the reference AMF accepts the whole transcript of
    `1 + 5·N` uplink messages -/
theorem accepted_of_reads (P : Prims) (hP : PrimsOk P) (hH : MacLen P.hmac) (cfg : Cfg) (scfg : Spec.Amf.Cfg)
    (chs : List Spec.Amf.Choice) (E : Model.Convert.Ext) (N : Nat) (hN4 : N ≤ 10000) {w : Nat} (W : Population cfg scfg w N)
    (hreg : cfg.reg = (N : Int)) (hpdu : cfg.pdu = 0) (hdereg : cfg.dereg = 0)
    (h22 : 22 ≤ cfg.bitlength) (h32 : cfg.bitlength ≤ 32) (hg : cfg.gnbId.length = (cfg.bitlength + 7) / 8)
    (hc : Canonical cfg.gnbId cfg.bitlength) (hname : 1 ≤ cfg.name.length)
    (m : Bytes) (hplmn : Model.Suci.ngSetupPlmn cfg.imsi cfg.mnc.length = .ok m) (hm : m.length = 3)
    (hcfg : Spec.Amf.plmnOf scfg = some m)
    (d1 : Bytes) (v1 : Aper.Val) (hdec1 : ngapDecode (d1.take 2048) = .ok v1)
    (chf : Nat → Spec.Amf.Choice) (akaf : Nat → Spec.Ts33501A.Aka) (dn : Nat → Bytes × Bytes × Bytes × Bytes)
    (keysf : Nat → Model.KeyDerivation.UeKeys) (ue1f : Nat → Ue) (R : Reads P cfg scfg chs N chf akaf dn keysf ue1f) :
    (emulate P E cfg (d1 :: dlsOf dn 0 N)).outcome = .completed ∧
    Spec.Amf.judge P false scfg chs (emulate P E cfg (d1 :: dlsOf dn 0 N)).uls none
      ((emulate P E cfg (d1 :: dlsOf dn 0 N)).outcome == .completed) = .accept := by
  obtain ⟨b1, hrun1, hstep1⟩ := C01_step_ng_setup_request P scfg chs {} 0 E [] cfg.gnbId m cfg.name (cfg.bitlength : Int) hm
    (by exact_mod_cast h22) (by exact_mod_cast h32) (by simpa using hg) (by simpa using hc) hname hcfg rfl
  have hsetup := manageNGSetup_run E cfg { dls := d1 :: dlsOf dn 0 N } m b1 d1 (dlsOf dn 0 N) v1 hplmn hrun1 rfl hdec1
  obtain ⟨wd', _, uls, hloop, hdls', hrev, -, -, -, -, hsteps⟩ := register_loop P hP hH cfg scfg chs E N hN4 W m hm chf akaf dn keysf
    ue1f R N 0 [] { dls := dlsOf dn 0 N, ulsRev := [b1], plmn := m } [] (by omega) (by simp) rfl
  have hrunall := testMode_registrations P E cfg N hreg hpdu hdereg _ _ _ _ hsetup hloop
  have huls : (emulate P E cfg (d1 :: dlsOf dn 0 N)).uls = b1 :: uls := by
    unfold emulate; rw [hrunall]; simp [transcriptOf, hrev]
  have hout : (emulate P E cfg (d1 :: dlsOf dn 0 N)).outcome = .completed := by
    unfold emulate; rw [hrunall]; rfl
  refine ⟨hout, ?_⟩
  rw [huls, hout]
  have hj := hsteps false 1 []
  rw [List.append_nil, run_nil] at hj
  refine judge_of_registered P scfg chs b1 uls _ hstep1 hj (by simp [usOf, W.hN]) fun x hx => ?_
  simp only [usOf, List.mem_map] at hx
  obtain ⟨j, _, rfl⟩ := hx
  rfl

open Stgutg.Proofs.BuildersRoles Stgutg.Proofs.UeIdentity Stgutg.Proofs.EmulatorRun in
/-- **C01_accepted_for_downlink.** `C01_accepted_partial` with every uplink-side hypothesis discharged: the hypotheses are the
    configuration's well-formedness, the AMF's choice, and the DOWNLINK side alone (`DlReads`: the five downlink messages are
    decodable; the first DOWNLINK NAS TRANSPORT yields the AMF-UE-NGAP-ID of the choice and an Authentication Request from
    whose AUTN / RAND `DeriveRESstarAndSetKey` obtains the RES* and NAS keys of the network's vector). C08's re-encoding
    identity on the two protected constructor outputs is proved (Proofs/EmulatorReencode.lean). Conclusion: the emulator completes and the reference AMF accepts
    its transcript — every uplink message exists (the builders encode, the constructors encode, the protection succeeds:
    all proved), is what the judge expects in its state, and the registration completes. -/
theorem C01_accepted_for_downlink (P : Prims) (hP : PrimsOk P) (hH : MacLen P.hmac) (cfg : Cfg) (scfg : Spec.Amf.Cfg)
    (chs : List Spec.Amf.Choice) (E : Model.Convert.Ext) (d1 d2 d3 d4 d5 : Bytes)
    (hreg : cfg.reg = 1) (hpdu : cfg.pdu = 0) (hdereg : cfg.dereg = 0) (hone : Spec.Amf.subscribers scfg = 1)
    (himsi : scfg.imsi = cfg.imsi) (hd : DecimalImsi cfg.imsi) {w : Nat} (hw : w = 2 ∨ w = 3) (hmncl : cfg.mnc.length = w)
    (hmcc : scfg.mcc = cfg.imsi.take 3) (hmnc : scfg.mnc = (cfg.imsi.drop 3).take w) (hlen : 3 + w < cfg.imsi.length)
    (hfit : MsinFits cfg.imsi (3 + w) 1)
    (h22 : 22 ≤ cfg.bitlength) (h32 : cfg.bitlength ≤ 32) (hg : cfg.gnbId.length = (cfg.bitlength + 7) / 8)
    (hc : Canonical cfg.gnbId cfg.bitlength) (hname : 1 ≤ cfg.name.length)
    (m : Bytes) (hplmn : Model.Suci.ngSetupPlmn cfg.imsi cfg.mnc.length = .ok m) (hm : m.length = 3)
    (hcfg : Spec.Amf.plmnOf scfg = some m)
    (ch : Spec.Amf.Choice) (aka : Spec.Ts33501A.Aka) (hch : chs[0]? = some ch) (hvec : Spec.Amf.vector P scfg 0 ch = some aka)
    (hamf : ch.amfUeNgapId < 2 ^ 40)
    (v1 : Aper.Val) (hdec1 : ngapDecode (d1.take 2048) = .ok v1)
    (keys : Model.KeyDerivation.UeKeys) (ue1 : Ue)
    (D : DlReads P cfg (createUE cfg 0) d2 d3 d4 d5 ch.amfUeNgapId keys ue1)
    (hue1 : ue1.ctx = (createUE cfg 0).ctx ∧ ue1.sec.cipheringAlg = 0 ∧ ue1.sec.integrityAlg = 2)
    (hkeys : keys.resStar = aka.resStar ∧ keys.knasEnc = aka.knasEnc ∧ keys.knasInt = aka.knasInt) :
    (emulate P E cfg [d1, d2, d3, d4, d5]).outcome = .completed ∧
    Spec.Amf.judge P false scfg chs (emulate P E cfg [d1, d2, d3, d4, d5]).uls none
      ((emulate P E cfg [d1, d2, d3, d4, d5]).outcome == .completed) = .accept := by
  exact accepted_of_reads P hP hH cfg scfg chs E 1 (by omega) ⟨hone, himsi, hd, hw, hmncl, hmcc, hmnc, hlen, hfit⟩ hreg hpdu hdereg
    h22 h32 hg hc hname m hplmn hm hcfg d1 v1 hdec1 (fun _ => ch) (fun _ => aka) (fun _ => (d2, d3, d4, d5)) (fun _ => keys)
    (fun _ => ue1) ⟨of_lt_one hch, of_lt_one hvec, fun _ _ => hamf, of_lt_one D, of_lt_one hue1, fun _ _ => hkeys⟩

open Stgutg.Proofs.BuildersRoles Stgutg.Proofs.UeIdentity Stgutg.Proofs.EmulatorRun in
/-- **C01_accepted_partial.** `C01_accepted_statement` for one registration (`Test_ue_registation` = 1, nothing after it),
    THROUGH `emulate`: for every decimal-IMSI configuration (MNC of 2 or 3 digits, at least one MSIN digit), gNB id of 22..32
    bits in ⌈n/8⌉ octets with the unused bits clear, non-empty name, and every choice of the AMF (RAND, SQN, AMF field — via
    `aka` —, AMF-UE-NGAP-ID below 2^40), the reference AMF ACCEPTS the transcript the emulator model produces
    (`judge (emulate …).uls … = accept`, the emulator completing).
    What is assumed instead of proved is collected in `R : RegReads` and `hkeys`, i.e. what the emulator READS:
      * the five downlink messages are decodable by the library decoder (`hdec*`), the first DOWNLINK NAS TRANSPORT yields,
        through `GetNasPdu` and `authParams`, an Authentication Request with some AUTN / RAND, and its first IE the
        AMF-UE-NGAP-ID of the AMF's choice (`hamf`);
      * `DeriveRESstarAndSetKey` on that AUTN / RAND returns the RES* and NAS keys of the network's vector (`hkeys`: this is
        the conclusion of `C01_res_star` when AUTN / RAND are the network's);
      * `PlainNasDecode` followed by `PlainNasEncode` reproduces the octets of the two NAS constructors that are protected (C08);
      * the library calls of the exchange return octets (`hrun*`, `henc*`, `ho*` inside `R`: each one is a CONCLUSION of a
        theorem above — `C01_*_seen`, C09's constructor theorems, `protected_step` — they are restated as the equations that
        name the octets).
    What `C01_accepted_statement` asks beyond this — a specification of the downlink side (`dl`) from which these readings follow,
    and more than one UE — is `C01_accepted` and `C01_accepted_n`. -/
theorem C01_accepted_partial (P : Prims) (hP : PrimsOk P) (hH : MacLen P.hmac) (cfg : Cfg) (scfg : Spec.Amf.Cfg)
    (chs : List Spec.Amf.Choice) (E : Model.Convert.Ext) (d1 d2 d3 d4 d5 : Bytes)
    -- the configuration
    (hreg : cfg.reg = 1) (hpdu : cfg.pdu = 0) (hdereg : cfg.dereg = 0) (hone : Spec.Amf.subscribers scfg = 1)
    (himsi : scfg.imsi = cfg.imsi) (hd : DecimalImsi cfg.imsi) {w : Nat} (hw : w = 2 ∨ w = 3) (hmncl : cfg.mnc.length = w)
    (hmcc : scfg.mcc = cfg.imsi.take 3) (hmnc : scfg.mnc = (cfg.imsi.drop 3).take w) (hlen : 3 + w < cfg.imsi.length)
    (hfit : MsinFits cfg.imsi (3 + w) 1)
    (h22 : 22 ≤ cfg.bitlength) (h32 : cfg.bitlength ≤ 32) (hg : cfg.gnbId.length = (cfg.bitlength + 7) / 8)
    (hc : Canonical cfg.gnbId cfg.bitlength) (hname : 1 ≤ cfg.name.length)
    (m : Bytes) (hplmn : Model.Suci.ngSetupPlmn cfg.imsi cfg.mnc.length = .ok m) (hm : m.length = 3)
    (hcfg : Spec.Amf.plmnOf scfg = some m)
    -- the AMF's choice and vector
    (ch : Spec.Amf.Choice) (aka : Spec.Ts33501A.Aka) (hch : chs[0]? = some ch) (hvec : Spec.Amf.vector P scfg 0 ch = some aka)
    (hamf : ch.amfUeNgapId < 2 ^ 40)
    -- what the emulator reads and what its library calls return
    (v1 : Aper.Val) (hdec1 : ngapDecode (d1.take 2048) = .ok v1) (b1 : Bytes)
    (hrun1 : Wrapper.run E .GetNGSetupRequest [] [.octs cfg.gnbId, .octs m, .int cfg.bitlength, .str cfg.name] = .ok (.ok b1))
    (suci nas2 b2 nas3 b3 rr smc o1 b4 b5 rc o2 b6 : Bytes) (keys : Model.KeyDerivation.UeKeys) (ue1 : Ue)
    (R : RegReads P E cfg (createUE cfg 0) m d2 d3 d4 d5 suci nas2 b2 nas3 b3 rr smc o1 b4 b5 rc o2 b6 ch.amfUeNgapId keys ue1)
    (hue1 : ue1.ctx = (createUE cfg 0).ctx ∧ ue1.sec.cipheringAlg = 0 ∧ ue1.sec.integrityAlg = 2)
    (hkeys : keys.resStar = aka.resStar ∧ keys.knasEnc = aka.knasEnc ∧ keys.knasInt = aka.knasInt) :
    Spec.Amf.judge P false scfg chs (emulate P E cfg [d1, d2, d3, d4, d5]).uls none
      ((emulate P E cfg [d1, d2, d3, d4, d5]).outcome == .completed) = .accept :=
  (C01_accepted_for_downlink P hP hH cfg scfg chs E d1 d2 d3 d4 d5 hreg hpdu hdereg hone himsi hd hw hmncl hmcc hmnc hlen hfit
    h22 h32 hg hc hname m hplmn hm hcfg ch aka hch hvec hamf v1 hdec1 keys ue1
    { v2 := R.v2, dnt := R.dnt, hdec2 := R.hdec2, hdnt := R.hdnt, pm := R.pm, hgn := R.hgn, autn := R.autn, rand := R.rand,
      hauth := R.hauth, hkeys := R.hkeys, hamf := R.hamf, v3 := R.v3, hdec3 := R.hdec3, v4 := R.v4, hdec4 := R.hdec4,
      hdec5 := R.hdec5 } hue1 hkeys).2

open Stgutg.Proofs.UeIdentity Stgutg.Proofs.EmulatorSubscriber in
/-- `C01_res_star` for the credentials and SUPI of the created UE `j`: on the AUTN and RAND of the network's choice
    `DeriveRESstarAndSetKey` returns the RES* and NAS keys of the network's vector -/
theorem created_ue_keys (P : Prims) (hE : BlockCipher P.aes) (hH : MacLen P.hmac) (cfg : Cfg) (scfg : Spec.Amf.Cfg)
    (himsi : scfg.imsi = cfg.imsi) (hd : DecimalImsi cfg.imsi) (h5 : 5 ≤ cfg.imsi.length) (h15 : cfg.imsi.length ≤ 15)
    (hmccB : scfg.mcc = cfg.mcc) (hmncB : scfg.mnc = cfg.mnc) (hmcc3 : cfg.mcc.length = 3)
    (hmnc23 : cfg.mnc.length = 2 ∨ cfg.mnc.length = 3)
    (j : Nat) (hjfit : Model.UeIdentity.decVal cfg.imsi + j < 10 ^ cfg.imsi.length)
    (ch : Spec.Amf.Choice) (aka : Spec.Ts33501A.Aka) (hvec : Spec.Amf.vector P scfg j ch = some aka)
    (k opc : Bytes) (hk : hexDecode cfg.k = some k) (hk' : Spec.Amf.hexText scfg.k = some k) (hk16 : k.length = 16)
    (hopcne : cfg.opc ≠ []) (hopc : hexDecode cfg.opc = some opc) (hopc' : Spec.Amf.opcOf P scfg = some opc)
    (hopc16 : opc.length = 16) (hrand : ch.rand.length = 16) (hsqn : ch.sqn.length = 6) :
    ∃ keys, DeriveRESstarAndSetKey P (createUE cfg j).ctx.supi (createUE cfg j).ctx.cipheringAlg (createUE cfg j).ctx.integrityAlg
        { amf := (createUE cfg j).ctx.amf, k := (createUE cfg j).ctx.k, opc := (createUE cfg j).ctx.opc, op := (createUE cfg j).ctx.op }
        (Spec.Ts35206.autn P.aes k opc ch.rand ch.sqn ch.amf) ch.rand (snName cfg.mnc cfg.mcc) cfg.mnc cfg.mcc = .ok keys ∧
      keys.resStar = aka.resStar ∧ keys.knasEnc = aka.knasEnc ∧ keys.knasInt = aka.knasInt := by
  have hsupi : (createUE cfg j).ctx.supi = Model.UeIdentity.imsiPrefix ++ Model.UeIdentity.decW cfg.imsi.length
      (Model.UeIdentity.decVal cfg.imsi + j) := createUE_supi hd j hjfit cfg.k cfg.opc cfg.op
  have hds := supiDigits_eq scfg (himsi ▸ hd) j
  rw [himsi] at hds
  have hdigs := decW_digits cfg.imsi.length (Model.UeIdentity.decVal cfg.imsi + j)
  obtain ⟨keys, hder, k1, _, k3, k4⟩ := C01_res_star P hE hH scfg ch j aka
    { amf := (createUE cfg j).ctx.amf, k := (createUE cfg j).ctx.k, opc := (createUE cfg j).ctx.opc, op := (createUE cfg j).ctx.op }
    [0x80, 0x00] k opc (Model.UeIdentity.decW cfg.imsi.length (Model.UeIdentity.decVal cfg.imsi + j)) _ hvec
    hk hk' hk16 hopcne hopc hopc' hopc16 (show hexDecode [56, 48, 48, 48] = some [0x80, 0x00] by decide) (by decide) hrand hsqn hds
    (asc_digitsOf _ hdigs)
    (by rw [List.all_eq_true]; intro c hc; exact hdigs c hc)
    (by rw [decW_length]; exact h5) (by rw [decW_length]; exact h15)
    (by rw [hmccB]; exact hmcc3) (by rw [hmncB]; exact hmnc23)
  rw [hmccB, hmncB] at hder
  exact ⟨keys, by rw [hsupi]; exact hder, k1, k3, k4⟩

open Stgutg.Proofs.UeIdentity Stgutg.Proofs.EmulatorRun Stgutg.Proofs.EmulatorSubscriber in
/-- **C01_keys_of_network_challenge.** The `hkeys` hypothesis of `C01_accepted_for_downlink` from `C01_res_star`: when the
    Authentication Request the emulator reads carries the AUTN and RAND of the network's choice (what a conformant AMF sends:
    AUTN = SQN ⊕ AK ‖ AMF ‖ MAC-A for its RAND), then what `DeriveRESstarAndSetKey` returned (`D.hkeys`) is the RES* and the NAS
    keys of the network's vector — for every K, OPc (hexadecimal, 16 octets, read alike by the code and by the reference AMF),
    RAND, SQN, AMF field, and IMSI of 5..15 digits. -/
theorem C01_keys_of_network_challenge (P : Prims) (hE : BlockCipher P.aes) (hH : MacLen P.hmac) (cfg : Cfg) (scfg : Spec.Amf.Cfg)
    (himsi : scfg.imsi = cfg.imsi) (hd : DecimalImsi cfg.imsi) (h5 : 5 ≤ cfg.imsi.length) (h15 : cfg.imsi.length ≤ 15)
    (hmccB : scfg.mcc = cfg.mcc) (hmncB : scfg.mnc = cfg.mnc) (hmcc3 : cfg.mcc.length = 3)
    (hmnc23 : cfg.mnc.length = 2 ∨ cfg.mnc.length = 3)
    (ch : Spec.Amf.Choice) (aka : Spec.Ts33501A.Aka) (hvec : Spec.Amf.vector P scfg 0 ch = some aka)
    (k opc : Bytes) (hk : hexDecode cfg.k = some k) (hk' : Spec.Amf.hexText scfg.k = some k) (hk16 : k.length = 16)
    (hopcne : cfg.opc ≠ []) (hopc : hexDecode cfg.opc = some opc) (hopc' : Spec.Amf.opcOf P scfg = some opc)
    (hopc16 : opc.length = 16) (hrand : ch.rand.length = 16) (hsqn : ch.sqn.length = 6)
    (d2 d3 d4 d5 : Bytes) (amf : Int) (keys : Model.KeyDerivation.UeKeys) (ue1 : Ue)
    (D : DlReads P cfg (createUE cfg 0) d2 d3 d4 d5 amf keys ue1) (hue1 : ue1.ctx = (createUE cfg 0).ctx)
    (hautn : D.autn = Spec.Ts35206.autn P.aes k opc ch.rand ch.sqn ch.amf) (hrandD : D.rand = ch.rand) :
    keys.resStar = aka.resStar ∧ keys.knasEnc = aka.knasEnc ∧ keys.knasInt = aka.knasInt := by
  obtain ⟨keys', hder, e⟩ := created_ue_keys P hE hH cfg scfg himsi hd h5 h15 hmccB hmncB hmcc3 hmnc23 0
    (by have := decVal_lt cfg.imsi hd.digits; omega) ch aka hvec k opc hk hk' hk16 hopcne hopc hopc' hopc16 hrand hsqn
  have hD := D.hkeys
  rw [hue1, hautn, hrandD] at hD
  cases Except.ok.inj (hder.symm.trans hD)
  exact e

/-- a specified downlink message that round-trips and fits the receive buffer is what the emulator decodes after `conn.Read` -/
theorem reads_of_roundtrip {v : Aper.Val} {bs : Bytes}
    (h : ∃ bs', Spec.AmfDl.ngap v = some bs' ∧ ngapDecode bs' = .ok v) (e : Spec.AmfDl.ngap v = some bs)
    (hb : bs.length ≤ 2048) : ngapDecode (bs.take 2048) = .ok v := by
  obtain ⟨bs', h1, h2⟩ := h
  cases Option.some.inj (h1.symm.trans e)
  rw [List.take_of_length_le hb]
  exact h2

open Stgutg.Proofs.UeIdentity Stgutg.Proofs.EmulatorRun Stgutg.Proofs.EmulatorSubscriber Stgutg.Proofs.EmulatorDownlink in
/-- **C01_dlReads_of_spec.** The downlink side of UE `j`'s registration, PROVED for the specified messages: when the AMF sends
    `Spec.AmfDl.dl` for subscriber `j` under its choice `ch` (and the messages fit the receive buffer), the NG SETUP RESPONSE is
    decodable and the other four satisfy `DlReads` — they decode (C04 on the downlink values), `GetNasPdu` / `PlainNasDecode` /
    `authParams` obtain the AUTN and RAND of the choice from the Authentication Request (C09), `List[0]` is the AMF-UE-NGAP-ID,
    and `DeriveRESstarAndSetKey` returns the RES* and NAS keys of the network's vector (`C01_res_star`). -/
theorem C01_dlReads_of_spec (P : Prims) (hE : BlockCipher P.aes) (hH : MacLen P.hmac) (cfg : Cfg) (scfg : Spec.Amf.Cfg)
    (himsi : scfg.imsi = cfg.imsi) (hd : DecimalImsi cfg.imsi) (h5 : 5 ≤ cfg.imsi.length) (h15 : cfg.imsi.length ≤ 15)
    (hmcc3 : cfg.mcc.length = 3) (hmnc23 : cfg.mnc.length = 2 ∨ cfg.mnc.length = 3)
    (hmccB : scfg.mcc = cfg.mcc) (hmncB : scfg.mnc = cfg.mnc)
    (m : Bytes) (hm : m.length = 3) (hcfg : Spec.Amf.plmnOf scfg = some m)
    (k opc : Bytes) (hk : hexDecode cfg.k = some k) (hk' : Spec.Amf.hexText scfg.k = some k) (hk16 : k.length = 16)
    (hopcne : cfg.opc ≠ []) (hopc : hexDecode cfg.opc = some opc) (hopc' : Spec.Amf.opcOf P scfg = some opc)
    (hopc16 : opc.length = 16) (habba : 2 ≤ scfg.abba.length ∧ scfg.abba.length < 256)
    (j : Nat) (hjfit : Model.UeIdentity.decVal cfg.imsi + j < 10 ^ cfg.imsi.length)
    (ch : Spec.Amf.Choice) (hamf : ch.amfUeNgapId < 2 ^ 40)
    (hrand : ch.rand.length = 16) (hsqn : ch.sqn.length = 6) (hamfF : ch.amf.length = 2)
    (cap : Bytes) (dls : List Bytes)
    (hdl : Spec.AmfDl.dl P scfg j ch (createUE cfg j).ctx.ranUeNgapId cap = some dls) (hbuf : ∀ d ∈ dls, d.length ≤ 2048) :
    ∃ d1 d2 d3 d4 d5 aka keys v1, dls = [d1, d2, d3, d4, d5] ∧ Spec.Amf.vector P scfg j ch = some aka ∧
      Spec.AmfDl.ngap (Spec.AmfDl.ngSetupResponse m) = some d1 ∧ ngapDecode (d1.take 2048) = .ok v1 ∧
      Nonempty (DlReads P cfg (createUE cfg j) d2 d3 d4 d5 ch.amfUeNgapId keys (createUE cfg j)) ∧
      keys.resStar = aka.resStar ∧ keys.knasEnc = aka.knasEnc ∧ keys.knasInt = aka.knasInt := by
  obtain ⟨plmn, aka, autn, ar, n3, n4, n5, d1, d2, d3, d4, d5, e1, hvec, e3, e4, e5, e6, e7, e8, e9, rfl⟩ :=
    dl_some P scfg j ch _ cap dls hdl
  have hpm : plmn = m := Option.some.inj (e1.symm.trans hcfg)
  subst hpm
  obtain ⟨hr0, hr1⟩ := createUE_ran_range cfg hd j (lt_two_pow_62_of_lt_pow10 hd.short (by omega))
  have ha0 : (0 : Int) ≤ ch.amfUeNgapId := by omega
  have ha1 : (ch.amfUeNgapId : Int) < 2 ^ 40 := by exact_mod_cast hamf
  have hautn : autn = Spec.Ts35206.autn P.aes k opc ch.rand ch.sqn ch.amf := by
    unfold Spec.Amf.autnOf at e3
    rw [hk', hopc'] at e3
    exact (Option.some.inj e3).symm
  have hautn16 : autn.length = 16 := by
    rw [hautn]
    unfold Spec.Ts35206.autn
    have h5' := f5_length (rand := ch.rand) hE hk16 hopc16 hrand
    have h1' := f1_length (rand := ch.rand) hE hk16 hopc16 hrand hsqn hamfF
    simp only [List.length_append, Proofs.Hex.xorBytes_length, h5', h1', hsqn, hamfF]
    rfl
  have hb := hbuf
  simp only [List.mem_cons, List.not_mem_nil, or_false, forall_eq_or_imp, forall_eq] at hb
  obtain ⟨hb1, hb2, hb3, hb4, hb5⟩ := hb
  have hdec1 := reads_of_roundtrip (ngsr_roundtrip plmn hm) e4 hb1
  have hdec2 := reads_of_roundtrip (dnt_roundtrip ch.amfUeNgapId (createUE cfg j).ctx.ranUeNgapId ar ha0 ha1 hr0 hr1) e6 hb2
  have hdec3 := reads_of_roundtrip (dnt_roundtrip ch.amfUeNgapId (createUE cfg j).ctx.ranUeNgapId n3 ha0 ha1 hr0 hr1) e7 hb3
  have hdec4 := reads_of_roundtrip (icsReq_roundtrip plmn hm ch.amfUeNgapId (createUE cfg j).ctx.ranUeNgapId
    (Spec.AmfDl.kgnb P aka.kamf) n4 ha0 ha1 hr0 hr1 (by unfold Spec.AmfDl.kgnb Spec.Ts33501A.kdf; exact hH _ _)) e8 hb4
  have hdec5 := reads_of_roundtrip (dnt_roundtrip ch.amfUeNgapId (createUE cfg j).ctx.ranUeNgapId n5 ha0 ha1 hr0 hr1) e9 hb5
  obtain ⟨pm, r, hpd, hauth, har⟩ := ar_decodes ch.ngKsi scfg.abba ch.rand autn habba.2 habba.1 hrand hautn16 ar e5
  subst har
  obtain ⟨keys, hder, k1, k3, k4⟩ := created_ue_keys P hE hH cfg scfg himsi hd h5 h15 hmccB hmncB hmcc3 hmnc23 j hjfit ch aka hvec
    k opc hk hk' hk16 hopcne hopc hopc' hopc16 hrand hsqn
  rw [← hautn] at hder
  refine ⟨d1, d2, d3, d4, d5, aka, keys, _, rfl, hvec, e4, hdec1, ⟨?_⟩, k1, k3, k4⟩
  exact
    { v2 := _, dnt := _, hdec2 := hdec2, hdnt := dnt_alt _ _ _,
      pm := some pm, hgn := fun w => dnt_getNasPdu P _ _ _ r pm hpd w, autn := autn, rand := ch.rand, hauth := hauth,
      hkeys := hder, hamf := dnt_amf _ _ _, v3 := _, hdec3 := hdec3, v4 := _, hdec4 := hdec4,
      hdec5 := by rw [hdec5]; exact ⟨by simp, by simp⟩ }

open Stgutg.Proofs.BuildersRoles Stgutg.Proofs.UeIdentity Stgutg.Proofs.EmulatorRun Stgutg.Proofs.EmulatorSubscriber
  Stgutg.Proofs.EmulatorDownlink in
/-- **C01_accepted.** The statement of C01 for one UE, with the downlink side SPECIFIED: for every well-formed configuration
    (decimal IMSI of 5..15 digits with MCC = its first 3 digits and MNC = the next 2 or 3, at least one MSIN digit; K and OPc
    hexadecimal 16-octet values read alike by the code and by the reference AMF; gNB id of 22..32 bits in ⌈n/8⌉ octets with the
    unused bits clear; non-empty gNB name; ABBA of 2..255 octets; one registration requested and nothing after it) and every
    choice of a conformant AMF (RAND of 16 octets, SQN of 6, AMF field of 2, any ngKSI, AMF-UE-NGAP-ID below 2^40), when the
    AMF sends the five downlink messages of `Spec.AmfDl.dl` — built with the SPECIFICATION encoders only (X.691, TS 24.501,
    TS 33.501 / TS 35.206 for the challenge) — and they fit the emulator's 2048-octet receive buffer, the emulator completes
    and the reference AMF ACCEPTS its transcript:
      judge (emulate cfg (dl cfg choice)).uls = accept.
    (`hdl`: the specification encoders do encode — `Spec.AmfDl.dl … = some dls`; the NGAP encodings exist by the theorems used
    here, the three protected NAS messages are the remaining content of that hypothesis. Primitives AES / HMAC / CMAC / CTR are
    parameters: block cipher on 16 octets, 32-octet MAC, CTR a keystream cipher, CMAC tag of at least 4 octets.) -/
theorem C01_accepted (P : Prims) (hP : PrimsOk P) (hE : BlockCipher P.aes) (hH : MacLen P.hmac) (cfg : Cfg) (scfg : Spec.Amf.Cfg)
    (chs : List Spec.Amf.Choice) (E : Model.Convert.Ext)
    -- the configuration
    (hreg : cfg.reg = 1) (hpdu : cfg.pdu = 0) (hdereg : cfg.dereg = 0) (hone : Spec.Amf.subscribers scfg = 1)
    (himsi : scfg.imsi = cfg.imsi) (hd : DecimalImsi cfg.imsi) (h5 : 5 ≤ cfg.imsi.length) (h15 : cfg.imsi.length ≤ 15)
    {w : Nat} (hw : w = 2 ∨ w = 3) (hmncl : cfg.mnc.length = w) (hmcc3 : cfg.mcc.length = 3)
    (hmccB : scfg.mcc = cfg.mcc) (hmncB : scfg.mnc = cfg.mnc)
    (hmcc : scfg.mcc = cfg.imsi.take 3) (hmnc : scfg.mnc = (cfg.imsi.drop 3).take w) (hlen : 3 + w < cfg.imsi.length)
    (hfit : MsinFits cfg.imsi (3 + w) 1)
    (h22 : 22 ≤ cfg.bitlength) (h32 : cfg.bitlength ≤ 32) (hg : cfg.gnbId.length = (cfg.bitlength + 7) / 8)
    (hc : Canonical cfg.gnbId cfg.bitlength) (hname : 1 ≤ cfg.name.length)
    (m : Bytes) (hplmn : Model.Suci.ngSetupPlmn cfg.imsi cfg.mnc.length = .ok m) (hm : m.length = 3)
    (hcfg : Spec.Amf.plmnOf scfg = some m)
    (k opc : Bytes) (hk : hexDecode cfg.k = some k) (hk' : Spec.Amf.hexText scfg.k = some k) (hk16 : k.length = 16)
    (hopcne : cfg.opc ≠ []) (hopc : hexDecode cfg.opc = some opc) (hopc' : Spec.Amf.opcOf P scfg = some opc)
    (hopc16 : opc.length = 16) (habba : 2 ≤ scfg.abba.length ∧ scfg.abba.length < 256)
    -- the AMF's choice
    (ch : Spec.Amf.Choice) (hch : chs[0]? = some ch) (hamf : ch.amfUeNgapId < 2 ^ 40)
    (hrand : ch.rand.length = 16) (hsqn : ch.sqn.length = 6) (hamfF : ch.amf.length = 2)
    -- the downlink messages are those of the specification
    (cap : Bytes) (dls : List Bytes)
    (hdl : Spec.AmfDl.dl P scfg 0 ch (createUE cfg 0).ctx.ranUeNgapId cap = some dls)
    (hbuf : ∀ d ∈ dls, d.length ≤ 2048) :
    (emulate P E cfg dls).outcome = .completed ∧
    Spec.Amf.judge P false scfg chs (emulate P E cfg dls).uls none ((emulate P E cfg dls).outcome == .completed) = .accept := by
  obtain ⟨d1, d2, d3, d4, d5, aka, keys, v1, rfl, hvec, -, hdec1, ⟨D⟩, hkeys⟩ := C01_dlReads_of_spec P hE hH cfg scfg himsi hd h5 h15
    hmcc3 (by rw [hmncl]; exact hw) hmccB hmncB m hm hcfg k opc hk hk' hk16 hopcne hopc hopc' hopc16 habba 0
    (by have := decVal_lt cfg.imsi hd.digits; omega) ch hamf hrand hsqn hamfF cap dls hdl hbuf
  exact C01_accepted_for_downlink P hP hH cfg scfg chs E d1 d2 d3 d4 d5 hreg hpdu hdereg hone himsi hd hw hmncl hmcc hmnc hlen hfit
    h22 h32 hg hc hname m hplmn hm hcfg ch aka hch hvec hamf v1 hdec1 keys (createUE cfg 0) D ⟨rfl, rfl, rfl⟩ hkeys

open Stgutg.Proofs.EmulatorWitness in
set_option maxRecDepth 1000000 in
/-- the downlink hypotheses of `C01_accepted` are satisfiable: for the configuration and choice of the recorded conversation
    `reg1` (with primitives that are cheap in the kernel) the specification encoders encode all five messages, each far below
    2048 octets. (With the real AES / SHA-256 the octets of DL2, DL3 and DL5 are byte for byte those the scripted AMF of the
    correspondence harness sent in that conversation — evaluated once outside the build.) -/
example : (match reg1Choices.head?.bind fun ch => Spec.AmfDl.dl cheapPrims (specOf reg1Cfg reg1Abba) 0 ch 6 [0x80, 0x20] with
    | some dls => dls.length == 5 && dls.all fun d => decide (d.length ≤ 2048)
    | none => false) = true := by decide +kernel

open Stgutg.Proofs.BuildersRoles Stgutg.Proofs.UeIdentity Stgutg.Proofs.EmulatorRun in
/-- **C01_accepted_n_for_downlink.** NG Setup + the registration of `N ≤ 10 000` UEs (`Test_ue_registation` = N, nothing after
    it), through `emulate`, with the downlink side as hypotheses (`DlReads` for every UE): the emulator completes and the
    reference AMF accepts the whole transcript of `1 + 5·N` uplink messages. -/
theorem C01_accepted_n_for_downlink (P : Prims) (hP : PrimsOk P) (hH : MacLen P.hmac) (cfg : Cfg) (scfg : Spec.Amf.Cfg)
    (chs : List Spec.Amf.Choice) (E : Model.Convert.Ext) (N : Nat) (hN : Spec.Amf.subscribers scfg = N) (hN4 : N ≤ 10000)
    (hreg : cfg.reg = (N : Int)) (hpdu : cfg.pdu = 0) (hdereg : cfg.dereg = 0)
    (himsi : scfg.imsi = cfg.imsi) (hd : DecimalImsi cfg.imsi) {w : Nat} (hw : w = 2 ∨ w = 3) (hmncl : cfg.mnc.length = w)
    (hmcc : scfg.mcc = cfg.imsi.take 3) (hmnc : scfg.mnc = (cfg.imsi.drop 3).take w) (hlen : 3 + w < cfg.imsi.length)
    (hfit : MsinFits cfg.imsi (3 + w) N)
    (h22 : 22 ≤ cfg.bitlength) (h32 : cfg.bitlength ≤ 32) (hg : cfg.gnbId.length = (cfg.bitlength + 7) / 8)
    (hc : Canonical cfg.gnbId cfg.bitlength) (hname : 1 ≤ cfg.name.length)
    (m : Bytes) (hplmn : Model.Suci.ngSetupPlmn cfg.imsi cfg.mnc.length = .ok m) (hm : m.length = 3)
    (hcfg : Spec.Amf.plmnOf scfg = some m)
    (d1 : Bytes) (v1 : Aper.Val) (hdec1 : ngapDecode (d1.take 2048) = .ok v1)
    (chf : Nat → Spec.Amf.Choice) (akaf : Nat → Spec.Ts33501A.Aka) (dn : Nat → Bytes × Bytes × Bytes × Bytes)
    (keysf : Nat → Model.KeyDerivation.UeKeys)
    (hch : ∀ j, j < N → chs[j]? = some (chf j)) (hvec : ∀ j, j < N → Spec.Amf.vector P scfg j (chf j) = some (akaf j))
    (hamf : ∀ j, j < N → (chf j).amfUeNgapId < 2 ^ 40)
    (hD : ∀ j, j < N → DlReads P cfg (createUE cfg j) (dn j).1 (dn j).2.1 (dn j).2.2.1 (dn j).2.2.2 (chf j).amfUeNgapId (keysf j)
      (createUE cfg j))
    (hkeys : ∀ j, j < N → (keysf j).resStar = (akaf j).resStar ∧ (keysf j).knasEnc = (akaf j).knasEnc ∧
      (keysf j).knasInt = (akaf j).knasInt) :
    (emulate P E cfg (d1 :: dlsOf dn 0 N)).outcome = .completed ∧
    Spec.Amf.judge P false scfg chs (emulate P E cfg (d1 :: dlsOf dn 0 N)).uls none
      ((emulate P E cfg (d1 :: dlsOf dn 0 N)).outcome == .completed) = .accept :=
  accepted_of_reads P hP hH cfg scfg chs E N hN4 ⟨hN, himsi, hd, hw, hmncl, hmcc, hmnc, hlen, hfit⟩ hreg hpdu hdereg h22 h32 hg hc hname
    m hplmn hm hcfg d1 v1 hdec1 chf akaf dn keysf (fun j => createUE cfg j) ⟨hch, hvec, hamf, hD, fun _ _ => ⟨rfl, rfl, rfl⟩, hkeys⟩

open Stgutg.Proofs.UeIdentity Stgutg.Proofs.EmulatorRun in
/-- the downlink side of the `N` registrations, PROVED for the specified messages: `C01_dlReads_of_spec` for every UE, with the
    vectors and keys as functions of the UE index (chosen: each exists by that theorem) -/
theorem reads_of_spec (P : Prims) (hE : BlockCipher P.aes) (hH : MacLen P.hmac) (cfg : Cfg) (scfg : Spec.Amf.Cfg)
    (himsi : scfg.imsi = cfg.imsi) (hd : DecimalImsi cfg.imsi) (h5 : 5 ≤ cfg.imsi.length) (h15 : cfg.imsi.length ≤ 15)
    (hmcc3 : cfg.mcc.length = 3) (hmnc23 : cfg.mnc.length = 2 ∨ cfg.mnc.length = 3)
    (hmccB : scfg.mcc = cfg.mcc) (hmncB : scfg.mnc = cfg.mnc)
    (m : Bytes) (hm : m.length = 3) (hcfg : Spec.Amf.plmnOf scfg = some m)
    (k opc : Bytes) (hk : hexDecode cfg.k = some k) (hk' : Spec.Amf.hexText scfg.k = some k) (hk16 : k.length = 16)
    (hopcne : cfg.opc ≠ []) (hopc : hexDecode cfg.opc = some opc) (hopc' : Spec.Amf.opcOf P scfg = some opc)
    (hopc16 : opc.length = 16) (habba : 2 ≤ scfg.abba.length ∧ scfg.abba.length < 256)
    (N : Nat) (hfits : Fits cfg.imsi N) (chs : List Spec.Amf.Choice) (chf : Nat → Spec.Amf.Choice)
    (hch : ∀ j, j < N → chs[j]? = some (chf j))
    (hchWF : ∀ j, j < N → (chf j).amfUeNgapId < 2 ^ 40 ∧ (chf j).rand.length = 16 ∧ (chf j).sqn.length = 6 ∧ (chf j).amf.length = 2)
    (caps : Nat → Bytes) (d1 : Bytes) (dn : Nat → Bytes × Bytes × Bytes × Bytes) (hb1 : d1.length ≤ 2048)
    (hdl : ∀ j, j < N → Spec.AmfDl.dl P scfg j (chf j) (createUE cfg j).ctx.ranUeNgapId (caps j) =
      some [d1, (dn j).1, (dn j).2.1, (dn j).2.2.1, (dn j).2.2.2])
    (hbuf : ∀ j, j < N → (dn j).1.length ≤ 2048 ∧ (dn j).2.1.length ≤ 2048 ∧ (dn j).2.2.1.length ≤ 2048 ∧ (dn j).2.2.2.length ≤ 2048) :
    ∃ akaf keysf, Nonempty (Reads P cfg scfg chs N chf akaf dn keysf fun j => createUE cfg j) := by
  unfold Fits at hfits
  have hper : ∀ j, ∃ ak : Spec.Ts33501A.Aka × Model.KeyDerivation.UeKeys, j < N → Spec.Amf.vector P scfg j (chf j) = some ak.1 ∧
      Nonempty (DlReads P cfg (createUE cfg j) (dn j).1 (dn j).2.1 (dn j).2.2.1 (dn j).2.2.2 (chf j).amfUeNgapId ak.2 (createUE cfg j)) ∧
      ak.2.resStar = ak.1.resStar ∧ ak.2.knasEnc = ak.1.knasEnc ∧ ak.2.knasInt = ak.1.knasInt := by
    intro j
    by_cases hj : j < N
    · obtain ⟨ha, hr, hs, hf⟩ := hchWF j hj
      obtain ⟨hbb2, hbb3, hbb4, hbb5⟩ := hbuf j hj
      obtain ⟨x1, x2, x3, x4, x5, aka, keys, v1, heq, hvec, _, _, hD, hk⟩ := C01_dlReads_of_spec P hE hH cfg scfg himsi hd h5 h15
        hmcc3 hmnc23 hmccB hmncB m hm hcfg k opc hk hk' hk16 hopcne hopc hopc' hopc16 habba j (by omega) (chf j) ha hr hs hf
        (caps j) _ (hdl j hj) (by
          intro d hdm
          simp only [List.mem_cons, List.not_mem_nil, or_false] at hdm
          rcases hdm with rfl | rfl | rfl | rfl | rfl <;> assumption)
      simp only [List.cons.injEq, and_true] at heq
      obtain ⟨_, rfl, rfl, rfl, rfl⟩ := heq
      exact ⟨(aka, keys), fun _ => ⟨hvec, hD, hk⟩⟩
    · exact ⟨(⟨[], [], [], [], [], []⟩, ⟨[], [], [], []⟩), fun h => absurd h hj⟩
  obtain ⟨f, hf⟩ := Classical.skolem.mp hper
  exact ⟨fun j => (f j).1, fun j => (f j).2, ⟨⟨hch, fun j h => (hf j h).1, fun j h => (hchWF j h).1,
    fun j h => Classical.choice (hf j h).2.1, fun _ _ => ⟨rfl, rfl, rfl⟩, fun j h => (hf j h).2.2⟩⟩⟩

open Stgutg.Proofs.BuildersRoles Stgutg.Proofs.UeIdentity Stgutg.Proofs.EmulatorRun in
/-- **C01_accepted_n.** The statement of C01 for `N ≤ 10 000` UEs with the downlink side SPECIFIED: for every well-formed
    configuration (as in `C01_accepted`; the MSIN digits accommodate the population; `Test_ue_registation` = N, nothing after it)
    and every choice of a conformant AMF for every UE (RAND of 16 octets, SQN of 6, AMF field of 2, any ngKSI, AMF-UE-NGAP-ID
    below 2^40), when the AMF sends the NG SETUP RESPONSE and then, for UE 0, 1, …, N − 1 in order, the four messages of
    `Spec.AmfDl.dl` for that UE (each within the 2048-octet receive buffer), the emulator completes and the reference AMF
    ACCEPTS its transcript of 1 + 5·N uplink messages. -/
theorem C01_accepted_n (P : Prims) (hP : PrimsOk P) (hE : BlockCipher P.aes) (hH : MacLen P.hmac) (cfg : Cfg) (scfg : Spec.Amf.Cfg)
    (chs : List Spec.Amf.Choice) (E : Model.Convert.Ext) (N : Nat) (hN : Spec.Amf.subscribers scfg = N) (hN4 : N ≤ 10000)
    (hreg : cfg.reg = (N : Int)) (hpdu : cfg.pdu = 0) (hdereg : cfg.dereg = 0)
    (himsi : scfg.imsi = cfg.imsi) (hd : DecimalImsi cfg.imsi) (h5 : 5 ≤ cfg.imsi.length) (h15 : cfg.imsi.length ≤ 15)
    {w : Nat} (hw : w = 2 ∨ w = 3) (hmncl : cfg.mnc.length = w) (hmcc3 : cfg.mcc.length = 3)
    (hmccB : scfg.mcc = cfg.mcc) (hmncB : scfg.mnc = cfg.mnc)
    (hmcc : scfg.mcc = cfg.imsi.take 3) (hmnc : scfg.mnc = (cfg.imsi.drop 3).take w) (hlen : 3 + w < cfg.imsi.length)
    (hfit : MsinFits cfg.imsi (3 + w) N)
    (h22 : 22 ≤ cfg.bitlength) (h32 : cfg.bitlength ≤ 32) (hg : cfg.gnbId.length = (cfg.bitlength + 7) / 8)
    (hc : Canonical cfg.gnbId cfg.bitlength) (hname : 1 ≤ cfg.name.length)
    (m : Bytes) (hplmn : Model.Suci.ngSetupPlmn cfg.imsi cfg.mnc.length = .ok m) (hm : m.length = 3)
    (hcfg : Spec.Amf.plmnOf scfg = some m)
    (k opc : Bytes) (hk : hexDecode cfg.k = some k) (hk' : Spec.Amf.hexText scfg.k = some k) (hk16 : k.length = 16)
    (hopcne : cfg.opc ≠ []) (hopc : hexDecode cfg.opc = some opc) (hopc' : Spec.Amf.opcOf P scfg = some opc)
    (hopc16 : opc.length = 16) (habba : 2 ≤ scfg.abba.length ∧ scfg.abba.length < 256)
    -- the AMF's choices, one per UE
    (chf : Nat → Spec.Amf.Choice) (hch : ∀ j, j < N → chs[j]? = some (chf j))
    (hchWF : ∀ j, j < N → (chf j).amfUeNgapId < 2 ^ 40 ∧ (chf j).rand.length = 16 ∧ (chf j).sqn.length = 6 ∧ (chf j).amf.length = 2)
    -- the downlink messages are those of the specification
    (caps : Nat → Bytes) (d1 : Bytes) (dn : Nat → Bytes × Bytes × Bytes × Bytes)
    (hd1 : Spec.AmfDl.ngap (Spec.AmfDl.ngSetupResponse m) = some d1) (hb1 : d1.length ≤ 2048)
    (hdl : ∀ j, j < N → Spec.AmfDl.dl P scfg j (chf j) (createUE cfg j).ctx.ranUeNgapId (caps j) =
      some [d1, (dn j).1, (dn j).2.1, (dn j).2.2.1, (dn j).2.2.2])
    (hbuf : ∀ j, j < N → (dn j).1.length ≤ 2048 ∧ (dn j).2.1.length ≤ 2048 ∧ (dn j).2.2.1.length ≤ 2048 ∧ (dn j).2.2.2.length ≤ 2048) :
    (emulate P E cfg (d1 :: dlsOf dn 0 N)).outcome = .completed ∧
    Spec.Amf.judge P false scfg chs (emulate P E cfg (d1 :: dlsOf dn 0 N)).uls none
      ((emulate P E cfg (d1 :: dlsOf dn 0 N)).outcome == .completed) = .accept := by
  obtain ⟨akaf, keysf, ⟨R⟩⟩ := reads_of_spec P hE hH cfg scfg himsi hd h5 h15 hmcc3 (by rw [hmncl]; exact hw) hmccB hmncB m hm hcfg k opc
    hk hk' hk16 hopcne hopc hopc' hopc16 habba N (msinFits_fits hd hfit) chs chf hch hchWF caps d1 dn hb1 hdl hbuf
  exact accepted_of_reads P hP hH cfg scfg chs E N hN4 ⟨hN, himsi, hd, hw, hmncl, hmcc, hmnc, hlen, hfit⟩ hreg hpdu hdereg h22 h32 hg hc hname
    m hplmn hm hcfg d1 _ (reads_of_roundtrip (Proofs.EmulatorDownlink.ngsr_roundtrip m hm) hd1 hb1) chf akaf dn keysf _ R

/-- the hypotheses of `C01_ng_setup_request_seen` are satisfiable: a gNB id of 22 bits in three octets with the two unused bits
    clear, and the PLMN 00f110 of src/config.yaml (MCC 001, MNC 01) -/
example : ([0x00, 0xf1, 0x10] : Bytes).length = 3 ∧ ([0, 1, 4] : Bytes).length = ((22 : Int).toNat + 7) / 8 ∧
    Proofs.BuildersRoles.Canonical [0, 1, 4] (22 : Int).toNat :=
  ⟨by decide, by decide, by unfold Proofs.BuildersRoles.Canonical; decide⟩

/-- what C01 asks of the model as a whole: for every well-formed configuration and every choice of a conformant AMF
    (`dl` = the downlink messages it sends), the reference AMF judges the model's transcript `accept`. -/
def C01_accepted_statement (P : Prims) (E : Model.Convert.Ext) (dl : Spec.Amf.Cfg → List Spec.Amf.Choice → List Bytes)
    (toSpec : Cfg → Spec.Amf.Cfg) (WF : Cfg → List Spec.Amf.Choice → Prop) : Prop :=
  ∀ cfg chs, WF cfg chs →
    let t := emulate P E cfg (dl (toSpec cfg) chs)
    Spec.Amf.judge P false (toSpec cfg) chs t.uls none (t.outcome == .completed) = .accept

open Stgutg.Proofs.EmulatorWitness in
/-- **C01_accepted_witness.** The end-to-end statement on a concrete conversation, evaluated by the Lean kernel with the
    executable AES-128 / SHA-256 / HMAC / CMAC (no `native_decide`): configuration IMSI 59903000000006 (MNC 03, 2 digits),
    gNB id of 22 bits, OPc and OP configured; the AMF chose RAND, SQN, AMF field, ngKSI 2, AMF-UE-NGAP-ID 107421176 and
    sent the recorded NG SETUP RESPONSE, Authentication Request, Security Mode Command, INITIAL CONTEXT SETUP REQUEST and
    Configuration Update Command. The model runs NG Setup and the registration on them and the reference AMF accepts every
    one of its six uplink messages: NGAP message / mandatory IEs / ids, SUCI and PLMN, RES* = XRES*, header types 4 and 2,
    MAC, NAS COUNT 0 and 1, completion. -/
theorem C01_accepted_witness :
    acceptedRun Crypto.prims Model.NetExt.goExt reg1Cfg reg1Abba reg1Choices reg1Dls false = true := reg1_accepted_run

end Stgutg.Props.C01
