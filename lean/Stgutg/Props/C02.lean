/-
  C02 — session life cycle for N UEs: establish, service request, release, deregister.

  Model: Model/Emulator.lean (`testMode`: the `stgutg.Min` clamps and the five loops of stg-utg.go's test mode over
         `registerUE`, `establishPDU`, `serviceRequest`, `releasePDU`, `deregisterUE`), tied to the code by the `convo-life`
         correspondence domain (real binary and in-process procedure calls, byte-identical uplink messages and reports).
  Spec:  Spec/Amf.lean (the reference AMF/SMF as a judge of the uplink transcript), Spec/NasSecurity.lean, Spec/SetupRequest.lean.

  The parts of the property that hold on their own, for ALL configurations / counts / choices:
    C02_generated_bounds       the loop bounds `gen script` extracts from stg-utg.go on every run are the expected Min clamps
    C02_prerequisites          all integer counts (negative, zero, above N), the extracted bounds: every invocation index of a
                               later loop is below the number of completed prerequisite procedures
    C02_lifecycle              a completed test-mode run: the UE list is CreateUE(imsi, 0..n-1) in order, no loop indexes beyond
                               it, and no procedure changes a UE's SUPI / RAN-UE-NGAP-ID / credentials / AMF-UE-NGAP-ID
    C02_ids                    distinct SUPIs and RAN-UE-NGAP-IDs for the created population (C16's domain)
    C02_count_unique           uplink NAS COUNTs of one UE under one key are pairwise distinct for < 2^24 messages, each message
                               is recovered by the conformant receiver under its COUNT (C06)
    C02_protected_step_accepted the reference AMF's NAS-security clause accepts the next protected message (one step)
    C02_reports                reported (UE IP, TEID, UPF IP) = what the network encoded (C12), for spec-built items
    C02_one_psi                one PDU session identity (1..15) in the 5GSM header, the UL NAS TRANSPORT IE and the NGAP response
                               (false before the F14 repair a0d23df: `uint8(supi mod 10^4)` vs `supi mod 10^4`)
  and the end-to-end statement "the judge accepts the model's whole transcript" (`C02_accepted_statement`) with a
  kernel-evaluated instance; the statement itself is proved, for N ≤ 10 000 UEs, arbitrary repetition counts and the downlink
  side built with the specification encoders (Spec/AmfDownlink.lean), as `C02_accepted_statement_spec` in
  Props/C02Statement.lean.
  The judge is also run on every real transcript (spec column of the `convo` op).
-/
import Stgutg.Proofs.Emulator
import Stgutg.Proofs.EmulatorWitness
import Stgutg.Props.C09

namespace Stgutg.Props.C02
open Stgutg Stgutg.Model.Emulator Stgutg.Proofs.Emulator Stgutg.Builders
open Stgutg.Model.NasProtect Stgutg.Proofs.NasProtect Stgutg.Spec.NasSecurity

open Stgutg.Model.FailStop in
/-- **C02_generated_bounds.** Table fact over the script `gen script` extracts from stg-utg.go on every check (variables
    inlined): the loop that calls `RegisterUE` runs `ue_registration` times, and the loops that call `EstablishPDU`,
    `ServiceRequest`, `ReleasePDU`, `DeregisterUE` are bounded by exactly these `stgutg.Min` expressions. An edit of a clamp
    in stg-utg.go (another operand, a dropped `Min`) changes the generated expression and breaks this theorem. -/
theorem C02_generated_bounds :
    loopBound "RegisterUE" = .cfg "Test_ue_registation" ∧
    loopBound "EstablishPDU" = .min (.cfg "Test_ue_registation") (.cfg "Test_ue_pdu_establishment") ∧
    loopBound "ServiceRequest" = .min (.min (.cfg "Test_ue_registation") (.cfg "Test_ue_pdu_establishment")) (.cfg "Test_ue_service") ∧
    loopBound "ReleasePDU" = .min (.min (.cfg "Test_ue_registation") (.cfg "Test_ue_pdu_establishment")) (.cfg "Test_ue_pdu_release") ∧
    loopBound "DeregisterUE" = .min (.cfg "Test_ue_registation") (.cfg "Test_ue_deregistration") := by decide +kernel

/-- the bounds test mode uses (the generated expressions, evaluated) are the clamps as one reads them in the source -/
theorem genNumbers_eq (c : Model.FailStop.Counts) :
    genNumbers c = numbers c.reg c.pdu c.svc c.rel c.dereg ∧ genRegistrations c = c.reg := by
  obtain ⟨h0, h1, h2, h3, h4⟩ := C02_generated_bounds
  simp [genNumbers, genRegistrations, h0, h1, h2, h3, h4, numbers, Model.FailStop.CountExpr.eval, Model.FailStop.Counts.get]

theorem goMin_le (x y : Int) : Model.FailStop.goMin x y ≤ x ∧ Model.FailStop.goMin x y ≤ y := by
  unfold Model.FailStop.goMin; split <;> omega

theorem goMin_toNat (x y : Int) : (Model.FailStop.goMin x y).toNat = min x.toNat y.toNat := by
  unfold Model.FailStop.goMin; split <;> omega

/-- **C02_prerequisites.** For all integer repetition counts — negative, zero, larger than the number of UEs — and the loop
    bounds extracted from the source: every invocation index `i` of the establishment loop is below the number of
    registrations, every index of the service request and release loops is below the number of establishments, every
    index of the de-registration loop is below the number of registrations: no procedure is attempted for a UE that has
    not completed its prerequisite. -/
theorem C02_prerequisites (c : Model.FailStop.Counts) (i : Nat) :
    let n := genNumbers c
    ((i : Int) < n.establish → (i : Int) < genRegistrations c) ∧
    ((i : Int) < n.service → (i : Int) < n.establish) ∧
    ((i : Int) < n.release → (i : Int) < n.establish) ∧
    ((i : Int) < n.deregister → (i : Int) < genRegistrations c) := by
  rw [(genNumbers_eq c).1, (genNumbers_eq c).2]
  exact ⟨fun h => Int.lt_of_lt_of_le h (goMin_le ..).1, fun h => Int.lt_of_lt_of_le h (goMin_le ..).1,
    fun h => Int.lt_of_lt_of_le h (goMin_le ..).1, fun h => Int.lt_of_lt_of_le h (goMin_le ..).1⟩

/-- the clamps are the specification's numbers: min(requested, completed prerequisites), never negative -/
theorem C02_numbers_are_min (c : Model.FailStop.Counts) :
    let n := genNumbers c
    n.establish.toNat = min c.reg.toNat c.pdu.toNat ∧ n.service.toNat = min n.establish.toNat c.svc.toNat ∧
    n.release.toNat = min n.establish.toNat c.rel.toNat ∧ n.deregister.toNat = min c.reg.toNat c.dereg.toNat := by
  rw [(genNumbers_eq c).1]
  exact ⟨goMin_toNat .., goMin_toNat .., goMin_toNat .., goMin_toNat ..⟩

example : genNumbers { reg := 2, pdu := 5, svc := 1, rel := 7, dereg := -3 }
    = { establish := 2, service := 1, release := 2, deregister := -3 } := by decide +kernel
/-- both `ue_pdu` and `ue_pdu_release` above the one registered UE: one release, not two -/
example : (genNumbers { reg := 1, pdu := 2, svc := 0, rel := 2, dereg := 1 }).release = 1 := by decide +kernel

theorem bind_ok {α β : Type} (m : M α) (f : α → M β) (w w' : World) (b : β) (h : (m >>= f) w = (w', .ok b)) :
    ∃ w1 a, m w = (w1, .ok a) ∧ f a w1 = (w', .ok b) := by
  rw [bind_apply] at h
  cases hm : m w with
  | mk w1 r =>
    rw [hm] at h
    cases r with
    | error e => simp only at h; injection h with _ h2; exact absurd h2 (by simp)
    | ok a => exact ⟨w1, a, rfl, h⟩

/-- **C02_lifecycle.** Whenever a test-mode run completes (whatever the peer sent): the UE list after the registration loop
    is `CreateUE(imsi, 0), …, CreateUE(imsi, n−1)` in order (n = the registration count, 0 if negative); each of the four later
    loops used only indices inside that list (no `ueList[i]` trap), in increasing order from 0; and after every loop each UE
    still has the SUPI, RAN-UE-NGAP-ID and credentials it was created with and the AMF-UE-NGAP-ID it was given at
    registration — the procedures only advance the NAS security state. -/
theorem C02_lifecycle (P : Prims) (E : Model.Convert.Ext) (cfg : Cfg) (w w' : World) (h : testMode P E cfg w = (w', .ok ())) :
    ∃ ues₀ ues₁ ues₂ ues₃ ues₄ : List Ue,
      ues₀.map (·.ctx) = (List.range cfg.reg.toNat).map (fun k : Nat => (createUE cfg (k : Int)).ctx) ∧
      ues₁.map ident = ues₀.map ident ∧ ues₂.map ident = ues₀.map ident ∧
      ues₃.map ident = ues₀.map ident ∧ ues₄.map ident = ues₀.map ident ∧
      (genNumbers (countsOf cfg)).establish.toNat ≤ ues₀.length ∧
      (genNumbers (countsOf cfg)).service.toNat ≤ ues₀.length ∧
      (genNumbers (countsOf cfg)).release.toNat ≤ ues₀.length ∧
      (genNumbers (countsOf cfg)).deregister.toNat ≤ ues₀.length := by
  unfold testMode at h
  obtain ⟨w1, _, _, h⟩ := bind_ok _ _ _ _ _ h
  obtain ⟨w2, ues₀, h0, h⟩ := bind_ok _ _ _ _ _ h
  obtain ⟨w3, ues₁, h1, h⟩ := bind_ok _ _ _ _ _ h
  obtain ⟨w4, ues₂, h2, h⟩ := bind_ok _ _ _ _ _ h
  obtain ⟨w5, ues₃, h3, h⟩ := bind_ok _ _ _ _ _ h
  obtain ⟨w6, ues₄, h4, _⟩ := bind_ok _ _ _ _ _ h
  have r0 := registerLoop_ok P E cfg _ _ _ _ _ _ h0
  obtain ⟨i1, l1⟩ := forUes_ok _ _ _ _ _ _ _ h1
  obtain ⟨i2, l2⟩ := forUes_ok _ _ _ _ _ _ _ h2
  obtain ⟨i3, l3⟩ := forUes_ok _ _ _ _ _ _ _ h3
  obtain ⟨i4, l4⟩ := forUes_ok _ _ _ _ _ _ _ h4
  -- a loop that ran `n` times from index 0 over a list as long as `ues₀` stayed inside it
  have inside {n : Nat} {a : List Ue} (l : n = 0 ∨ 0 + n ≤ a.length) (e : a.map ident = ues₀.map ident) : n ≤ ues₀.length := by
    have := congrArg List.length e
    simp only [List.length_map] at this
    omega
  refine ⟨ues₀, ues₁, ues₂, ues₃, ues₄, ?_, i1, i2.trans i1, i3.trans (i2.trans i1), i4.trans (i3.trans (i2.trans i1)),
    inside l1 rfl, inside l2 i1, inside l3 (i2.trans i1), inside l4 (i3.trans (i2.trans i1))⟩
  rw [r0, (genNumbers_eq (countsOf cfg)).2]; simp [List.range_eq_range', countsOf]

/-- **C02_ids.** The UEs test mode creates from one configured IMSI have pairwise distinct SUPIs and RAN-UE-NGAP-IDs
    (populations the IMSI digits accommodate, at most 10 000: C16), and by `C02_lifecycle` they keep them. -/
theorem C02_ids (cfg : Cfg) (h : Proofs.UeIdentity.DecimalImsi cfg.imsi) {n : Nat} (hfit : Proofs.UeIdentity.Fits cfg.imsi n)
    (hn : n ≤ 10000) {i j : Nat} (hi : i < n) (hj : j < n) (hij : i ≠ j) :
    (createUE cfg i).ctx.supi ≠ (createUE cfg j).ctx.supi ∧
    (createUE cfg i).ctx.ranUeNgapId ≠ (createUE cfg j).ctx.ranUeNgapId :=
  ⟨Props.C16.C16_supi_distinct h hfit hi hj hij _ _ _ _ _ _, (Props.C16.C16_ran_id_distinct h hn hi hj hij _ _ _ _ _ _).1⟩

/-- the hypotheses are satisfiable: the shipped IMSI "001010000000001" with six UEs -/
example : Proofs.UeIdentity.DecimalImsi [48, 48, 49, 48, 49, 48, 48, 48, 48, 48, 48, 48, 48, 48, 49] ∧
    Proofs.UeIdentity.Fits [48, 48, 49, 48, 49, 48, 48, 48, 48, 48, 48, 48, 48, 48, 49] 6 :=
  ⟨⟨by decide, by decide, by decide⟩, by unfold Proofs.UeIdentity.Fits; decide⟩

/-- the PDU session identity `(supiInt+14)%15 + 1` for every SUPI number `strconv.Atoi` can return without the sum
    overflowing (every decimal SUPI of up to 18 digits): a value in 1..15 -/
theorem pduId_range (supiInt : Int) (h0 : 0 ≤ supiInt) (h63 : supiInt + 14 < 2 ^ 63) :
    pduIdOf supiInt = (supiInt + 14) % 15 + 1 ∧ 1 ≤ pduIdOf supiInt ∧ pduIdOf supiInt ≤ 15 := by
  have hw : Model.UeIdentity.wrap64 (supiInt + 14) = supiInt + 14 := by
    unfold Model.UeIdentity.wrap64; omega
  have e : pduIdOf supiInt = (supiInt + 14) % 15 + 1 := by
    unfold pduIdOf; rw [hw, Int.tmod_eq_emod_of_nonneg (by omega)]
  refine ⟨e, ?_, ?_⟩ <;> rw [e] <;> omega

/-- **C02_one_psi.** For every SUPI (history: before commit a0d23df of /repo the identity was `supi mod 10^4`, cast to
    `uint8` for NAS only — finding F14 — and the statement was false, e.g. 44 vs 300 for a SUPI ending in 0300) the value
    `psi` = `(supi+14) mod 15 + 1` ∈ 1..15 is used everywhere: `uint8(pduId)` is `psi`; (a) the UL NAS TRANSPORT built by
    `GetUlNasTransport_PduSessionEstablishmentRequest(uint8(pduId), …)` parses, with the standard's parser, to a message
    whose PDU session ID IE (0x12) is `psi` and whose payload container holds a 5GSM message with `psi` in its header (C09);
    (b) the PDU SESSION RESOURCE SETUP RESPONSE built by `GetPDUSessionResourceSetupResponse(amf, ran, pduId, ip)` carries
    `psi` as the PDU Session ID of its item (C13). -/
theorem C02_one_psi (supiInt : Int) (h0 : 0 ≤ supiInt) (h63 : supiInt + 14 < 2 ^ 63)
    (sn : Option (Nat × UInt8 × UInt8 × UInt8)) (hs : ∀ x, sn = some x → x.1 < 256)
    (E : Model.Convert.Ext) (plmn : Bytes) (amf ran gtp : Aper.Val) (pdu : Aper.Val)
    (hb : Wrapper.pdu E .GetPDUSessionResourceSetupResponse plmn [amf, ran, .int (pduIdOf supiInt), gtp] = .ok pdu) :
    let psi := (pduIdOf supiInt).toNat
    1 ≤ psi ∧ psi ≤ 15 ∧ psi8 (pduIdOf supiInt) = UInt8.ofNat psi ∧ ((psi : Nat) : Int) = pduIdOf supiInt ∧
    (∃ w bs, Props.C09.wireOf Gen.Nas.layout_ULNASTransport = some w ∧
      Nas.Ctor.encodeWith Gen.Nas.layout_ULNASTransport (Nas.Ctor.ulEstablishment (psi8 (pduIdOf supiInt)) 1 internet
        (sn.map fun x => ⟨UInt8.ofNat x.1, [x.2.1, x.2.2.1, x.2.2.2]⟩)) = .ok bs ∧
      Spec.Ts24501.parse w bs = some (Spec.Ts24501.Intended.ulNasTransport
        ([0x2E, UInt8.ofNat psi, 0x01, 0xC1, 0xFF, 0xFF, 0x91, 0x7B, 0x00, 0x0A] ++ Spec.Ts24501.Intended.pco) psi (some 1) internet
        (sn.map fun x => (x.1, [x.2.1, x.2.2.1, x.2.2.2])))) ∧
    (∃ v, Spec.NgapView.ieValuesById pdu (Spec.Ts38413.iePDUSessionResourceSetupListSURes : Int) = some [some v] ∧
      Spec.NgapView.Val.at [0, 0, 0, 0] v = some (.int (pduIdOf supiInt))) := by
  obtain ⟨e, hlo, hhi⟩ := pduId_range supiInt h0 h63
  have hpsi : (pduIdOf supiInt).toNat < 256 := by omega
  have hcast : (((pduIdOf supiInt).toNat : Nat) : Int) = pduIdOf supiInt := by omega
  have h8 : psi8 (pduIdOf supiInt) = UInt8.ofNat (pduIdOf supiInt).toNat := by
    unfold psi8; rw [Int.emod_eq_of_lt (by omega) (by omega)]
  refine ⟨by omega, by omega, h8, hcast, ?_, ?_⟩
  · rw [h8]
    have := Props.C09.C09_ctor_ulEstablishment (pduIdOf supiInt).toNat 1 internet sn hpsi (by decide)
      ⟨by decide, by decide⟩ hs
    exact this
  · have hsh := Proofs.Builders.build_shaped E tPDUSessionResourceSetupResponseForRegistrationTest plmn _ pdu hb
    obtain ⟨id, v, hid, hv, hat⟩ := Props.C13.C13_carries_psi E _ (mem_allTable_hand (by simp [handTable])) 2 (by decide) plmn _ pdu hsh
      (.int (pduIdOf supiInt)) rfl
    have : id = Spec.Ts38413.iePDUSessionResourceSetupListSURes := by
      simp [Spec.Ts38413.psiItemIe, tPDUSessionResourceSetupResponseForRegistrationTest] at hid
      exact hid.symm
    subst this
    exact ⟨v, hv, hat⟩

/-- the same identity in all three procedures: `EstablishPDU`, `ServiceRequest` and `ReleasePDU` compute it from the SUPI
    alone, so one UE uses one PDU session identity throughout -/
example : pduIdOf 1010000000300 = 5 ∧ pduIdOf 1010000000001 = 6 ∧ pduIdOf 0 = 15 := by decide

/-- a decoded PDU SESSION RESOURCE SETUP REQUEST whose setup list `FindPDUSessionResourceSetupListSUReq` finds and whose
    first item carries these octets as NAS-PDU and transfer -/
def CarriesItem (msg : Aper.Val) (nasPdu transfer : Bytes) : Prop :=
  ∃ l item rest, findSetupList msg = some l ∧ field 0 l = some (.slice (item :: rest)) ∧
    ((field 1 item).bind deref |>.bind (field 0)) = some (.octs nasPdu) ∧ field 3 item = some (.octs transfer)

open Stgutg.Spec.SetupRequest in
/-- **C02_reports.** When the item's NAS-PDU is a protected DL NAS TRANSPORT carrying any well-formed PDU SESSION
    ESTABLISHMENT ACCEPT of table 8.3.2.1.1 with the IPv4 address `ip`, and its transfer is any well-formed
    PDUSessionResourceSetupRequestTransfer with the GTP tunnel (`tla`, `teid`), `EstablishPDU` reports exactly
    (`ip`, `teid`, `tla`) — the values the network assigned (C12 through the glue of `EstablishPDU`). -/
theorem C02_reports (msg : Aper.Val) (h : SecHeader) (pct : UInt8) (a : Accept) (psi2 : Option UInt8) (addInfo : Option Bytes)
    (cause5gmm backoff : Option UInt8) (ip : Bytes) (t : Transfer)
    (hmac : h.mac.length = 4) (hwf : a.WellFormed) (haddr : a.pduAddress = some (pduAddressV4 ip)) (hip : ip.length = 4)
    (hlen : a.encode.length < 65530) (htwf : t.WellFormed) (h4 : t.tla.length = 4)
    (hc : CarriesItem msg (nasPdu h pct a psi2 addInfo cause5gmm backoff) t.encode) :
    extractReport msg = .ok { ip := ip, teid := beNat t.teid, upf := t.tla } := by
  obtain ⟨l, item, rest, h1, h2, h3, h4'⟩ := hc
  unfold extractReport
  simp only [h1, h2, h3, h4']
  rw [Props.C12.C12_ip_pdu h pct a psi2 addInfo cause5gmm backoff ip [] hmac hwf haddr hip hlen,
    Props.C12.C12_teid_upf t [] htwf h4]

/-- a setup request without a setup list, or with an empty one, ends in `ManageError` (exit 1), not in a trap -/
theorem C02_no_list_is_an_error (msg : Aper.Val) (h : findSetupList msg = none) : extractReport msg = .error .exit1 := by
  unfold extractReport; rw [h]

/-- **C02_count_unique.** For any run of fewer than 2^24 protected uplink messages of one UE under one key (any plain
    messages, header types 1..4, no new context in between, from any stored counter word): message `k` leaves under NAS COUNT
    (start + k) mod 2^24, the conformant receiver holding the same keys recovers its plain message under exactly that COUNT,
    and the COUNTs of any two messages of the run differ — no uplink NAS COUNT is used twice under the same key. -/
theorem C02_count_unique (P : Prims) (hP : PrimsOk P) (ue : UeSec) (ops : List UlOp) (hs : Supported ue)
    (hsc : ∀ op ∈ ops, UlInScope op) (hall : ∀ op ∈ ops, op.ctxAvail = true ∧ op.newCtx = false)
    (hlen : ops.length ≤ 2 ^ 24) (i j : Nat) (opi opj : UlOp) (hij : i < j)
    (hi : ops[i]? = some opi) (hj : ops[j]? = some opj) :
    ∃ ci cj oi oj, (runEncode P ue ops).2[i]? = some (.ok oi) ∧ (runEncode P ue ops).2[j]? = some (.ok oj) ∧
      receive P (ctxOf ue) uplink ci oi = some opi.plain ∧ receive P (ctxOf ue) uplink cj oj = some opj.plain ∧
      ci = (cval ue.ulCount + i) % 2 ^ 24 ∧ cj = (cval ue.ulCount + j) % 2 ^ 24 ∧ ci ≠ cj := by
  obtain ⟨ci, oi, h1, h2, h3⟩ := Props.C06.receiver_recovers_plain P hP ue ops hs hsc i opi hi (hall opi (List.mem_of_getElem? hi)).1
  obtain ⟨cj, oj, g1, g2, g3⟩ := Props.C06.receiver_recovers_plain P hP ue ops hs hsc j opj hj (hall opj (List.mem_of_getElem? hj)).1
  have hcounts := ueRun_counts P (ctxOf ue) (ops.map toSend) (cval ue.ulCount) (cval_lt _) (by
    intro m hm
    obtain ⟨op, hop, rfl⟩ := List.mem_map.mp hm
    exact hall op hop)
  have hjl : j < ops.length := (List.getElem?_eq_some_iff.mp hj).1
  have key : ∀ k c o, k < ops.length → (ueRun P (ctxOf ue) ⟨cval ue.ulCount⟩ (ops.map toSend)).2[k]? = some (some c, some o) →
      c = (cval ue.ulCount + k) % 2 ^ 24 := by
    intro k c o hk hk2
    have := congrArg (·[k]?) hcounts
    simp only [List.getElem?_map, hk2, Option.map_some, List.length_map] at this
    rw [List.getElem?_range hk] at this
    simpa using this
  have ei := key i ci oi (by omega) h2
  have ej := key j cj oj hjl g2
  refine ⟨ci, cj, oi, oj, h1, g1, h3, g3, ei, ej, ?_⟩
  rw [ei, ej]
  omega

/-- the hypotheses are satisfiable: the six protected messages of one UE's life after Security Mode Complete -/
example : ∃ ops : List UlOp, ops.length = 6 ∧ (∀ op ∈ ops, UlInScope op) ∧ (∀ op ∈ ops, op.ctxAvail = true ∧ op.newCtx = false) :=
  ⟨List.replicate 6 { plain := [0x7e, 0, 0x43], epd := 0x7e, sht := 2, ctxAvail := true, newCtx := false }, rfl,
   fun op h => by rw [List.eq_of_mem_replicate h]; exact fun _ => rfl,
   fun op h => by rw [List.eq_of_mem_replicate h]; exact ⟨rfl, rfl⟩⟩

/-- **C02_protected_step_accepted.** The reference AMF's NAS-security clause on the next protected uplink message after
    registration (estimate of TS 24.501 4.4.3.1, strictly above the last accepted COUNT, never used before, MAC under the
    network-derived keys): if the UE context holds the network's keys, the AMF last accepted COUNT `c`, the UE's stored UL
    NAS COUNT is `c + 1` and every COUNT used so far is ≤ `c`, then what `EncodeNasPduWithSecurity(ue, plain, sht, true,
    false)` returns is accepted with COUNT `c + 1` and plain message `plain`; afterwards the same invariant holds with
    `c + 1` (so the clause accepts the whole history, message after message, up to COUNT 2^24 − 2). -/
theorem C02_protected_step_accepted (P : Prims) (hP : PrimsOk P) (sec : UeSec) (u : Spec.Amf.UeSt) (hin : InStep sec u)
    (c : Nat) (hlast : u.last = some c) (hcnt : cval sec.ulCount = c + 1) (hc : c + 2 < 2 ^ 24)
    (hused : ∀ x ∈ u.used, x ≤ c)
    (plain : Bytes) (sht : UInt8) (allowed : List Nat) (hsht : sht = 1 ∨ sht = 2) (hall : allowed.contains sht.toNat = true) :
    ∃ out, (Model.NasProtect.encodeNasPduWithSecurity P sec plain sht true false).2 = .ok out ∧
      Spec.Amf.receiveUl P u false allowed out = .ok (plain, c + 1) ∧
      InStep (Model.NasProtect.encodeNasPduWithSecurity P sec plain sht true false).1 (Spec.Amf.accepted u sht.toNat (c + 1)) ∧
      (Spec.Amf.accepted u sht.toNat (c + 1)).last = some (c + 1) ∧
      cval (Model.NasProtect.encodeNasPduWithSecurity P sec plain sht true false).1.ulCount = c + 2 ∧
      ∀ x ∈ (Spec.Amf.accepted u sht.toNat (c + 1)).used, x ≤ c + 1 := by
  have hpt : protectedType sht.toNat = true := by rcases hsht with rfl | rfl <;> rfl
  have hnc : newContext sht.toNat = false := by rcases hsht with rfl | rfl <;> rfl
  obtain ⟨out, ho, hb1, hb6, hr, hin', hc'⟩ := protected_step P hP sec u hin plain sht false hpt
  simp only [Bool.false_eq_true, if_false] at hb6 hr hc'
  rw [hcnt] at hb6 hr hc'
  refine ⟨out, ho, ?_, ?_, ?_, ?_, ?_⟩
  · apply receiveUl_of_receive P u false allowed out plain (c + 1) (by rw [hb1]; exact hall) _ _ hr
    · simp only [Spec.Amf.expectedCount, hb1, hnc, Bool.false_eq_true, if_false, hlast, Option.map_some, hb6]
      have := estimate_next c (by omega)
      unfold sqnOf at this
      rw [this]
    · simp only [Spec.Amf.fresh, hb1, hnc, hlast, Bool.false_or, Bool.and_eq_true, decide_eq_true_eq, Bool.not_eq_true']
      refine ⟨by omega, ?_⟩
      cases hcon : u.used.contains (c + 1) with
      | false => rfl
      | true =>
        have := hused (c + 1) (by simpa using hcon)
        omega
  · obtain ⟨h1, h2⟩ := hin'
    refine ⟨?_, h2⟩
    rw [h1]
    simp [Spec.Amf.accepted, hnc, Spec.Amf.ctxOf]
  · simp [Spec.Amf.accepted, hnc]
  · rw [hc']; omega
  · intro x hx
    simp only [Spec.Amf.accepted, hnc, Bool.false_eq_true, if_false, List.mem_cons] at hx
    rcases hx with rfl | hx
    · omega
    · have := hused x hx; omega

/-- what C02 asks of the model as a whole: for every configuration and every AMF behaviour `dl` that answers as a conformant
    AMF does, the reference AMF judges the model's transcript `accept`. `C02_accepted_statement_spec` (Props/C02Statement.lean)
    proves it for `dl` = the specified downlink of Spec/AmfDownlink.lean (through `C02_accepted_n`, Props/C02AcceptedN.lean);
    the check also evaluates the judge on real transcripts. -/
def C02_accepted_statement (P : Prims) (E : Model.Convert.Ext) (dl : Spec.Amf.Cfg → List Spec.Amf.Choice → List Bytes)
    (toSpec : Cfg → Spec.Amf.Cfg) (WF : Cfg → List Spec.Amf.Choice → Prop) : Prop :=
  ∀ cfg chs, WF cfg chs →
    let t := emulate P E cfg (dl (toSpec cfg) chs)
    Spec.Amf.judge P true (toSpec cfg) chs t.uls (some (t.reports.map fun r => { ip := r.ip, teid := r.teid, upf := r.upf }))
      (t.outcome == .completed) = .accept

open Stgutg.Proofs.EmulatorWitness in
/-- the primitives of the witness below satisfy every hypothesis the theorems of C01 / C02 make about primitives -/
theorem cheapPrims_ok : PrimsOk cheapPrims ∧ Spec.Ts35206.BlockCipher cheapPrims.aes ∧ Proofs.KeyDerivation.MacLen cheapPrims.hmac :=
  ⟨⟨⟨fun _ iv n => List.replicate n (iv.getD 4 0 ||| 0x80), fun _ _ _ => by simp, fun _ _ _ => rfl⟩, fun _ _ => by simp [cheapPrims]⟩,
   fun k x hk hx => by simp only [cheapPrims]; rw [Proofs.Hex.xorBytes_length]; omega,
   fun _ _ => by simp [cheapPrims]⟩

open Stgutg.Proofs.EmulatorWitness in
/-- **C02_accepted_witness.** The end-to-end statement on a concrete conversation, evaluated by the Lean kernel (no
    `native_decide`; primitives `cheapPrims`, which satisfy the hypotheses of all theorems above): IMSI 63382321230004 (MNC 823,
    3 digits), OP only, gNB id of 28 bits, AMF-UE-NGAP-ID 900013228284 (40 bits), one UE, all counts 1 — NG
    Setup, registration, PDU session establishment, service request, release, de-registration against the recorded downlink
    messages (the setup request assigns UE address, TEID and UPF address). The reference AMF/SMF accepts all fifteen uplink
    messages of the model — ids, one PSI in 1..15 everywhere, assigned PTI, prerequisite order, COUNT 0..6 each used once,
    MAC — finds the expected number of procedures completed and the reported triple equal to the assigned one. -/
theorem C02_accepted_witness :
    acceptedRun cheapPrims Model.NetExt.goExt life1Cfg life1Abba life1Choices life1Dls true = true := life1_accepted_run

end Stgutg.Props.C02
