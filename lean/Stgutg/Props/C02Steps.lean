/-
  C01 / C02 — the reference AMF's `step` (Spec/Amf.lean) on every uplink message the emulator sends for a UE after its Registration
  Request: the four remaining messages of registration and the nine of PDU session establishment, service request, PDU session
  release and de-registration.

  The messages are a table `Ev`: how the emulator makes the octets (`Emits`: constructor of C09, `EncodeNasPduWithSecurity`, wrapper
  of C13, over the arguments `Args` of Props/C02Calls.lean), under which prerequisite on its record of the UE the judge takes the
  message silently (`Ev.pre`), the record afterwards (`Ev.next`) and what is counted (`Ev.bump`). ONE statement, `step_event`: for ALL
  arguments in range, a message of the table made from a security state in step with the judge's record (`Sync`) raises no clause —
  NGAP (Proofs/BuildersJudge.lean, BuildersLife.lean), NAS security (`step_protected`, `Live.send`: C06), contents and prerequisites
  of the 5GMM / 5GSM message (the message as sent, `Props.C09.Sent`, + the handler lemmas `onProtected_*`, `onSession_*`) — moves the
  record as `Ev.next` says, and leaves emulator and judge in step. It is proved row by row (`C01_step_*`, `C02_step_*`: one theorem
  per message, in the table's terms); Props/C02Life.lean folds it over lists of messages.
-/
import Stgutg.Props.C01Steps
import Stgutg.Props.C02
import Stgutg.Props.C02Calls
import Stgutg.Proofs.BuildersLife

namespace Stgutg.Props.C02
open Stgutg Stgutg.Model.Emulator Stgutg.Proofs.Emulator Stgutg.Builders
open Stgutg.Model.NasProtect Stgutg.Proofs.NasProtect Stgutg.Spec.NasSecurity
open Stgutg.Spec.NgapView Stgutg.Spec.Ts38413 Stgutg.Proofs.BuildersJudge Stgutg.Proofs.BuildersLife

theorem find_ran (s : Spec.Amf.St) (ran : Int) (u : Spec.Amf.UeSt) (hu : s.ues.find? (·.ran == ran) = some u) : u.ran = ran := by
  have := List.find?_some hu
  simpa using this

theorem ueByRan_of (s : Spec.Amf.St) (pdu : Aper.Val) (ran : Int) (u : Spec.Amf.UeSt)
    (hran : Spec.Amf.ieInt pdu ieRANUENGAPID = some ran) (hu : s.ues.find? (·.ran == ran) = some u) :
    Spec.Amf.ueByRan s pdu = some u ∧ u.ran = ran :=
  ⟨by unfold Spec.Amf.ueByRan; rw [hran]; exact hu, find_ran s ran u hu⟩

theorem checkIds_ok (s : Spec.Amf.St) (k : Nat) (pdu : Aper.Val) (u : Spec.Amf.UeSt) (amf ran : Int)
    (hamf : Spec.Amf.ieInt pdu ieAMFUENGAPID = some amf) (hran : Spec.Amf.ieInt pdu ieRANUENGAPID = some ran)
    (hua : (u.ch.amfUeNgapId : Int) = amf) (hur : u.ran = ran) : Spec.Amf.checkIds s k pdu u = s := by
  unfold Spec.Amf.checkIds
  rw [hamf, hran, hua, hur]
  simp

theorem step_setupResponse (P : Prims) (cfg : Spec.Amf.Cfg) (chs : List Spec.Amf.Choice) (s : Spec.Amf.St) (k : Nat)
    (b : Bytes) (pdu : Aper.Val) (amf ran psi : Int) (hd : Spec.Amf.decodeNgap b = some pdu)
    (h1 : pduPresent pdu = some ((msgClass .PDUSessionResourceSetupResponse).index + 1))
    (h2 : pduProc pdu = some (procCode .PDUSessionResourceSetupResponse : Int))
    (hmiss : Spec.Amf.missingMandatory .PDUSessionResourceSetupResponse pdu = none)
    (hamf : Spec.Amf.ieInt pdu ieAMFUENGAPID = some amf) (hran : Spec.Amf.ieInt pdu ieRANUENGAPID = some ran)
    (hpsi : Spec.Amf.iePsis pdu iePDUSessionResourceSetupListSURes = some [psi])
    (u : Spec.Amf.UeSt) (hu : s.ues.find? (·.ran == ran) = some u) (hua : (u.ch.amfUeNgapId : Int) = amf)
    (hup : (u.psi : Int) = psi) (hsess : u.sess = .requested) :
    Spec.Amf.step P cfg chs s k b =
      { s.setUe { u with sess := .established } with established := s.established ++ [u.j] } := by
  have hmsg := msgOf_of pdu .PDUSessionResourceSetupResponse h1 h2 (by decide)
  obtain ⟨hby, hck⟩ := known_ue s k pdu amf ran hamf hran u hu hua
  open_step hd
  simp only [hmsg, hmiss, hby, hck, hpsi, hup, hsess]
  simp

theorem step_releaseResponse (P : Prims) (cfg : Spec.Amf.Cfg) (chs : List Spec.Amf.Choice) (s : Spec.Amf.St) (k : Nat)
    (b : Bytes) (pdu : Aper.Val) (amf ran psi : Int) (hd : Spec.Amf.decodeNgap b = some pdu)
    (h1 : pduPresent pdu = some ((msgClass .PDUSessionResourceReleaseResponse).index + 1))
    (h2 : pduProc pdu = some (procCode .PDUSessionResourceReleaseResponse : Int))
    (hmiss : Spec.Amf.missingMandatory .PDUSessionResourceReleaseResponse pdu = none)
    (hamf : Spec.Amf.ieInt pdu ieAMFUENGAPID = some amf) (hran : Spec.Amf.ieInt pdu ieRANUENGAPID = some ran)
    (hpsi : Spec.Amf.iePsis pdu iePDUSessionResourceReleasedListRelRes = some [psi])
    (u : Spec.Amf.UeSt) (hu : s.ues.find? (·.ran == ran) = some u) (hua : (u.ch.amfUeNgapId : Int) = amf)
    (hup : (u.psi : Int) = psi) (r c : Bool) (hsess : u.sess = .releasing r c) :
    Spec.Amf.step P cfg chs s k b =
      ({ s with releases := if c then s.releases + 1 else s.releases } : Spec.Amf.St).setUe
        { u with sess := if c then .released else .releasing true c } := by
  have hmsg := msgOf_of pdu .PDUSessionResourceReleaseResponse h1 h2 (by decide)
  obtain ⟨hby, hck⟩ := known_ue s k pdu amf ran hamf hran u hu hua
  open_step hd
  simp only [hmsg, hmiss, hby, hck, hpsi, hup, hsess]
  simp

theorem step_ueContextReleaseComplete (P : Prims) (cfg : Spec.Amf.Cfg) (chs : List Spec.Amf.Choice) (s : Spec.Amf.St) (k : Nat)
    (b : Bytes) (pdu : Aper.Val) (amf ran : Int) (hd : Spec.Amf.decodeNgap b = some pdu)
    (h1 : pduPresent pdu = some ((msgClass .UEContextReleaseComplete).index + 1))
    (h2 : pduProc pdu = some (procCode .UEContextReleaseComplete : Int))
    (hmiss : Spec.Amf.missingMandatory .UEContextReleaseComplete pdu = none)
    (hamf : Spec.Amf.ieInt pdu ieAMFUENGAPID = some amf) (hran : Spec.Amf.ieInt pdu ieRANUENGAPID = some ran)
    (u : Spec.Amf.UeSt) (hu : s.ues.find? (·.ran == ran) = some u) (hua : (u.ch.amfUeNgapId : Int) = amf)
    (hreg : u.reg = .deregistering) :
    Spec.Amf.step P cfg chs s k b = { s.setUe { u with reg := .deregistered } with deregs := s.deregs + 1 } := by
  have hmsg := msgOf_of pdu .UEContextReleaseComplete h1 h2 (by decide)
  obtain ⟨hby, hck⟩ := known_ue s k pdu amf ran hamf hran u hu hua
  open_step hd
  simp only [hmsg, hmiss, hby, hck, hreg]
  simp

theorem step_icsResponseSvc (P : Prims) (cfg : Spec.Amf.Cfg) (chs : List Spec.Amf.Choice) (s : Spec.Amf.St) (k : Nat)
    (b : Bytes) (pdu : Aper.Val) (amf ran psi : Int) (hd : Spec.Amf.decodeNgap b = some pdu)
    (h1 : pduPresent pdu = some ((msgClass .InitialContextSetupResponse).index + 1))
    (h2 : pduProc pdu = some (procCode .InitialContextSetupResponse : Int))
    (hmiss : Spec.Amf.missingMandatory .InitialContextSetupResponse pdu = none)
    (hamf : Spec.Amf.ieInt pdu ieAMFUENGAPID = some amf) (hran : Spec.Amf.ieInt pdu ieRANUENGAPID = some ran)
    (hpsi : Spec.Amf.iePsis pdu iePDUSessionResourceSetupListCxtRes = some [psi])
    (u : Spec.Amf.UeSt) (hu : s.ues.find? (·.ran == ran) = some u) (hua : (u.ch.amfUeNgapId : Int) = amf)
    (hup : (u.psi : Int) = psi) (hsvc : u.svcPending = true) :
    Spec.Amf.step P cfg chs s k b = { s.setUe { u with svcPending := false } with services := s.services + 1 } := by
  have hmsg := msgOf_of pdu .InitialContextSetupResponse h1 h2 (by decide)
  obtain ⟨hby, hck⟩ := known_ue s k pdu amf ran hamf hran u hu hua
  open_step hd
  simp only [hmsg, hmiss, hby, hck, hpsi, hup, hsvc]
  simp

theorem step_initialUEMessage_protected (P : Prims) (cfg : Spec.Amf.Cfg) (chs : List Spec.Amf.Choice) (s : Spec.Amf.St) (k : Nat)
    (b : Bytes) (pdu : Aper.Val) (ran : Int) (nas : Bytes) (hd : Spec.Amf.decodeNgap b = some pdu)
    (h1 : pduPresent pdu = some ((msgClass .InitialUEMessage).index + 1))
    (h2 : pduProc pdu = some (procCode .InitialUEMessage : Int))
    (hmiss : Spec.Amf.missingMandatory .InitialUEMessage pdu = none)
    (hran : Spec.Amf.ieInt pdu ieRANUENGAPID = some ran) (hnas : Spec.Amf.ieOcts pdu ieNASPDU = some nas)
    (hsetup : s.ngSetup = true) (hprot : (Spec.Amf.byteAt nas 1 % 16 == 0) = false)
    (u : Spec.Amf.UeSt) (hu : s.ues.find? (·.ran == ran) = some u) :
    Spec.Amf.step P cfg chs s k b = Spec.Amf.onProtectedUplink P cfg s k u true nas := by
  have hmsg := msgOf_of pdu .InitialUEMessage h1 h2 (by decide)
  have hby := (ueByRan_of s pdu ran u hran hu).1
  open_step hd
  simp only [hmsg, hmiss, hsetup, hnas, hprot, if_true, Bool.false_eq_true, if_false]
  rw [hby]

/-- the emulator's context holds the network's keys, its UL NAS COUNT is one above the last COUNT the AMF accepted, and every
    COUNT used under the keys is at most that one (`C02_protected_step_accepted`'s invariant) -/
structure Live (sec : UeSec) (u : Spec.Amf.UeSt) (c : Nat) : Prop where
  hin : InStep sec u
  hlast : u.last = some c
  hcnt : cval sec.ulCount = c + 1
  hused : ∀ x ∈ u.used, x ≤ c

theorem Live.congr {sec : UeSec} {u u' : Spec.Amf.UeSt} {c : Nat} (h : Live sec u c) (h1 : u'.aka = u.aka)
    (h2 : u'.last = u.last) (h3 : u'.used = u.used) : Live sec u' c := by
  obtain ⟨⟨a, b⟩, hl, hc, hu⟩ := h
  refine ⟨⟨?_, b⟩, by rw [h2]; exact hl, hc, by rw [h3]; exact hu⟩
  rw [a]; simp [Spec.Amf.ctxOf, h1]

/-- `[2]` and `[1, 2]` are the security header types `Spec.Amf.onProtectedUplink` admits after registration in UPLINK NAS
    TRANSPORT and in INITIAL UE MESSAGE -/
theorem Live.send (P : Prims) (hP : PrimsOk P) {sec : UeSec} {u : Spec.Amf.UeSt} {c : Nat} (h : Live sec u c)
    (hc : c + 2 < 2 ^ 24) (plain : Bytes) :
    ∃ o, (Model.NasProtect.encodeNasPduWithSecurity P sec plain 2 true false).2 = .ok o ∧ Spec.Amf.byteAt o 1 = 2 ∧
      Spec.Amf.receiveUl P u false [2] o = .ok (plain, c + 1) ∧
      Spec.Amf.receiveUl P u false [1, 2] o = .ok (plain, c + 1) ∧
      Live (Model.NasProtect.encodeNasPduWithSecurity P sec plain 2 true false).1 (Spec.Amf.accepted u 2 (c + 1)) (c + 1) := by
  obtain ⟨o, ho, hr, hin', hl', hc', hu'⟩ :=
    C02_protected_step_accepted P hP sec u h.hin c h.hlast h.hcnt hc h.hused plain 2 [2] (.inr rfl) rfl
  obtain ⟨o2, ho2, hr2, _⟩ :=
    C02_protected_step_accepted P hP sec u h.hin c h.hlast h.hcnt hc h.hused plain 2 [1, 2] (.inr rfl) rfl
  obtain ⟨o3, ho3, hb1, _⟩ := protected_step P hP sec u h.hin plain 2 false rfl
  rw [ho] at ho2 ho3
  cases ho2; cases ho3
  exact ⟨o, ho, hb1, hr, hr2, hin', hl', hc', hu'⟩

/-- the emulator's context holds the network's keys; once the AMF has accepted a COUNT, `Live` holds for the last accepted one.
    (`Live` with the COUNT read from the judge's record: also true before SECURITY MODE COMPLETE starts the count.) -/
def Sync (sec : UeSec) (u : Spec.Amf.UeSt) : Prop :=
  InStep sec u ∧ ∀ c, u.last = some c → cval sec.ulCount = c + 1 ∧ ∀ x ∈ u.used, x ≤ c

theorem sync_iff_live (sec : UeSec) (u : Spec.Amf.UeSt) (c : Nat) : Live sec u c ↔ Sync sec u ∧ u.last = some c :=
  ⟨fun ⟨h1, h2, h3, h4⟩ => ⟨⟨h1, fun c' hc' => by cases h2.symm.trans hc'; exact ⟨h3, h4⟩⟩, h2⟩,
   fun ⟨⟨h1, h2⟩, h3⟩ => ⟨h1, h3, (h2 c h3).1, (h2 c h3).2⟩⟩

/-- the COUNT under which the next protected message that takes no new context into use is accepted -/
def nextCount (u : Spec.Amf.UeSt) : Nat := match u.last with | some l => l + 1 | none => 0

theorem setUe_setUe (s : Spec.Amf.St) (a b : Spec.Amf.UeSt) (h : a.j = b.j) : (s.setUe a).setUe b = s.setUe b := by
  simp only [Spec.Amf.St.setUe, List.map_map]
  congr 1
  apply List.map_congr_left
  intro x _
  simp only [Function.comp]
  by_cases hx : (x.j == a.j) = true
  · have hx' : (x.j == b.j) = true := by rw [← h]; exact hx
    simp only [hx', if_true, h, beq_self_eq_true]
  · have hx' : (x.j == b.j) = false := by rw [← h]; simpa using hx
    simp only [Bool.not_eq_true] at hx
    simp only [hx, hx', Bool.false_eq_true, if_false]

theorem setUe_setUe_rel (s : Spec.Amf.St) (a b : Spec.Amf.UeSt) (X : Nat) (h : a.j = b.j) :
    ({ s.setUe a with releases := X } : Spec.Amf.St).setUe b = { s.setUe b with releases := X } := by
  have := congrArg Spec.Amf.St.ues (setUe_setUe s a b h)
  simp only [Spec.Amf.St.setUe] at this ⊢
  rw [this]

theorem setUe_find (s : Spec.Amf.St) (ran : Int) (u u' : Spec.Amf.UeSt) (hu : s.ues.find? (·.ran == ran) = some u)
    (hj : u'.j = u.j) (hr : u'.ran = ran) : (s.setUe u').ues.find? (·.ran == ran) = some u' := by
  simp only [Spec.Amf.St.setUe]
  generalize s.ues = l at hu
  induction l with
  | nil => simp at hu
  | cons x xs ih =>
    simp only [List.find?_cons] at hu
    simp only [List.map_cons, List.find?_cons]
    by_cases hx : (x.ran == ran) = true
    · rw [hx] at hu
      cases hu
      simp [hj, hr]
    · simp only [hx] at hu
      by_cases hxj : (x.j == u'.j) = true
      · simp [hxj, hr]
      · simp only [hxj, Bool.false_eq_true, if_false, hx]
        exact ih hu

theorem setUe_find_other (s : Spec.Amf.St) (ran' : Int) (v u' : Spec.Amf.UeSt) (hv : s.ues.find? (·.ran == ran') = some v)
    (hr : u'.ran ≠ ran') (hj : v.j ≠ u'.j) : (s.setUe u').ues.find? (·.ran == ran') = some v := by
  simp only [Spec.Amf.St.setUe]
  generalize s.ues = l at hv
  induction l with
  | nil => simp at hv
  | cons x xs ih =>
    simp only [List.find?_cons] at hv
    simp only [List.map_cons, List.find?_cons]
    by_cases hx : (x.ran == ran') = true
    · have hxv : x = v := by simpa [hx] using hv
      subst hxv
      have : (x.j == u'.j) = false := by simpa using hj
      simp only [this, Bool.false_eq_true, if_false, hx]
    · simp only [hx] at hv
      by_cases hxj : (x.j == u'.j) = true
      · have : (u'.ran == ran') = false := by simpa using hr
        simp only [hxj, if_true, this]
        exact ih hv
      · simp only [hxj, Bool.false_eq_true, if_false, hx]
        exact ih hv

theorem registered_ne_smcSent : (Spec.Amf.Reg.registered == Spec.Amf.Reg.smcSent) = false := rfl

theorem accepted_reg (u : Spec.Amf.UeSt) (c : Nat) : (Spec.Amf.accepted u 2 c).reg = u.reg ∧
    (Spec.Amf.accepted u 2 c).sess = u.sess ∧ (Spec.Amf.accepted u 2 c).psi = u.psi ∧ (Spec.Amf.accepted u 2 c).j = u.j ∧
    (Spec.Amf.accepted u 2 c).ran = u.ran ∧ (Spec.Amf.accepted u 2 c).ch = u.ch ∧
    (Spec.Amf.accepted u 2 c).svcPending = u.svcPending ∧ (Spec.Amf.accepted u 2 c).aka = u.aka := by
  simp [Spec.Amf.accepted, Spec.NasSecurity.newContext]

theorem onProtected_ulNasTransport (P : Prims) (cfg : Spec.Amf.Cfg) (s : Spec.Amf.St) (k : Nat) (u : Spec.Amf.UeSt)
    (nas plain : Bytes) (c : Nat) (m : Spec.Ts24501.SMsg) (hsht : Spec.Amf.byteAt nas 1 = 2) (hreg : u.reg = .registered)
    (hrul : Spec.Amf.receiveUl P u false [2] nas = .ok (plain, c))
    (hb0 : Spec.Amf.byteAt plain 0 = 0x7E) (hb1 : Spec.Amf.byteAt plain 1 = 0) (hb2 : Spec.Amf.byteAt plain 2 = 0x67)
    (hparse : Spec.Amf.parseNas Spec.Ts24501.ulNasTransport plain = some m)
    (hpct : Spec.Amf.byteAt ((m.mand[3]?).getD []) 0 % 16 = 1) :
    Spec.Amf.onProtectedUplink P cfg s k u false nas =
      Spec.Amf.onSessionMessage (s.setUe (Spec.Amf.accepted u 2 c)) k (Spec.Amf.accepted u 2 c) m := by
  unfold Spec.Amf.onProtectedUplink
  simp only [hsht, hreg, registered_ne_smcSent, Bool.false_eq_true, if_false, hrul, hb0, hb1, hb2, hparse, hpct]
  simp

theorem onProtected_serviceRequest (P : Prims) (cfg : Spec.Amf.Cfg) (s : Spec.Amf.St) (k : Nat) (u : Spec.Amf.UeSt)
    (nas plain : Bytes) (c : Nat) (m : Spec.Ts24501.SMsg) (hsht : Spec.Amf.byteAt nas 1 = 2) (hreg : u.reg = .registered)
    (hsess : u.sess = .established)
    (hrul : Spec.Amf.receiveUl P u false [1, 2] nas = .ok (plain, c))
    (hb0 : Spec.Amf.byteAt plain 0 = 0x7E) (hb1 : Spec.Amf.byteAt plain 1 = 0) (hb2 : Spec.Amf.byteAt plain 2 = 0x4C)
    (hparse : Spec.Amf.parseNas Spec.Ts24501.serviceRequest plain = some m)
    (htmsi : Spec.Amf.byteAt ((m.mand[4]?).getD []) 0 % 8 = 4) :
    Spec.Amf.onProtectedUplink P cfg s k u true nas = s.setUe { Spec.Amf.accepted u 2 c with svcPending := true } := by
  obtain ⟨ar, as, _⟩ := accepted_reg u c
  unfold Spec.Amf.onProtectedUplink
  simp only [hsht, hreg, registered_ne_smcSent, Bool.false_eq_true, if_false, hrul, hb0, hb1, hb2, hparse, htmsi, if_true]
  simp [ar, as, hreg, hsess, setUe_setUe]

theorem onProtected_deregistrationRequest (P : Prims) (cfg : Spec.Amf.Cfg) (s : Spec.Amf.St) (k : Nat) (u : Spec.Amf.UeSt)
    (nas plain : Bytes) (c : Nat) (m : Spec.Ts24501.SMsg) (hsht : Spec.Amf.byteAt nas 1 = 2) (hreg : u.reg = .registered)
    (hrul : Spec.Amf.receiveUl P u false [2] nas = .ok (plain, c))
    (hb0 : Spec.Amf.byteAt plain 0 = 0x7E) (hb1 : Spec.Amf.byteAt plain 1 = 0) (hb2 : Spec.Amf.byteAt plain 2 = 0x45)
    (hparse : Spec.Amf.parseNas Spec.Ts24501.deregistrationRequestUEOriginating plain = some m)
    (hsuci : Spec.Amf.suciIs cfg u.j ((m.mand[4]?).getD []) = true) :
    Spec.Amf.onProtectedUplink P cfg s k u false nas = s.setUe { Spec.Amf.accepted u 2 c with reg := .deregistering } := by
  obtain ⟨ar, _, _, aj, _⟩ := accepted_reg u c
  unfold Spec.Amf.onProtectedUplink
  simp only [hsht, hreg, registered_ne_smcSent, Bool.false_eq_true, if_false, hrul, hb0, hb1, hb2, hparse]
  simp [ar, aj, hreg, hsuci, setUe_setUe]

open Stgutg.Spec.Ts24501 in
/-- table fact: the three 5GSM messages the emulator sends inside UL NAS TRANSPORT parse under the standard's tables, for
    every PDU session identity below 16 -/
theorem gsm_parse : ∀ psi < 16,
    (Spec.Amf.parseNas pduSessionEstablishmentRequest
      ([0x2E, UInt8.ofNat psi, 0x01, 0xC1, 0xFF, 0xFF, 0x91, 0x7B, 0x00, 0x0A] ++ Intended.pco)).isSome = true ∧
    (Spec.Amf.parseNas pduSessionReleaseRequest [0x2E, UInt8.ofNat psi, 0x01, 0xD1]).isSome = true ∧
    (Spec.Amf.parseNas pduSessionReleaseComplete [0x2E, UInt8.ofNat psi, 0x01, 0xD4]).isSome = true := by
  decide +kernel

theorem byteAt_u8 (psi : Nat) (h : psi < 256) (a : UInt8) (l : Bytes) : Spec.Amf.byteAt (a :: UInt8.ofNat psi :: l) 1 = psi := by
  simp [Spec.Amf.byteAt, Nat.mod_eq_of_lt h]

open Stgutg.Spec.Ts24501 in
/-- the common part of the 5GSM handler on a UL NAS TRANSPORT as the emulator's constructors make it: 5GSM protocol
    discriminator, the PDU session ID IE equal to the inner message's, an assignable PSI and PTI 1 -/
theorem session_facts (payload tl : Bytes) (psi : Nat) (rt : Option Nat) (dnn : Bytes) (sn : Option (Nat × Bytes)) (ty : UInt8)
    (hpl : payload = 0x2E :: UInt8.ofNat psi :: 0x01 :: ty :: tl) (h1 : 1 ≤ psi) (h15 : psi ≤ 15) :
    ((Intended.ulNasTransport payload psi rt dnn sn).mand[4]?).getD [] = payload ∧
    Spec.Amf.optIE (Intended.ulNasTransport payload psi rt dnn sn) 0x12 = some [UInt8.ofNat psi] ∧ (UInt8.ofNat psi).toNat = psi ∧
    Spec.Amf.byteAt payload 0 = 0x2E ∧ payload.length ≥ 4 ∧ Spec.Amf.byteAt payload 1 = psi ∧ Spec.Amf.byteAt payload 2 = 1 ∧
    Spec.Amf.byteAt payload 3 = ty.toNat ∧ Spec.Amf.psiAssignable psi = true ∧ Spec.Amf.ptiAssignable 1 = true := by
  subst hpl
  refine ⟨rfl, ?_, ?_, rfl, by simp, byteAt_u8 psi (by omega) _ _, rfl, rfl, by simp [Spec.Amf.psiAssignable, h1, h15], rfl⟩
  · simp [Spec.Amf.optIE, Intended.ulNasTransport, Intended.u8]
  · simp [Nat.mod_eq_of_lt (show psi < 256 by omega)]

open Stgutg.Spec.Ts24501 in
theorem onSession_establishment (s : Spec.Amf.St) (k : Nat) (u : Spec.Amf.UeSt) (psi : Nat) (rt : Option Nat) (dnn : Bytes)
    (sn : Option (Nat × Bytes)) (h1 : 1 ≤ psi) (h15 : psi ≤ 15) (hreg : u.reg = .registered)
    (hsess : u.sess = .none ∨ u.sess = .established ∨ u.sess = .released) :
    Spec.Amf.onSessionMessage s k u (Intended.ulNasTransport
        ([0x2E, UInt8.ofNat psi, 0x01, 0xC1, 0xFF, 0xFF, 0x91, 0x7B, 0x00, 0x0A] ++ Intended.pco) psi rt dnn sn) =
      s.setUe { u with sess := .requested, psi := psi } := by
  have hp := (gsm_parse psi (by omega)).1
  generalize hpl : ([0x2E, UInt8.ofNat psi, 0x01, 0xC1, 0xFF, 0xFF, 0x91, 0x7B, 0x00, 0x0A] ++ Intended.pco : Bytes) = payload at hp ⊢
  obtain ⟨f1, f2, f2', f3, f4, f5, f6, f7, f8, f9⟩ :=
    session_facts payload ([0xFF, 0xFF, 0x91, 0x7B, 0x00, 0x0A] ++ Intended.pco) psi rt dnn sn 0xC1 (hpl.symm.trans rfl) h1 h15
  have hs : (u.sess == .none || u.sess == .established || u.sess == .released) = true := by
    rcases hsess with h | h | h <;> rw [h] <;> rfl
  unfold Spec.Amf.onSessionMessage
  simp only [f1, f2, f2', f3, f5, f6, f7, f8, f9, hp, hreg, hs]
  simp [f4]

open Stgutg.Spec.Ts24501 in
theorem onSession_releaseRequest (s : Spec.Amf.St) (k : Nat) (u : Spec.Amf.UeSt) (psi : Nat) (rt : Option Nat) (dnn : Bytes)
    (sn : Option (Nat × Bytes)) (h1 : 1 ≤ psi) (h15 : psi ≤ 15) (hsess : u.sess = .established) (hpsi : u.psi = psi) :
    Spec.Amf.onSessionMessage s k u (Intended.ulNasTransport [0x2E, UInt8.ofNat psi, 0x01, 0xD1] psi rt dnn sn) =
      s.setUe { u with sess := .releasing false false } := by
  obtain ⟨f1, f2, f2', f3, f4, f5, f6, f7, f8, f9⟩ := session_facts _ [] psi rt dnn sn 0xD1 rfl h1 h15
  have hp := (gsm_parse psi (by omega)).2.1
  unfold Spec.Amf.onSessionMessage
  simp only [f1, f2, f2', f3, f5, f6, f7, f8, f9, hp, hsess, hpsi]
  simp

open Stgutg.Spec.Ts24501 in
theorem onSession_releaseComplete (s : Spec.Amf.St) (k : Nat) (u : Spec.Amf.UeSt) (psi : Nat) (rt : Option Nat) (dnn : Bytes)
    (sn : Option (Nat × Bytes)) (h1 : 1 ≤ psi) (h15 : psi ≤ 15) (r c : Bool) (hsess : u.sess = .releasing r c)
    (hpsi : u.psi = psi) :
    Spec.Amf.onSessionMessage s k u (Intended.ulNasTransport [0x2E, UInt8.ofNat psi, 0x01, 0xD4] psi rt dnn sn) =
      ({ s with releases := if r then s.releases + 1 else s.releases } : Spec.Amf.St).setUe
        { u with sess := if r then .released else .releasing r true } := by
  obtain ⟨f1, f2, f2', f3, f4, f5, f6, f7, f8, f9⟩ := session_facts _ [] psi rt dnn sn 0xD4 rfl h1 h15
  have hp := (gsm_parse psi (by omega)).2.2
  unfold Spec.Amf.onSessionMessage
  simp only [f1, f2, f2', f3, f5, f6, f7, f8, f9, hp, hsess, hpsi]
  simp

open Stgutg.Spec.Ts24501 Stgutg.Props.C09

theorem step_protected_uplink (P : Prims) (hP : PrimsOk P) (cfg : Spec.Amf.Cfg) (chs : List Spec.Amf.Choice)
    (s : Spec.Amf.St) (E : Model.Convert.Ext) (plmn : Bytes) (hplmn : plmn.length = 3) (ran : Int)
    (hr0 : 0 ≤ ran) (hr1 : ran < 2 ^ 32)
    (u : Spec.Amf.UeSt) (hu : s.ues.find? (·.ran == ran) = some u) (ha1 : u.ch.amfUeNgapId < 2 ^ 40)
    (sec : UeSec) (c : Nat) (hl : Live sec u c) (hc : c + 2 < 2 ^ 24) (plain : Bytes) :
    ∃ o b, (Model.NasProtect.encodeNasPduWithSecurity P sec plain 2 true false).2 = .ok o ∧
      Wrapper.run E .GetUplinkNASTransport plmn [.int u.ch.amfUeNgapId, .int ran, .octs o] = .ok (.ok b) ∧
      Spec.Amf.byteAt o 1 = 2 ∧ Spec.Amf.receiveUl P u false [2] o = .ok (plain, c + 1) ∧
      Live (Model.NasProtect.encodeNasPduWithSecurity P sec plain 2 true false).1 (Spec.Amf.accepted u 2 (c + 1)) (c + 1) ∧
      ∀ k, Spec.Amf.step P cfg chs s k b = Spec.Amf.onProtectedUplink P cfg s k u false o := by
  obtain ⟨o, ho, hb1, hr, -, hl'⟩ := hl.send P hP hc plain
  obtain ⟨b, hrun, hstep⟩ := C01.C01_step_uplink_nas_transport P cfg chs s E plmn hplmn ran o hr0 hr1 u hu ha1
  refine ⟨o, b, ho, hrun, hb1, hr, hl', fun k => ?_⟩
  rw [hstep, hb1]
  rfl

/-- `hs` is what C09 proves of the emulator's three 5GSM messages (`ulEstablishment_sent`, `ulReleaseRequest_sent`,
    `ulReleaseComplete_sent`) -/
theorem step_session_message (P : Prims) (hP : PrimsOk P) (cfg : Spec.Amf.Cfg) (chs : List Spec.Amf.Choice)
    (s : Spec.Amf.St) (E : Model.Convert.Ext) (plmn : Bytes) (hplmn : plmn.length = 3) (ran : Int)
    (hr0 : 0 ≤ ran) (hr1 : ran < 2 ^ 32)
    (u : Spec.Amf.UeSt) (hu : s.ues.find? (·.ran == ran) = some u) (ha1 : u.ch.amfUeNgapId < 2 ^ 40)
    (sec : UeSec) (c : Nat) (hl : Live sec u c) (hc : c + 2 < 2 ^ 24) (hreg : u.reg = .registered)
    (msg : Nas.Msg) (plain payload : Bytes) (psi : Nat) (rt : Option Nat) (dnn : Bytes) (sn : Option (Nat × Bytes))
    (hs : Sent ulNasTransport 44 msg plain (Intended.ulNasTransport payload psi rt dnn sn)) :
    ∃ o b, (Model.NasProtect.encodeNasPduWithSecurity P sec plain 2 true false).2 = .ok o ∧
      Wrapper.run E .GetUplinkNASTransport plmn [.int u.ch.amfUeNgapId, .int ran, .octs o] = .ok (.ok b) ∧
      Live (Model.NasProtect.encodeNasPduWithSecurity P sec plain 2 true false).1 (Spec.Amf.accepted u 2 (c + 1)) (c + 1) ∧
      ∀ k, Spec.Amf.step P cfg chs s k b =
        Spec.Amf.onSessionMessage (s.setUe (Spec.Amf.accepted u 2 (c + 1))) k (Spec.Amf.accepted u 2 (c + 1))
          (Intended.ulNasTransport payload psi rt dnn sn) := by
  obtain ⟨o, b, ho, hrun, hb1, hr, hl', hstep⟩ :=
    step_protected_uplink P hP cfg chs s E plmn hplmn ran hr0 hr1 u hu ha1 sec c hl hc plain
  obtain ⟨hparse, b0, b1, b2⟩ := hs.judge rfl
  refine ⟨o, b, ho, hrun, hl', fun k => ?_⟩
  rw [hstep]
  exact onProtected_ulNasTransport P cfg s k u o plain (c + 1) _ hb1 hreg hr b0 b1 b2 hparse rfl

/-! ### the table of uplink messages -/

/-- the uplink messages of a UE after its Registration Request, by what the judge is to make of them: AUTHENTICATION RESPONSE
    (with this RES*), SECURITY MODE COMPLETE (around the Registration Request with this identity and capability), INITIAL CONTEXT
    SETUP RESPONSE, REGISTRATION COMPLETE; then the two messages of `EstablishPDU`, the two of `ServiceRequest`, the three of
    `ReleasePDU`, the two of `DeregisterUE` (with this identity) -/
inductive Ev where
  | authResp (resStar : Bytes) | smc (mi secCap : Nas.Val) | icsRsp | regCpl
  | estReq | setupRsp | svcReq | icsRspSvc | relReq | relRsp | relCpl | deregReq (mi : Nas.Val) | ctxRelCpl

/-- the messages that take only the identifiers from `Args`: those of registration, the service request, the de-registration -/
def Ev.ids : Ev → Bool
  | .authResp _ | .smc _ _ | .icsRsp | .regCpl | .svcReq | .deregReq _ | .ctxRelCpl => true
  | _ => false

/-- the part of `Args.OK` every message needs: a 3-octet `TestPlmn` and the two identifiers in the range of their NGAP types -/
structure Args.Ids (a : Args) : Prop where
  hplmn : a.plmn.length = 3
  ha1 : a.amf < 2 ^ 40
  hr0 : 0 ≤ a.ran
  hr1 : a.ran < 2 ^ 32

theorem Args.OK.ids {E : Model.Convert.Ext} {a : Args} (h : a.OK E) : a.Ids := ⟨h.hplmn, h.ha1, h.hr0, h.hr1⟩

/-- the NAS message `model` (layout `L`), protected with header type `sht` (taking a new context into use or not), in UPLINK NAS
    TRANSPORT, or in INITIAL UE MESSAGE (`initial`) -/
def ProtIn (P : Prims) (E : Model.Convert.Ext) (a : Args) (initial : Bool) (L : Nas.Layout) (model : Res Nas.Msg) (sht : UInt8)
    (newCtx : Bool) (sec : UeSec) (b : Bytes) (sec' : UeSec) : Prop :=
  ∃ plain o, Nas.Ctor.encodeWith L model = .ok plain ∧
    (Model.NasProtect.encodeNasPduWithSecurity P sec plain sht true newCtx).2 = .ok o ∧
    (if initial then Wrapper.run E .GetInitialUEMessage a.plmn [.int a.ran, .octs o, .str []]
     else Wrapper.run E .GetUplinkNASTransport a.plmn [.int a.amf, .int a.ran, .octs o]) = .ok (.ok b) ∧
    sec' = (Model.NasProtect.encodeNasPduWithSecurity P sec plain sht true newCtx).1

/-- how the emulator makes the octets `b` of a message from the security state `sec`, which the message leaves as `sec'` -/
def Emits (P : Prims) (E : Model.Convert.Ext) (a : Args) : Ev → UeSec → Bytes → UeSec → Prop
  | .authResp resStar, sec, b, sec' => ∃ nas,
      Nas.Ctor.encodeWith Gen.Nas.layout_AuthenticationResponse (Nas.Ctor.authenticationResponse resStar []) = .ok nas ∧
      Wrapper.run E .GetUplinkNASTransport a.plmn [.int a.amf, .int a.ran, .octs nas] = .ok (.ok b) ∧ sec' = sec
  | .smc mi secCap, sec, b, sec' => ∃ rr,
      Nas.Ctor.encodeWith Gen.Nas.layout_RegistrationRequest
        (Nas.Ctor.registrationRequest 1 mi none (some secCap) (some cap5GMMVal) none none) = .ok rr ∧
      ProtIn P E a false Gen.Nas.layout_SecurityModeComplete (Nas.Ctor.securityModeComplete (some rr)) 4 true sec b sec'
  | .icsRsp, sec, b, sec' =>
      Wrapper.run E .GetInitialContextSetupResponse a.plmn [.int a.amf, .int a.ran] = .ok (.ok b) ∧ sec' = sec
  | .regCpl, sec, b, sec' =>
      ProtIn P E a false Gen.Nas.layout_RegistrationComplete (Nas.Ctor.registrationComplete none) 2 false sec b sec'
  | .estReq, sec, b, sec' => ProtIn P E a false Gen.Nas.layout_ULNASTransport
      (Nas.Ctor.ulEstablishment (UInt8.ofNat a.psi) (UInt8.ofNat a.rt) a.dnn a.snVal) 2 false sec b sec'
  | .setupRsp, sec, b, sec' =>
      Wrapper.run E .GetPDUSessionResourceSetupResponse a.plmn [.int a.amf, .int a.ran, .int a.psi, .str a.ip] = .ok (.ok b) ∧
      sec' = sec
  | .svcReq, sec, b, sec' => ProtIn P E a true Gen.Nas.layout_ServiceRequest (Nas.Ctor.serviceRequest 1) 2 false sec b sec'
  | .icsRspSvc, sec, b, sec' =>
      Wrapper.run E .GetInitialContextSetupResponseForServiceRequest a.plmn [.int a.amf, .int a.ran, .int a.psi, .str a.ip]
        = .ok (.ok b) ∧ sec' = sec
  | .relReq, sec, b, sec' => ProtIn P E a false Gen.Nas.layout_ULNASTransport
      (Nas.Ctor.ulReleaseRequest (UInt8.ofNat a.psi)) 2 false sec b sec'
  | .relRsp, sec, b, sec' =>
      Wrapper.run E .GetPDUSessionResourceReleaseResponse a.plmn [.int a.amf, .int a.ran, .int a.psi] = .ok (.ok b) ∧ sec' = sec
  | .relCpl, sec, b, sec' => ProtIn P E a false Gen.Nas.layout_ULNASTransport
      (Nas.Ctor.ulReleaseComplete (UInt8.ofNat a.psi) (UInt8.ofNat a.rt) a.dnn a.snVal) 2 false sec b sec'
  | .deregReq mi, sec, b, sec' => ProtIn P E a false Gen.Nas.layout_DeregistrationRequestUEOriginatingDeregistration
      (Nas.Ctor.deregistrationRequest 1 0 4 mi) 2 false sec b sec'
  | .ctxRelCpl, sec, b, sec' =>
      Wrapper.run E .GetUEContextReleaseComplete a.plmn [.int a.amf, .int a.ran, .nil] = .ok (.ok b) ∧ sec' = sec

/-- a COUNT was accepted under the present keys and the next one is below 2^24 − 1 -/
def Counted (u : Spec.Amf.UeSt) : Prop := ∃ l, u.last = some l ∧ l + 2 < 2 ^ 24

/-- the prerequisite under which the judge takes the message silently -/
def Ev.pre (cfg : Spec.Amf.Cfg) (a : Args) (u : Spec.Amf.UeSt) : Ev → Prop
  | .authResp resStar => u.reg = .authSent ∧ resStar = u.aka.resStar ∧ resStar.length = 16
  | .smc mi secCap => u.reg = .smcSent ∧
      (mi.iei = 0 ∧ mi.len = mi.data.length ∧ mi.data.length < 65536) ∧
      (secCap.iei = 0x2E ∧ secCap.len = secCap.data.length ∧ secCap.data.length < 256) ∧
      Spec.Identity.eaSupported secCap.data Spec.Amf.selectedEa = true ∧
      Spec.Identity.iaSupported secCap.data Spec.Amf.selectedIa = true ∧ Spec.Amf.suciIs cfg u.j mi.data = true ∧
      ∀ rr, Nas.Ctor.encodeWith Gen.Nas.layout_RegistrationRequest
        (Nas.Ctor.registrationRequest 1 mi none (some secCap) (some cap5GMMVal) none none) = .ok rr → rr.length < 65536
  | .icsRsp => u.svcPending = false ∧ ∃ c, u.reg = .ctxSetup false c
  | .regCpl => Counted u ∧ ∃ ics c, u.reg = .ctxSetup ics c
  | .estReq => Counted u ∧ u.reg = .registered ∧ (u.sess = .none ∨ u.sess = .established ∨ u.sess = .released)
  | .setupRsp => u.sess = .requested ∧ u.psi = a.psi
  | .svcReq => Counted u ∧ u.reg = .registered ∧ u.sess = .established
  | .icsRspSvc => u.svcPending = true ∧ u.psi = a.psi
  | .relReq => Counted u ∧ u.reg = .registered ∧ u.sess = .established ∧ u.psi = a.psi
  | .relRsp => (∃ r c, u.sess = .releasing r c) ∧ u.psi = a.psi
  | .relCpl => Counted u ∧ u.reg = .registered ∧ (∃ r c, u.sess = .releasing r c) ∧ u.psi = a.psi
  | .deregReq mi => Counted u ∧ u.reg = .registered ∧ mi.len = mi.data.length ∧ mi.data.length < 65536 ∧
      Spec.Amf.suciIs cfg u.j mi.data = true
  | .ctxRelCpl => u.reg = .deregistering

/-- the judge's record of the UE with the next COUNT accepted -/
def counted (u : Spec.Amf.UeSt) : Spec.Amf.UeSt := { u with last := some (nextCount u), used := nextCount u :: u.used }

/-- the judge's record of the UE after the message -/
def Ev.next (a : Args) (u : Spec.Amf.UeSt) : Ev → Spec.Amf.UeSt
  | .authResp _ => { u with reg := .smcSent }
  | .smc _ _ => { u with last := some 0, used := [0], reg := .ctxSetup false false }
  | .icsRsp => { u with reg := match u.reg with
      | .ctxSetup _ c => if c then .registered else .ctxSetup true c
      | x => x }
  | .regCpl => { counted u with reg := match u.reg with
      | .ctxSetup ics _ => if ics then .registered else .ctxSetup ics true
      | x => x }
  | .estReq => { counted u with sess := .requested, psi := a.psi }
  | .setupRsp => { u with sess := .established }
  | .svcReq => { counted u with svcPending := true }
  | .icsRspSvc => { u with svcPending := false }
  | .relReq => { counted u with sess := .releasing false false }
  | .relRsp => { u with sess := match u.sess with
      | .releasing _ cf => if cf then .released else .releasing true cf
      | x => x }
  | .relCpl => { counted u with sess := match u.sess with
      | .releasing r _ => if r then .released else .releasing r true
      | x => x }
  | .deregReq _ => { counted u with reg := .deregistering }
  | .ctxRelCpl => { u with reg := .deregistered }

/-- what the judge counts on the message (`u`: its record of the UE before it) -/
def Ev.bump (u : Spec.Amf.UeSt) : Ev → Spec.Amf.St → Spec.Amf.St
  | .setupRsp, s => { s with established := s.established ++ [u.j] }
  | .icsRspSvc, s => { s with services := s.services + 1 }
  | .relRsp, s => { s with releases := match u.sess with | .releasing _ true => s.releases + 1 | _ => s.releases }
  | .relCpl, s => { s with releases := match u.sess with | .releasing true _ => s.releases + 1 | _ => s.releases }
  | .ctxRelCpl, s => { s with deregs := s.deregs + 1 }
  | _, s => s

theorem Ev.facts (a : Args) (u : Spec.Amf.UeSt) (ev : Ev) (s : Spec.Amf.St) :
    (ev.bump u s).fails = s.fails ∧ (ev.bump u s).ngSetup = s.ngSetup ∧ (ev.bump u s).ues = s.ues ∧
    (ev.next a u).j = u.j ∧ (ev.next a u).ran = u.ran ∧ (ev.next a u).ch = u.ch := by
  cases ev <;> exact ⟨rfl, rfl, rfl, rfl, rfl, rfl⟩

/-- what the judge knows of the UE and the emulator holds for it, between two messages: no clause so far, the UE found under its
    RAN-UE-NGAP-ID with the assigned AMF-UE-NGAP-ID, its record in step with the emulator's security state -/
structure Knows (a : Args) (s : Spec.Amf.St) (u : Spec.Amf.UeSt) (sec : UeSec) : Prop where
  clean : s.fails = []
  find : s.ues.find? (·.ran == a.ran) = some u
  amf : u.ch.amfUeNgapId = a.amf
  sync : Sync sec u

theorem Knows.live {a : Args} {s : Spec.Amf.St} {u : Spec.Amf.UeSt} {sec : UeSec} (hk : Knows a s u sec) (hc : Counted u) :
    ∃ l, l + 2 < 2 ^ 24 ∧ Live sec u l ∧ counted u = Spec.Amf.accepted u 2 (l + 1) := by
  obtain ⟨l, hl, hb⟩ := hc
  exact ⟨l, hb, (sync_iff_live sec u l).mpr ⟨hk.sync, hl⟩, by simp only [counted, nextCount, hl]; rfl⟩

theorem Live.sync {sec : UeSec} {u : Spec.Amf.UeSt} {c : Nat} (h : Live sec u c) : Sync sec u := ((sync_iff_live sec u c).mp h).1

theorem Sync.congr {sec : UeSec} {u u' : Spec.Amf.UeSt} (h : Sync sec u) (h1 : u'.aka = u.aka) (h2 : u'.last = u.last)
    (h3 : u'.used = u.used) : Sync sec u' := by
  obtain ⟨⟨a, b⟩, hs⟩ := h
  refine ⟨⟨?_, b⟩, by rw [h2, h3]; exact hs⟩
  rw [a]; simp [Spec.Amf.ctxOf, h1]

theorem Knows.amf_lt {a : Args} {s : Spec.Amf.St} {u : Spec.Amf.UeSt} {sec : UeSec} (hk : Knows a s u sec) (hi : a.Ids) :
    u.ch.amfUeNgapId < 2 ^ 40 := by rw [hk.amf]; exact hi.ha1

theorem Knows.amfI {a : Args} {s : Spec.Amf.St} {u : Spec.Amf.UeSt} {sec : UeSec} (hk : Knows a s u sec) :
    ((u.ch.amfUeNgapId : Nat) : Int) = (a.amf : Int) := by rw [hk.amf]

theorem Args.Ids.amfI {a : Args} (hi : a.Ids) : (0 : Int) ≤ (a.amf : Int) ∧ (a.amf : Int) < 2 ^ 40 :=
  ⟨by omega, by exact_mod_cast hi.ha1⟩

/-! ### the rows of the table

  One theorem per message: made by the emulator (`Emits`) from a security state in step with the judge's record of the UE (`hk`),
  under the message's prerequisite, the judge raises no clause wherever the message stands in the transcript, updates the record
  (`Ev.next`), counts (`Ev.bump`), and emulator and judge are in step again. The messages that take only the identifiers from `Args`
  need only these in range (`hi`), the others `Args.OK`. -/

end Stgutg.Props.C02

namespace Stgutg.Props.C01
open Stgutg Stgutg.Model.Emulator Stgutg.Proofs.Emulator Stgutg.Builders
open Stgutg.Model.NasProtect Stgutg.Proofs.NasProtect Stgutg.Spec.NasSecurity
open Stgutg.Spec.NgapView Stgutg.Spec.Ts38413 Stgutg.Proofs.BuildersJudge Stgutg.Proofs.BuildersLife
open Stgutg.Props.C02

section
variable (P : Prims) (hP : PrimsOk P) (cfg : Spec.Amf.Cfg) (chs : List Spec.Amf.Choice) (E : Model.Convert.Ext) (a : Args)
    (hi : a.Ids) (s : Spec.Amf.St) (u : Spec.Amf.UeSt) (sec : UeSec) (hk : Knows a s u sec)
include hP hi hk

omit hP in
/-- **C01_step_authentication_response.** UL3: UPLINK NAS TRANSPORT carrying the AUTHENTICATION RESPONSE built from a 16-octet
    RES* equal to the XRES* of the network's vector (`C01_res_star`), from the UE in state "authentication request sent": the
    judge's `step` raises NO clause — NGAP and NAS — and moves the UE to "security mode command sent". -/
theorem C01_step_authentication_response (resStar : Bytes) (hpre : (Ev.authResp resStar).pre cfg a u) :
    ∃ b sec', Emits P E a (.authResp resStar) sec b sec' ∧
      (∀ k, Spec.Amf.step P cfg chs s k b = (Ev.authResp resStar).bump u (s.setUe ((Ev.authResp resStar).next a u))) ∧
      Sync sec' ((Ev.authResp resStar).next a u) := by
  obtain ⟨hreg, hres, h16⟩ := hpre
  obtain ⟨nas, henc, hb1, hplain⟩ := onPlainUplink_authenticationResponse u resStar h16 hreg
  obtain ⟨b, hrun, hstep⟩ := C01_step_uplink_nas_transport P cfg chs s E a.plmn hi.hplmn a.ran nas hi.hr0 hi.hr1 u hk.find
    (hk.amf_lt hi)
  rw [hk.amf] at hrun
  refine ⟨b, _, ⟨nas, henc, hrun, rfl⟩, fun k => ?_, hk.sync.congr rfl rfl rfl⟩
  rw [hstep, hb1, if_pos (by rfl), hplain, if_pos hres]
  rfl

/-- **C01_step_security_mode_complete.** UL4, given that the SUCI names the UE's subscriber in the reference AMF's arithmetic
    (as in `C01_step_registration_request`) and that the complete Registration Request fits the NAS message container (below
    64 KiB — it is 3 + 1 + 2 + |SUCI| + 3 + 2 + |capability| octets): the SECURITY MODE COMPLETE the emulator builds (IMEISV, NAS
    message container = the Registration Request with the 5GMM capability), protected by
    `EncodeNasPduWithSecurity(ue, smc, 4, true, true)` under the keys of the network's vector, sent in UPLINK NAS TRANSPORT with
    the assigned identifiers by a UE in state "security mode command sent": the judge's `step` raises NO clause — NGAP, header
    type 4, NAS COUNT 0, MAC, SECURITY MODE COMPLETE parses, the container parses as a Registration Request naming the same
    subscriber and announcing the selected algorithms — and takes the new context into use (COUNT 0 accepted). -/
theorem C01_step_security_mode_complete (mi secCap : Nas.Val) (hpre : (Ev.smc mi secCap).pre cfg a u) :
    ∃ b sec', Emits P E a (.smc mi secCap) sec b sec' ∧
      (∀ k, Spec.Amf.step P cfg chs s k b = (Ev.smc mi secCap).bump u (s.setUe ((Ev.smc mi secCap).next a u))) ∧
      Sync sec' ((Ev.smc mi secCap).next a u) := by
  obtain ⟨hreg, hmi, hsc, hea, hia, hsuci, hrr⟩ := hpre
  obtain ⟨_, rr, henc2, hs2⟩ := Props.C09.registrationRequest_sent 1 mi none (some secCap) (some cap5GMMVal) none none
    (by decide) hmi (by intro x hx; cases hx) (by intro x hx; cases hx; exact hsc)
    (by intro x hx; cases hx) (by intro x hx; cases hx; decide) (by intro c hc; cases hc)
  obtain ⟨_, smc, henc, hs⟩ := Props.C09.securityModeComplete_sent (some rr) (by intro c hc; cases hc; exact hrr rr henc2)
  obtain ⟨hparse, hb0, hb1, hb2⟩ := hs.judge rfl
  obtain ⟨o1, b, ho1, hrun, h1, hrul, hstep, hin1, hc1⟩ := step_protected P hP cfg chs s E a.plmn hi.hplmn a.ran hi.hr0 hi.hr1 u hk.find
    (hk.amf_lt hi) sec hk.sync.1 smc 4 true rfl rfl [4] 0 rfl rfl rfl rfl
  rw [hk.amf] at hrun
  refine ⟨b, _, ⟨rr, henc2, smc, o1, henc, ho1, hrun, rfl⟩, fun k => ?_, ⟨hin1.1, hin1.2⟩, fun c hc => ?_⟩
  · rw [hstep]
    exact onProtected_securityModeComplete P cfg s k u o1 smc rr mi.data secCap.data h1 hreg hrul hb0 hb1 hb2 hparse _
      (hs2.judge rfl).1 hsuci hea hia
  · cases hc
    exact ⟨hc1, by simp [Ev.next]⟩

omit hP in
/-- **C01_step_initial_context_setup_response.** UL5: INITIAL CONTEXT SETUP RESPONSE with the assigned identifiers from a UE
    whose INITIAL CONTEXT SETUP REQUEST is outstanding: no clause; the response is recorded (the UE is REGISTERED once
    Registration Complete has been seen as well). -/
theorem C01_step_initial_context_setup_response (hpre : Ev.icsRsp.pre cfg a u) :
    ∃ b sec', Emits P E a .icsRsp sec b sec' ∧
      (∀ k, Spec.Amf.step P cfg chs s k b = (Ev.icsRsp).bump u (s.setUe ((Ev.icsRsp).next a u))) ∧
      Sync sec' ((Ev.icsRsp).next a u) := by
  obtain ⟨hsvc, c, hreg⟩ := hpre
  obtain ⟨pdu, b, hw, hd, f1, f2, f3, f4, f5⟩ := initialContextSetupResponse_wire E a.plmn hi.hplmn (a.amf : Int) a.ran
    hi.amfI.1 hi.amfI.2 hi.hr0 hi.hr1
  refine ⟨b, _, ⟨hw, rfl⟩, fun k => ?_, hk.sync.congr rfl rfl rfl⟩
  rw [step_initialContextSetupResponse P cfg chs s k b pdu _ a.ran hd f1 f2 f3 f4 f5 u hk.find hk.amfI hsvc c hreg]
  simp only [Ev.bump, Ev.next, hreg]

/-- **C01_step_registration_complete.** UL6: the REGISTRATION COMPLETE the emulator builds, protected by
    `EncodeNasPduWithSecurity(ue, rc, 2, true, false)` under the keys of the network's vector and the UL NAS COUNT one above the
    last the AMF accepted (`C01_registration_protected`: 1 after Security Mode Complete's 0), sent in UPLINK NAS TRANSPORT with the
    assigned identifiers by a UE whose INITIAL CONTEXT SETUP REQUEST was sent: the judge's `step` raises NO clause — NGAP,
    security header type 2, NAS COUNT = previous + 1 and never used, MAC, the plain message parses as REGISTRATION COMPLETE —
    accepts the COUNT and marks Registration Complete seen (REGISTERED when the INITIAL CONTEXT SETUP RESPONSE was seen before, as
    in the emulator's order). -/
theorem C01_step_registration_complete (hpre : Ev.regCpl.pre cfg a u) :
    ∃ b sec', Emits P E a .regCpl sec b sec' ∧
      (∀ k, Spec.Amf.step P cfg chs s k b = (Ev.regCpl).bump u (s.setUe ((Ev.regCpl).next a u))) ∧
      Sync sec' ((Ev.regCpl).next a u) := by
  obtain ⟨⟨l, hl, hb⟩, ics, cf, hreg⟩ := hpre
  obtain ⟨hin, hsync⟩ := hk.sync
  obtain ⟨hcv, hused⟩ := hsync l hl
  have hnc : nextCount u = l + 1 := by simp [nextCount, hl]
  obtain ⟨_, rc, henc, hs⟩ := Props.C09.registrationComplete_sent none (by simp)
  obtain ⟨hparse, hb0, hb1, hb2⟩ := hs.judge rfl
  have hnew : Spec.NasSecurity.newContext (2 : UInt8).toNat = false := rfl
  have hnew' : Spec.NasSecurity.newContext 2 = false := rfl
  obtain ⟨o2, b, ho2, hrun, h1, hrul, hstep, hin', hcnt'⟩ := step_protected P hP cfg chs s E a.plmn hi.hplmn a.ran hi.hr0 hi.hr1 u hk.find
    (hk.amf_lt hi) sec hin rc 2 false rfl rfl [2] (l + 1) ((if_neg Bool.false_ne_true).trans hcv) rfl
    (by simp [Spec.Amf.expectedCount, hnew', hl])
    (by simp only [Spec.Amf.fresh, hnew, hl, Bool.false_or, Bool.and_eq_true, decide_eq_true_eq, Bool.not_eq_true']
        refine ⟨by omega, ?_⟩
        cases hcon : u.used.contains (l + 1) with
        | false => rfl
        | true => have := hused (l + 1) (by simpa using hcon); omega)
  rw [hk.amf] at hrun
  refine ⟨b, _, ⟨rc, o2, henc, ho2, hrun, rfl⟩, fun k => ?_, ⟨hin'.1, hin'.2⟩, fun c hc => ?_⟩
  · rw [hstep, onProtected_registrationComplete P cfg s k u o2 rc (l + 1) ics cf h1 hreg hrul hb0 hb1 hb2
      (by rw [hparse]; rfl)]
    simp only [Ev.bump, Ev.next, counted, hreg, hnc]
    rfl
  · simp only [Ev.next, counted, hnc] at hc ⊢
    cases hc
    refine ⟨by rw [hcnt', Nat.mod_eq_of_lt (by omega)], fun x hx => ?_⟩
    rcases List.mem_cons.mp hx with rfl | hx
    · omega
    · have := hused x hx; omega

end

end Stgutg.Props.C01

namespace Stgutg.Props.C02
open Stgutg Stgutg.Model.Emulator Stgutg.Proofs.Emulator Stgutg.Builders
open Stgutg.Model.NasProtect Stgutg.Proofs.NasProtect Stgutg.Spec.NasSecurity
open Stgutg.Spec.NgapView Stgutg.Spec.Ts38413 Stgutg.Proofs.BuildersJudge Stgutg.Proofs.BuildersLife
open Stgutg.Spec.Ts24501 Stgutg.Props.C09

section
variable (P : Prims) (hP : PrimsOk P) (cfg : Spec.Amf.Cfg) (chs : List Spec.Amf.Choice) (E : Model.Convert.Ext) (a : Args)
    (hi : a.Ids) (s : Spec.Amf.St) (u : Spec.Amf.UeSt) (sec : UeSec) (hk : Knows a s u sec)
include hP hi hk

/-- **C02_step_establishment_request.** EstablishPDU, first uplink message: UL NAS TRANSPORT with the PDU SESSION
    ESTABLISHMENT REQUEST the emulator's constructor builds (any assignable PDU session identity, any request type, DNN and
    S-NSSAI in the constructor's range), protected with header type 2 under the keys and the next COUNT of a REGISTERED UE, in
    UPLINK NAS TRANSPORT with the assigned identifiers: the judge raises no clause (NGAP, NAS security, 5GMM and 5GSM contents,
    prerequisite), records the COUNT and the requested session. -/
theorem C02_step_establishment_request (ho : a.OK E) (hpre : Ev.estReq.pre cfg a u) :
    ∃ b sec', Emits P E a .estReq sec b sec' ∧
      (∀ k, Spec.Amf.step P cfg chs s k b = (Ev.estReq).bump u (s.setUe ((Ev.estReq).next a u))) ∧
      Sync sec' ((Ev.estReq).next a u) := by
  obtain ⟨hcnt, hreg, hsess⟩ := hpre
  obtain ⟨l, hb, hl, hcu⟩ := hk.live hcnt
  obtain ⟨_, plain, henc, hs⟩ := ulEstablishment_sent a.psi a.rt a.dnn a.sn (by have := ho.h15; omega) ho.hrt ho.hd
  obtain ⟨o, b, ho', hrun, hl', hstep⟩ := step_session_message P hP cfg chs s E a.plmn hi.hplmn a.ran hi.hr0 hi.hr1 u hk.find
    (hk.amf_lt hi) sec l hl hb hreg _ plain _ a.psi _ _ _ hs
  obtain ⟨ar, as, _⟩ := accepted_reg u (l + 1)
  rw [hk.amf] at hrun
  simp only [Ev.bump, Ev.next, hcu]
  refine ⟨b, _, ⟨plain, o, henc, ho', hrun, rfl⟩, fun k => ?_, (hl'.congr rfl rfl rfl).sync⟩
  rw [hstep, onSession_establishment _ k _ a.psi _ _ _ ho.h1 ho.h15 (by rw [ar]; exact hreg) (by rw [as]; exact hsess)]
  exact setUe_setUe _ _ _ rfl

omit hP in
/-- **C02_step_setup_response.** EstablishPDU, second uplink message: PDU SESSION RESOURCE SETUP RESPONSE with the assigned
    identifiers, naming the requested session (any gNB address `GetPDUSessionResourceSetupResponse` accepts): no clause; the
    session is established and the subscriber recorded. -/
theorem C02_step_setup_response (ho : a.OK E) (hpre : Ev.setupRsp.pre cfg a u) :
    ∃ b sec', Emits P E a .setupRsp sec b sec' ∧
      (∀ k, Spec.Amf.step P cfg chs s k b = (Ev.setupRsp).bump u (s.setUe ((Ev.setupRsp).next a u))) ∧
      Sync sec' ((Ev.setupRsp).next a u) := by
  obtain ⟨hsess, hpsi⟩ := hpre
  obtain ⟨pdu, b, hrun, hd', f1, f2, f3, f4, f5, f6⟩ := setupResponse_wire E a.plmn hi.hplmn (a.amf : Int) a.ran (a.psi : Int) a.ip
    ⟨hi.amfI.1, hi.amfI.2, hi.hr0, hi.hr1, by omega, by have := ho.h15; omega, ho.hip⟩
  exact ⟨b, _, ⟨hrun, rfl⟩, fun k => step_setupResponse P cfg chs s k b pdu _ a.ran _ hd' f1 f2 f3 f4 f5 f6 u hk.find hk.amfI
    (by rw [hpsi]) hsess, hk.sync.congr rfl rfl rfl⟩

/-- **C02_step_service_request.** ServiceRequest, first uplink message: the SERVICE REQUEST (service type "data") the
    emulator's constructor builds, protected with header type 2, in INITIAL UE MESSAGE with the UE's RAN-UE-NGAP-ID, from a
    REGISTERED UE with an established session, after NG Setup: no clause; the INITIAL CONTEXT SETUP RESPONSE is awaited. -/
theorem C02_step_service_request (hsetup : s.ngSetup = true) (hpre : Ev.svcReq.pre cfg a u) :
    ∃ b sec', Emits P E a .svcReq sec b sec' ∧
      (∀ k, Spec.Amf.step P cfg chs s k b = (Ev.svcReq).bump u (s.setUe ((Ev.svcReq).next a u))) ∧
      Sync sec' ((Ev.svcReq).next a u) := by
  obtain ⟨hcnt, hreg, hsess⟩ := hpre
  obtain ⟨l, hb, hl, hcu⟩ := hk.live hcnt
  obtain ⟨_, plain, henc, hs⟩ := serviceRequest_sent
  obtain ⟨o, ho', hb1, -, hr, hl'⟩ := hl.send P hP hb plain
  obtain ⟨pdu, b, hrun, hd, f1, f2, f3, f4, f5⟩ := initialUEMessage_wire E a.plmn hi.hplmn a.ran o hi.hr0 hi.hr1
  obtain ⟨hparse, b0, b1, b2⟩ := hs.judge rfl
  simp only [Ev.bump, Ev.next, hcu]
  refine ⟨b, _, ⟨plain, o, henc, ho', hrun, rfl⟩, fun k => ?_, (hl'.congr rfl rfl rfl).sync⟩
  rw [step_initialUEMessage_protected P cfg chs s k b pdu a.ran o hd f1 f2 f3 f4 f5 hsetup (by rw [hb1]; rfl) u hk.find]
  exact onProtected_serviceRequest P cfg s k u o plain (l + 1) _ hb1 hreg hsess hr b0 b1 b2 hparse rfl

omit hP in
/-- **C02_step_ics_response_service.** ServiceRequest, second uplink message: INITIAL CONTEXT SETUP RESPONSE naming the UE's
    session while the response is awaited: no clause; the service request is counted. -/
theorem C02_step_ics_response_service (ho : a.OK E) (hpre : Ev.icsRspSvc.pre cfg a u) :
    ∃ b sec', Emits P E a .icsRspSvc sec b sec' ∧
      (∀ k, Spec.Amf.step P cfg chs s k b = (Ev.icsRspSvc).bump u (s.setUe ((Ev.icsRspSvc).next a u))) ∧
      Sync sec' ((Ev.icsRspSvc).next a u) := by
  obtain ⟨hsvc, hpsi⟩ := hpre
  obtain ⟨pdu, b, hrun, hd', f1, f2, f3, f4, f5, f6⟩ := icsResponseSvc_wire E a.plmn hi.hplmn (a.amf : Int) a.ran (a.psi : Int) a.ip
    ⟨hi.amfI.1, hi.amfI.2, hi.hr0, hi.hr1, by omega, by have := ho.h15; omega, ho.hip⟩
  exact ⟨b, _, ⟨hrun, rfl⟩, fun k => step_icsResponseSvc P cfg chs s k b pdu _ a.ran _ hd' f1 f2 f3 f4 f5 f6 u hk.find hk.amfI
    (by rw [hpsi]) hsvc, hk.sync.congr rfl rfl rfl⟩

/-- **C02_step_release_request.** ReleasePDU, first uplink message: the PDU SESSION RELEASE REQUEST for the established
    session. -/
theorem C02_step_release_request (ho : a.OK E) (hpre : Ev.relReq.pre cfg a u) :
    ∃ b sec', Emits P E a .relReq sec b sec' ∧
      (∀ k, Spec.Amf.step P cfg chs s k b = (Ev.relReq).bump u (s.setUe ((Ev.relReq).next a u))) ∧
      Sync sec' ((Ev.relReq).next a u) := by
  obtain ⟨hcnt, hreg, hsess, hpsi⟩ := hpre
  obtain ⟨l, hb, hl, hcu⟩ := hk.live hcnt
  obtain ⟨_, plain, henc, hs⟩ := ulReleaseRequest_sent a.psi (by have := ho.h15; omega)
  obtain ⟨o, b, ho', hrun, hl', hstep⟩ := step_session_message P hP cfg chs s E a.plmn hi.hplmn a.ran hi.hr0 hi.hr1 u hk.find
    (hk.amf_lt hi) sec l hl hb hreg _ plain _ a.psi _ _ _ hs
  obtain ⟨_, as, ap, _⟩ := accepted_reg u (l + 1)
  rw [hk.amf] at hrun
  simp only [Ev.bump, Ev.next, hcu]
  refine ⟨b, _, ⟨plain, o, henc, ho', hrun, rfl⟩, fun k => ?_, (hl'.congr rfl rfl rfl).sync⟩
  rw [hstep, onSession_releaseRequest _ k _ a.psi _ _ _ ho.h1 ho.h15 (by rw [as]; exact hsess) (by rw [ap]; exact hpsi)]
  exact setUe_setUe _ _ _ rfl

omit hP in
/-- **C02_step_release_response.** ReleasePDU, second uplink message: PDU SESSION RESOURCE RELEASE RESPONSE naming the
    session being released; with the RELEASE COMPLETE seen before, the release is counted and the session is RELEASED. -/
theorem C02_step_release_response (ho : a.OK E) (hpre : Ev.relRsp.pre cfg a u) :
    ∃ b sec', Emits P E a .relRsp sec b sec' ∧
      (∀ k, Spec.Amf.step P cfg chs s k b = (Ev.relRsp).bump u (s.setUe ((Ev.relRsp).next a u))) ∧
      Sync sec' ((Ev.relRsp).next a u) := by
  obtain ⟨⟨r, cf, hsess⟩, hpsi⟩ := hpre
  obtain ⟨pdu, b, hrun, hd', f1, f2, f3, f4, f5, f6⟩ := releaseResponse_wire E a.plmn hi.hplmn (a.amf : Int) a.ran (a.psi : Int)
    hi.amfI.1 hi.amfI.2 hi.hr0 hi.hr1 (by omega) (by have := ho.h15; omega)
  refine ⟨b, _, ⟨hrun, rfl⟩, fun k => ?_, hk.sync.congr rfl rfl rfl⟩
  rw [step_releaseResponse P cfg chs s k b pdu _ a.ran _ hd' f1 f2 f3 f4 f5 f6 u hk.find hk.amfI (by rw [hpsi]) r cf hsess]
  simp only [Ev.bump, Ev.next, hsess]
  cases cf <;> rfl

/-- **C02_step_release_complete.** ReleasePDU, third uplink message: the PDU SESSION RELEASE COMPLETE; with the NGAP
    response seen before, the release is counted and the session is RELEASED. -/
theorem C02_step_release_complete (ho : a.OK E) (hpre : Ev.relCpl.pre cfg a u) :
    ∃ b sec', Emits P E a .relCpl sec b sec' ∧
      (∀ k, Spec.Amf.step P cfg chs s k b = (Ev.relCpl).bump u (s.setUe ((Ev.relCpl).next a u))) ∧
      Sync sec' ((Ev.relCpl).next a u) := by
  obtain ⟨hcnt, hreg, ⟨r, cf, hsess⟩, hpsi⟩ := hpre
  obtain ⟨l, hb, hl, hcu⟩ := hk.live hcnt
  obtain ⟨_, plain, henc, hs⟩ := ulReleaseComplete_sent a.psi a.rt a.dnn a.sn (by have := ho.h15; omega) ho.hrt ho.hd
  obtain ⟨o, b, ho', hrun, hl', hstep⟩ := step_session_message P hP cfg chs s E a.plmn hi.hplmn a.ran hi.hr0 hi.hr1 u hk.find
    (hk.amf_lt hi) sec l hl hb hreg _ plain _ a.psi _ _ _ hs
  obtain ⟨_, as, ap, _⟩ := accepted_reg u (l + 1)
  rw [hk.amf] at hrun
  simp only [Ev.bump, Ev.next, hcu, hsess]
  refine ⟨b, _, ⟨plain, o, henc, ho', hrun, rfl⟩, fun k => ?_, (hl'.congr rfl rfl rfl).sync⟩
  rw [hstep, onSession_releaseComplete _ k _ a.psi _ _ _ ho.h1 ho.h15 r cf (by rw [as]; exact hsess) (by rw [ap]; exact hpsi)]
  refine (setUe_setUe_rel s (Spec.Amf.accepted u 2 (l + 1)) _ _ ?_).trans ?_
  · rfl
  · cases r <;> rfl

/-- **C02_step_deregistration_request.** DeregisterUE, first uplink message: the DEREGISTRATION REQUEST (UE originating) with
    the emulator's arguments (3GPP access, normal de-registration, ngKSI 4 — an even identifier, cf. F25) and a mobile identity
    that names the UE's own subscriber. -/
theorem C02_step_deregistration_request (mi : Nas.Val) (hpre : (Ev.deregReq mi).pre cfg a u) :
    ∃ b sec', Emits P E a (.deregReq mi) sec b sec' ∧
      (∀ k, Spec.Amf.step P cfg chs s k b = (Ev.deregReq mi).bump u (s.setUe ((Ev.deregReq mi).next a u))) ∧
      Sync sec' ((Ev.deregReq mi).next a u) := by
  obtain ⟨hcnt, hreg, hlen, hlt, hsuci⟩ := hpre
  obtain ⟨l, hb, hl, hcu⟩ := hk.live hcnt
  obtain ⟨_, plain, henc, hs⟩ := deregistrationRequest_sent 1 0 4 mi (by omega) (by omega) (by omega) rfl hlen hlt
  obtain ⟨o, b, ho', hrun, hb1, hr, hl', hstep⟩ :=
    step_protected_uplink P hP cfg chs s E a.plmn hi.hplmn a.ran hi.hr0 hi.hr1 u hk.find (hk.amf_lt hi) sec l hl hb plain
  obtain ⟨hparse, b0, b1, b2⟩ := hs.judge rfl
  rw [hk.amf] at hrun
  simp only [Ev.bump, Ev.next, hcu]
  refine ⟨b, _, ⟨plain, o, henc, ho', hrun, rfl⟩, fun k => ?_, (hl'.congr rfl rfl rfl).sync⟩
  rw [hstep]
  exact onProtected_deregistrationRequest P cfg s k u o plain (l + 1) _ hb1 hreg hr b0 b1 b2 hparse hsuci

omit hP in
/-- **C02_step_ue_context_release_complete.** DeregisterUE, second uplink message: UE CONTEXT RELEASE COMPLETE after the
    de-registration request: no clause; the de-registration is counted. -/
theorem C02_step_ue_context_release_complete (hpre : Ev.ctxRelCpl.pre cfg a u) :
    ∃ b sec', Emits P E a .ctxRelCpl sec b sec' ∧
      (∀ k, Spec.Amf.step P cfg chs s k b = (Ev.ctxRelCpl).bump u (s.setUe ((Ev.ctxRelCpl).next a u))) ∧
      Sync sec' ((Ev.ctxRelCpl).next a u) := by
  obtain ⟨pdu, b, hrun, hd', f1, f2, f3, f4, f5⟩ := ueContextReleaseComplete_wire E a.plmn hi.hplmn (a.amf : Int) a.ran
    hi.amfI.1 hi.amfI.2 hi.hr0 hi.hr1
  exact ⟨b, _, ⟨hrun, rfl⟩, fun k => step_ueContextReleaseComplete P cfg chs s k b pdu _ a.ran hd' f1 f2 f3 f4 f5 u hk.find hk.amfI
    hpre, hk.sync.congr rfl rfl rfl⟩

/-- **the one step theorem**: the rows together. Only the messages whose `Ev.ids` is false need more of `Args.OK` than the
    identifiers; only the SERVICE REQUEST, which comes in an INITIAL UE MESSAGE, needs NG Setup done. -/
theorem step_event (ev : Ev) (ho : ev.ids = false → a.OK E) (hn : ev = .svcReq → s.ngSetup = true) (hpre : ev.pre cfg a u) :
    ∃ b sec', Emits P E a ev sec b sec' ∧
      (∀ k, Spec.Amf.step P cfg chs s k b = ev.bump u (s.setUe (ev.next a u))) ∧ Sync sec' (ev.next a u) := by
  cases ev with
  | authResp r => exact C01.C01_step_authentication_response P cfg chs E a hi s u sec hk r hpre
  | smc mi sc => exact C01.C01_step_security_mode_complete P hP cfg chs E a hi s u sec hk mi sc hpre
  | icsRsp => exact C01.C01_step_initial_context_setup_response P cfg chs E a hi s u sec hk hpre
  | regCpl => exact C01.C01_step_registration_complete P hP cfg chs E a hi s u sec hk hpre
  | estReq => exact C02_step_establishment_request P hP cfg chs E a hi s u sec hk (ho rfl) hpre
  | setupRsp => exact C02_step_setup_response P cfg chs E a hi s u sec hk (ho rfl) hpre
  | svcReq => exact C02_step_service_request P hP cfg chs E a hi s u sec hk (hn rfl) hpre
  | icsRspSvc => exact C02_step_ics_response_service P cfg chs E a hi s u sec hk (ho rfl) hpre
  | relReq => exact C02_step_release_request P hP cfg chs E a hi s u sec hk (ho rfl) hpre
  | relRsp => exact C02_step_release_response P cfg chs E a hi s u sec hk (ho rfl) hpre
  | relCpl => exact C02_step_release_complete P hP cfg chs E a hi s u sec hk (ho rfl) hpre
  | deregReq mi => exact C02_step_deregistration_request P hP cfg chs E a hi s u sec hk mi hpre
  | ctxRelCpl => exact C02_step_ue_context_release_complete P cfg chs E a hi s u sec hk hpre

end

end Stgutg.Props.C02
