/-
  C13 — gNB-side NGAP messages carry the caller's values and all mandatory IEs.

  Model: Stgutg.Model.Builders (hand templates for the 14 wrappers of packet.go and the 15 builders around them) and
  Stgutg.Gen.Templates (probed templates for the other 35 builders), over the NGAP schema regenerated from /repo.
  Specification: Stgutg.Spec.Ts38413 (procedure codes, message classes, mandatory IE tables, identifier ranges) and the
  reference IE walker Stgutg.Spec.NgapView. Helper lemmas: Proofs/Builders.lean (the walker on skeletons, `Shaped`, the
  decidable checks the table facts evaluate) for message class, mandatory IEs, carried arguments and PLMN; parts 1–8
  (Proofs/BuildersOk.lean … BuildersRoles.lean, listed below at "the analyses that walk a skeleton") for encoding, decoding
  back and refusal.

  One more builder is one more entry of `Builders.table`: every table fact below is evaluated again over it, and every
  theorem holds of it through `t ∈ allTable`. One more carried argument is a check `…OK` in Proofs/Builders.lean written
  with `carriesExact` or `carriesHole` (`carriesEnc` inside a nested encoding), its table fact, and `Shaped.exact` /
  `Shaped.carries` (`build_carriesEnc`).

  Every theorem is about `build E t plmn args` for ALL arguments `args`, ALL `TestPlmn` states `plmn` and ALL externals
  `E` (net.ParseIP, hex.DecodeString): "whenever the builder returns a PDU, then …".
-/
import Stgutg.Proofs.Builders
import Stgutg.Proofs.BuildersRoles
import Stgutg.Proofs.BuildersRefuseTm
import Stgutg.Model.NetExt

namespace Stgutg.Props.C13
open Stgutg Stgutg.Aper Stgutg.Builders Stgutg.Spec.NgapView Stgutg.Spec.Ts38413 Stgutg.Model.Convert
open Stgutg.Proofs.Builders

/-- table fact (kernel evaluation over the hand-written and the regenerated probed templates) -/
theorem class_table : allTable.all classOK = true := by decide +kernel

/-- **C13_class**: every PDU a builder returns is the NGAP-PDU alternative (initiating message / successful outcome /
    unsuccessful outcome) and carries the procedure code that TS 38.413 clause 9.4.3 / 9.4.7 give for its message. -/
theorem C13_class (E : Ext) (t : Template) (ht : t ∈ allTable) (plmn : Bytes) (args : List Val) (pdu : Val)
    (h : Shaped E t plmn args pdu) :
    pduPresent pdu = some ((msgClass t.message).index + 1) ∧ pduProc pdu = some (procCode t.message : Int) := by
  obtain ⟨tm, htm, hp⟩ := h
  have hT := List.all_eq_true.mp class_table t ht
  have hS := List.all_eq_true.mp hT tm htm
  simp only [Bool.and_eq_true, decide_eq_true_eq] at hS
  subst hp
  exact ⟨pduPresent_eval E _ _ tm _ hS.1, pduProc_eval E _ _ tm _ hS.2⟩

theorem mandatory_table : allTable.all mandOK = true := by decide +kernel

/-- **C13_mandatory**: for the messages the emulator sends (those with a transcribed clause 9.2 table), every IE with
    presence M is in the PDU the builder returns, with the criticality the standard assigns. `hs` is the list of
    (IE id, criticality) of ALL IEs of the PDU, in order. -/
theorem C13_mandatory (E : Ext) (t : Template) (ht : t ∈ allTable) (ms : List (Nat × Nat)) (hm : mandatory t.message = some ms)
    (plmn : Bytes) (args : List Val) (pdu : Val) (h : Shaped E t plmn args pdu) :
    ∃ hs : List (Int × Nat), headers pdu = some (hs.map some) ∧ ∀ m ∈ ms, ((m.1 : Int), m.2) ∈ hs := by
  obtain ⟨tm, htm, hp⟩ := h
  have hT := List.all_eq_true.mp mandatory_table t ht
  unfold mandOK at hT
  rw [hm] at hT
  have hS := List.all_eq_true.mp hT tm htm
  cases hh : Tm.headers tm with
  | none => simp [hh] at hS
  | some hs =>
    simp only [hh] at hS
    refine ⟨hs, ?_, ?_⟩
    · subst hp; exact headers_eval E _ _ tm hs hh
    · intro m hmem
      have := List.all_eq_true.mp hS m hmem
      simpa using this


theorem amf_table : allTable.all amfOK = true := by decide +kernel
theorem ran_table : allTable.all ranOK = true := by decide +kernel
theorem nas_table : allTable.all nasOK = true := by decide +kernel
theorem psi_table : allTable.all psiOK = true := by decide +kernel
theorem psilist_table : allTable.all psiListOK = true := by decide +kernel
theorem name_table : allTable.all nameOK = true := by decide +kernel
theorem gnb_table : allTable.all gnbOK = true := by decide +kernel
theorem ip_table : allTable.all ipOK = true := by decide +kernel

/-! The identifiers, the NAS-PDU and the PDU session id first in the form in which the reference AMF reads them (`amf_exact` …
    `psi_item`: the whole value of the IE; Proofs/BuildersJudge.lean turns them into `Spec.Amf.ieInt` … `iePsis`), then as
    `Val.at` statements. -/

section
variable (E : Ext) (t : Template) (ht : t ∈ allTable) (i : Nat) (plmn : Bytes) (args : List Val) (pdu : Val)
  (h : Shaped E t plmn args pdu)
include ht h

theorem amf_exact (hi : roleIdx t .amf = some i) :
    ieValuesById pdu (amfIe t.message : Int) = some [some (.struct [(effEnv t plmn args).arg i])] := by
  have hT := List.all_eq_true.mp amf_table t ht
  unfold amfOK at hT
  rw [hi] at hT
  exact h.exact hT

theorem ran_exact (hi : roleIdx t .ran = some i) :
    ieValuesById pdu (ieRANUENGAPID : Int) = some [some (.struct [(effEnv t plmn args).arg i])] := by
  have hT := List.all_eq_true.mp ran_table t ht
  unfold ranOK at hT
  rw [hi] at hT
  exact h.exact hT

theorem nas_exact (hi : roleIdx t .nas = some i) :
    ieValuesById pdu (ieNASPDU : Int) = some [some (.struct [.octs (bytesOf ((effEnv t plmn args).arg i))])] ∨
    (i ∈ t.dims ∧ ieValuesById pdu (ieNASPDU : Int) = some []) := by
  obtain ⟨tm, htm, rfl⟩ := h
  have hT := List.all_eq_true.mp nas_table t ht
  unfold nasOK at hT
  rw [hi] at hT
  have hS := List.all_eq_true.mp hT tm htm
  simp only [Bool.or_eq_true, Bool.and_eq_true] at hS
  rcases hS with hS | ⟨hd, hS⟩
  · exact .inl (carriesExact_sound E (effEnv t plmn args) .nil tm _ _ hS)
  · exact .inr ⟨by simpa using hd, lacksIE_sound E _ _ tm _ hS⟩

theorem psi_item (hi : roleIdx t .psi = some i) :
    ∃ id rest, psiItemIe t.message = some id ∧
      ieValuesById pdu (id : Int) = some [some (.struct [.slice [.struct (.struct [(effEnv t plmn args).arg i] :: rest)]])] := by
  have hT := List.all_eq_true.mp psi_table t ht
  unfold psiOK at hT
  rw [hi] at hT
  cases hid : psiItemIe t.message with
  | none => simp [hid] at hT
  | some id =>
    simp only [hid] at hT
    obtain ⟨tm, htm, rfl⟩ := h
    obtain ⟨rest, h1⟩ := carriesItem_sound E (effEnv t plmn args) .nil tm id i (List.all_eq_true.mp hT tm htm)
    exact ⟨id, rest, rfl, h1⟩

end

/-- **C13_carries (AMF-UE-NGAP-ID)**: a builder that takes an AMF-UE-NGAP-ID returns a PDU with exactly one
    AMF UE NGAP ID IE (Source AMF UE NGAP ID in PATH SWITCH REQUEST) whose value is the argument. -/
theorem C13_carries_amf (E : Ext) (t : Template) (ht : t ∈ allTable) (i : Nat) (hi : roleIdx t .amf = some i)
    (plmn : Bytes) (args : List Val) (pdu : Val) (h : Shaped E t plmn args pdu) (a : Val) (ha : args[i]? = some a) :
    ∃ v, ieValuesById pdu (amfIe t.message : Int) = some [some v] ∧ Val.at [0] v = some a :=
  ⟨_, amf_exact E t ht i plmn args pdu h hi, by simp [Val.at, effEnv_arg t plmn args i a ha]⟩

/-- **C13_carries (RAN-UE-NGAP-ID)** -/
theorem C13_carries_ran (E : Ext) (t : Template) (ht : t ∈ allTable) (i : Nat) (hi : roleIdx t .ran = some i)
    (plmn : Bytes) (args : List Val) (pdu : Val) (h : Shaped E t plmn args pdu) (a : Val) (ha : args[i]? = some a) :
    ∃ v, ieValuesById pdu (ieRANUENGAPID : Int) = some [some v] ∧ Val.at [0] v = some a :=
  ⟨_, ran_exact E t ht i plmn args pdu h hi, by simp [Val.at, effEnv_arg t plmn args i a ha]⟩

/-- **C13_carries (NAS-PDU)**: exactly one NAS-PDU IE whose octets are the argument (a nil slice is the empty string);
    only a builder whose control flow tests the argument (`i ∈ t.dims`: PDU SESSION RESOURCE RELEASE COMMAND, `if nasPdu != nil`)
    may leave the IE out instead. -/
theorem C13_carries_nas (E : Ext) (t : Template) (ht : t ∈ allTable) (i : Nat) (hi : roleIdx t .nas = some i)
    (plmn : Bytes) (args : List Val) (pdu : Val) (h : Shaped E t plmn args pdu) (a : Val) (ha : args[i]? = some a) :
    (∃ v, ieValuesById pdu (ieNASPDU : Int) = some [some v] ∧ Val.at [0] v = some (.octs (bytesOf a))) ∨
    (i ∈ t.dims ∧ ieValuesById pdu (ieNASPDU : Int) = some []) :=
  (nas_exact E t ht i plmn args pdu h hi).imp
    (fun h1 => ⟨_, h1, by simp [Val.at, effEnv_arg t plmn args i a ha]⟩) id

/-- **C13_carries (PDU session id)**: the first item of the setup / released list of the response starts with the
    PDU Session ID the caller gave (`Val.at [0,0,0,0]`: list container → list → item 0 → PDUSessionID → value). -/
theorem C13_carries_psi (E : Ext) (t : Template) (ht : t ∈ allTable) (i : Nat) (hi : roleIdx t .psi = some i)
    (plmn : Bytes) (args : List Val) (pdu : Val) (h : Shaped E t plmn args pdu) (a : Val) (ha : args[i]? = some a) :
    ∃ id v, psiItemIe t.message = some id ∧ ieValuesById pdu (id : Int) = some [some v] ∧ Val.at [0, 0, 0, 0] v = some a := by
  obtain ⟨id, rest, hid, h1⟩ := psi_item E t ht i plmn args pdu h hi
  exact ⟨id, _, hid, h1, by simp [Val.at, effEnv_arg t plmn args i a ha]⟩

/-- **C13_carries (RAN node name)** (the NG Setup wrapper) -/
theorem C13_carries_name (E : Ext) (t : Template) (ht : t ∈ allTable) (i : Nat) (hi : roleIdx t .name = some i)
    (plmn : Bytes) (args : List Val) (pdu : Val) (h : Shaped E t plmn args pdu) (a : Val) (ha : args[i]? = some a) :
    ∃ v, ieValuesById pdu (ieRANNodeName : Int) = some [some v] ∧ Val.at [0] v = some (.str (bytesOf a)) := by
  have hT := List.all_eq_true.mp name_table t ht
  unfold nameOK at hT
  rw [hi] at hT
  obtain ⟨v, h1, h2⟩ := h.carries hT
  exact ⟨v, h1, by rw [h2]; simp [evalHole, effEnv_arg t plmn args i a ha]⟩

/-- **C13_carries (PDU session id list)**: UE CONTEXT RELEASE COMPLETE / REQUEST built from a non-nil list carry exactly one
    PDU Session Resource List whose items are the caller's ids, in order; built from a nil list they carry none. -/
theorem C13_carries_psilist (E : Ext) (t : Template) (ht : t ∈ allTable) (i : Nat) (hi : roleIdx t .psilist = some i)
    (plmn : Bytes) (args : List Val) (pdu : Val) (h : build E t plmn args = .ok pdu) :
    ∃ id, psiListIe t.message = some id ∧
      (∀ xs, args[i]? = some (.slice xs) →
        ieValuesById pdu (id : Int) = some [some (.struct [.slice (xs.map fun x => .struct [.struct [x], .nil])])]) ∧
      (args[i]? = some .nil → ieValuesById pdu (id : Int) = some []) := by
  have hT := List.all_eq_true.mp psilist_table t ht
  unfold psiListOK at hT
  rw [hi] at hT
  cases hid : psiListIe t.message with
  | none => simp [hid] at hT
  | some id =>
    simp only [hid, Bool.and_eq_true, beq_iff_eq] at hT
    obtain ⟨⟨hdims, hrole⟩, hcases⟩ := hT
    obtain ⟨c, hc, tm, hout, rfl, hslice, hnil⟩ := psilist_row E t i hdims hrole plmn args pdu h
    have hC := List.all_eq_true.mp hcases c hc
    rw [hout] at hC
    dsimp only at hC
    refine ⟨id, rfl, fun xs ha => ?_, fun ha => ?_⟩
    · have hne : ¬ c.cls = [0] := by simpa using hslice xs ha
      rw [if_neg hne] at hC
      exact carriesList_sound E (effEnv t plmn args) .nil tm _ i xs (effEnv_arg t plmn args i _ ha) hC
    · rw [if_pos (hnil ha)] at hC
      exact lacksIE_sound E _ _ tm _ hC

/-- **C13_carries (gNB id, NG SETUP REQUEST)**: the Global RAN Node ID holds the gNB id octets with the bit length the
    caller gave (`Val.at [1,0,1,1,0]`: GlobalGNBID alternative → GNBID field → gNB-ID alternative → BIT STRING). -/
theorem C13_carries_gnbid_ngsetup (E : Ext) (t : Template) (ht : t ∈ allTable) (i j : Nat)
    (hi : roleIdx t .gnbid = some i) (hj : roleIdx t .bitlen = some j)
    (plmn : Bytes) (args : List Val) (pdu : Val) (h : Shaped E t plmn args pdu)
    (g bl : Val) (hg : args[i]? = some g) (hb : args[j]? = some bl) :
    ∃ v, ieValuesById pdu (ieGlobalRANNodeID : Int) = some [some v] ∧
      Val.at [1, 0, 1, 1, 0] v = some (.bits (bytesOf g) (natOf bl)) := by
  have hT := List.all_eq_true.mp gnb_table t ht
  unfold gnbOK at hT
  rw [hi, hj] at hT
  cases hcell : roleIdx t .cellid with
  | some k => simp [hcell] at hT
  | none =>
    simp only [hcell, Bool.and_eq_true, List.all_eq_true] at hT
    obtain ⟨v, h1, h2⟩ := h.carries (List.all_eq_true.mpr fun tm htm => (hT tm htm).1)
    exact ⟨v, h1, by rw [h2]; simp [evalHole, effEnv_arg t plmn args i g hg, effEnv_arg t plmn args j bl hb]⟩

/-- **C13_carries (gNB id and cell id, HANDOVER REQUIRED)**: the Target ID holds the gNB id as a BIT STRING of all its octets;
    the source-to-target transparent container is the encoding (`marshalTransfer 1413`, "valueExt") of a
    SourceNGRANNode-ToTargetNGRANNode-TransparentContainer whose target cell NR CGI is gNB id ++ cell id, 36 bits. -/
theorem C13_carries_gnbid_handover (E : Ext) (t : Template) (ht : t ∈ allTable) (i j : Nat)
    (hi : roleIdx t .gnbid = some i) (hj : roleIdx t .cellid = some j)
    (plmn : Bytes) (args : List Val) (pdu : Val) (h : build E t plmn args = .ok pdu)
    (g c : Val) (hg : args[i]? = some g) (hc : args[j]? = some c) :
    (∃ v, ieValuesById pdu (ieTargetID : Int) = some [some v] ∧
      Val.at [1, 0, 0, 1, 0, 1, 1, 0] v = some (.bits (bytesOf g) (8 * (bytesOf g).length))) ∧
    (∃ v b w, ieValuesById pdu (ieSourceToTargetTransparentContainer : Int) = some [some v] ∧ Val.at [0] v = some (.octs b) ∧
      marshalTransfer 1413 w = .ok b ∧ Val.at [3, 1, 0, 1, 0] w = some (.bits (bytesOf g ++ bytesOf c) 36)) := by
  have hT := List.all_eq_true.mp gnb_table t ht
  unfold gnbOK at hT
  rw [hi, hj] at hT
  cases hbl : roleIdx t .bitlen with
  | some k => simp [hbl] at hT
  | none =>
    simp only [hbl, Bool.and_eq_true] at hT
    obtain ⟨v, h1, h2⟩ := (build_shaped E t plmn args pdu h).carries hT.1
    obtain ⟨v', b, w, k1, k2, k3, k4⟩ := build_carriesEnc h hT.2
    refine ⟨⟨v, h1, ?_⟩, ⟨v', b, w, k1, k2, k3, ?_⟩⟩
    · rw [h2]; simp [evalHole, effEnv_arg t plmn args i g hg]
    · rw [k4]; simp [evalHole, effEnv_arg t plmn args i g hg, effEnv_arg t plmn args j c hc]

/-- **C13_carries (GTP transport address)**: the first item of the setup list holds octets `b` that are the encoding
    (`marshalTransfer 1360`, "valueExt") of a PDUSessionResourceSetupResponseTransfer `w` whose GTP tunnel transport layer
    address (`Val.at [0,0,1,0,0,0]`) is `IPAddressToNgap(ipv4, "")` — 32 bits, the four octets of `net.ParseIP(ipv4).To4()`. -/
theorem C13_carries_tla (E : Ext) (t : Template) (ht : t ∈ allTable) (i : Nat) (hi : roleIdx t .ip = some i)
    (plmn : Bytes) (args : List Val) (pdu : Val) (h : build E t plmn args = .ok pdu) :
    ∃ id v b w, psiItemIe t.message = some id ∧ ieValuesById pdu (id : Int) = some [some v] ∧
      Val.at [0, 0, 1] v = some (.octs b) ∧ marshalTransfer 1360 w = .ok b ∧
      Val.at [0, 0, 1, 0, 0, 0] w = some (evalHole E { plmn := plmn, args := args } .nil (.ip4 i)) := by
  have hT := List.all_eq_true.mp ip_table t ht
  unfold ipOK at hT
  rw [hi] at hT
  cases hid : psiItemIe t.message with
  | none => simp [hid] at hT
  | some id =>
    simp only [hid] at hT
    obtain ⟨v, b, w, k1, k2, k3, k4⟩ := build_carriesEnc h hT
    exact ⟨id, v, b, w, rfl, k1, k2, k3, by rw [k4]; simp [evalHole, BEnv.arg, effEnv]⟩

/-- what `evalHole … (.ip4 i)` is: the model of `ngapConvert.IPAddressToNgap(ipv4, "")` (Model/Convert.lean) -/
theorem ip4_hole (E : Ext) (plmn : Bytes) (args : List Val) (i : Nat) (s : Bytes) (ha : args[i]? = some (.str s))
    (b : BitStr) (hb : ipAddressToNgap E s [] = .ok b) :
    evalHole E { plmn := plmn, args := args } .nil (.ip4 i) = .bits b.bytes b.bitLength := by
  simp [evalHole, BEnv.arg, ha, bytesOf, hb]


/-! ## the analyses that walk a skeleton along the regenerated schema

  Helper lemmas: parts 1, 2 Proofs/BuildersOk*.lean (one value predicate `okV` ⇒ C03's `regular`, C04's `conf`, and "the
  X.691 specification encodes it"), parts 3, 4 Proofs/BuildersTm*.lean (static analysis `tmOK` of a skeleton against the
  schema, the obligations `obls` it leaves to the arguments, soundness), part 5 Proofs/BuildersRange.lean (`InRange`),
  parts 6, 7 Proofs/BuildersRefuse*.lean (`badV` ⇒ the encoder model returns an error), part 8 Proofs/BuildersRoles.lean
  (the obligations role by role: `ArgsInRange`). -/

section Schema
open Stgutg.Proofs.BuildersOk Stgutg.Proofs.BuildersTm Stgutg.Proofs.BuildersRange Stgutg.Proofs.BuildersRoles
open Stgutg.Proofs.BuildersRefuse

/- FINDING F37 (found by this analysis, confirmed on the real code, FIXED in /repo f4784a9): `BuildPDUSessionResourceReleaseCommand`
   called with a paging priority tagged the RAN Paging Priority value with IE id 52 (PagingPriority) instead of 83
   (RANPagingPriority); the open type did not match its identifier and `ngap.Encoder` refused the builder's own PDU for all
   arguments. `skeleton_table` / `C13_encodes` hold of the repaired code without exception
   (replay: harness/corpus/builders/f37-release-command-paging-priority-id.ops). -/

/-- the constants of `BuildHandoverNotify` / `BuildLocationReport` contain a 28-bit E-UTRA cell identity whose last octet has
    bits set beyond the 28th (`0xff`, `0x13`): the encoder masks them, so the PDU is encoded but the decoder returns the
    masked octets, not the builder's value. Excluded from `C13_decodes_back` only. -/
def NonCanonicalConst (t : Template) : Bool :=
  t.message == .HandoverNotify || t.message == .LocationReport

/-- a skeleton passes the static analysis — for encoding, and (two builders excepted) for the round trip —, and every
    obligation it leaves to the arguments is either one of the explicit role kinds at a position with exactly the promised
    constraints, or concerns a caller-supplied value without a fixed range -/
def skeletonOK (t : Template) (tm : Tm) : Bool :=
  (skOK false tm && (skOK true tm || NonCanonicalConst t)) && (skObls tm).all (fun o => explicitOK t o || genericOK t o)

/-- the ASN.1 range of an identifier role: AMF-UE-NGAP-ID 0..2^40−1, RAN-UE-NGAP-ID 0..2^32−1, PDU session ID 0..255 -/
def idUpper : Role → Option Int
  | .amf => some (2 ^ 40 - 1)
  | .ran => some (2 ^ 32 - 1)
  | .psi => some 255
  | _ => none

/-- the skeleton's encoder path reaches the hole `h` at an INTEGER constrained to exactly `0..ub` -/
def skReach (h : Hole) (ub : Int) (tm : Tm) : Bool :=
  tmReach Gen.Ngap.schema h 0 ub skDepth Builders.fuel (.struct Gen.Ngap.pduId) Gen.Ngap.encoderParams tm

def reachOK (r : Role) (t : Template) : Bool :=
  match roleIdx t r, idUpper r with
  | some i, some ub => (skeletons t).all (skReach (.arg i) ub)
  | _, _ => true

/-- in every row of the decision table that ranges over the PDU session id list argument (every row but the one for a nil
    list), the encoder reaches the loop variable at an INTEGER constrained to exactly 0..255 -/
def reachListOK (t : Template) : Bool :=
  match roleIdx t .psilist with
  | some i =>
    t.dims == [i] && roleAt t i == .psilist && t.allVal fun c tm => c.cls == [0] ||
      tmReachList Gen.Ngap.schema i 0 255 skDepth Builders.fuel (.struct Gen.Ngap.pduId) Gen.Ngap.encoderParams tm
  | none => true

/-- the analyses of every skeleton of every builder against the regenerated schema, stated as ONE fact and projected
    below (`schema_facts`): all of them descend the same skeletons along the same types and look up the same
    `Gen.Ngap.schema[id]?` (a walk of `id` cells of the 1 431-entry list) at every SEQUENCE / CHOICE position, and the kernel
    shares the value of a term it has already evaluated only within the declaration it is checking -/
theorem schema_tables :
    (allTable.all fun t => t.allVal (fun _ tm => skeletonOK t tm) && plmnOK t &&
      (reachOK .amf t && reachOK .ran t && reachOK .psi t) && reachListOK t &&
      (t.allVal fun c tm => !fixedRow t c || plain t tm)) = true := by decide +kernel

theorem schema_facts (t : Template) (ht : t ∈ allTable) :
    (((t.allVal (fun _ tm => skeletonOK t tm) = true ∧ plmnOK t = true) ∧
      (reachOK .amf t && reachOK .ran t && reachOK .psi t) = true) ∧ reachListOK t = true) ∧
    (t.allVal fun c tm => !fixedRow t c || plain t tm) = true := by
  simpa only [Bool.and_eq_true] using List.all_eq_true.mp schema_tables t ht

/-- a row that finds every parameter without a fixed range nil or empty leaves only obligations of the explicit kinds and none
    about a list -/
theorem plain_of_fixedRow (t : Template) (ht : t ∈ allTable) (c : Case) (hc : c ∈ t.cases) (tm : Tm) (hout : c.out = .val tm)
    (hf : fixedRow t c = true) : plain t tm = true := by
  have h := (allVal_eq_true t _).mp (schema_facts t ht).2 c hc tm hout
  simpa only [hf, Bool.not_true, Bool.false_or] using h

theorem plmn_table : allTable.all plmnOK = true := List.all_eq_true.mpr fun t ht => (schema_facts t ht).1.1.1.2

/-- table fact: every skeleton of every builder passes the static analysis (`skeletonOK`) -/
theorem skeleton_table :
    (allTable.all fun t => t.cases.all fun c =>
      match c.out with
      | .val tm =>
        (skOK false tm && (skOK true tm || NonCanonicalConst t)) &&
        (skObls tm).all (fun o => explicitOK t o || genericOK t o)
      | _ => true) = true := List.all_eq_true.mpr fun t ht => (schema_facts t ht).1.1.1.1

/-- table fact: in every skeleton of every builder that takes an AMF-UE-NGAP-ID / RAN-UE-NGAP-ID / PDU session id, the
    encoder reaches the argument at an INTEGER position constrained to exactly the identifier's range, no extension marker -/
theorem reach_table : (allTable.all fun t => reachOK .amf t && reachOK .ran t && reachOK .psi t) = true :=
  List.all_eq_true.mpr fun t ht => (schema_facts t ht).1.1.2

theorem reach_list_table : allTable.all reachListOK = true := List.all_eq_true.mpr fun t ht => (schema_facts t ht).1.2

end Schema

/-- the PLMN a builder reads from `TestPlmn`: the one this very call announces (`BuildNGSetupRequest(mobilePLMN)` assigns
    `TestPlmn` first), otherwise the state left by the last NG Setup -/
def effPlmn (t : Template) (plmn : Bytes) (args : List Val) : Bytes := (effEnv t plmn args).plmn

/-- **C13_plmn**: the PDU a builder returns is the evaluation of a skeleton `tm` of its template in which EVERY position
    whose schema type is `PLMNIdentity` (`sitesOf`: traversal of the skeleton directed by the regenerated NGAP schema,
    entering nested transfer containers with their own type, not entering caller-supplied values) holds `TestPlmn`;
    for the positions outside nested encodings this is a statement about the returned value itself:
    `Val.at position pdu = PLMNIdentity{TestPlmn}`. -/
theorem C13_plmn (E : Ext) (t : Template) (ht : t ∈ allTable) (plmn : Bytes) (args : List Val) (pdu : Val)
    (h : Shaped E t plmn args pdu) :
    ∃ tm ∈ skeletons t, pdu = eval E (effEnv t plmn args) .nil tm ∧
      ∀ site ∈ sitesOf tm,
        eval E (effEnv t plmn args) .nil site.2.2 = .struct [.octs (effPlmn t plmn args)] ∧
        (site.2.1 = false → Val.at site.1 pdu = some (.struct [.octs (effPlmn t plmn args)])) := by
  obtain ⟨tm, htm, hp⟩ := h
  have hT := List.all_eq_true.mp plmn_table t ht
  have hS := List.all_eq_true.mp hT tm htm
  refine ⟨tm, htm, hp, ?_⟩
  intro site hsite
  have hs := List.all_eq_true.mp hS site hsite
  simp only [Bool.and_eq_true, Bool.or_eq_true] at hs
  refine ⟨isPlmnT_eval E _ _ _ hs.1, ?_⟩
  intro hn
  rcases hs.2 with hnn | hat
  · rw [hn] at hnn; simp at hnn
  · cases hq : Tm.at site.1 tm with
    | none => simp [hq] at hat
    | some s' =>
      simp only [hq] at hat
      subst hp
      rw [eval_at E _ _ site.1 tm s' hq]
      rw [isPlmnT_eval E _ _ s' hat]
      rfl


/-! ## the builders encode for all in-range arguments, and refuse out-of-range identifiers -/

open Stgutg.Proofs.BuildersOk Stgutg.Proofs.BuildersTm Stgutg.Proofs.BuildersRange Stgutg.Proofs.BuildersRoles
open Stgutg.Proofs.BuildersRefuse

theorem skeleton_facts (t : Template) (ht : t ∈ allTable) (c : Case) (hc : c ∈ t.cases) (tm : Tm) (hout : c.out = .val tm) :
    (skOK false tm = true ∧ (skOK true tm = true ∨ NonCanonicalConst t = true)) ∧
    ∀ o ∈ skObls tm, explicitOK t o = true ∨ genericOK t o = true := by
  have h := (allVal_eq_true t _).mp (schema_facts t ht).1.1.1.1 c hc tm hout
  simpa only [skeletonOK, Bool.and_eq_true, Bool.or_eq_true, List.all_eq_true] using h

/-- **C13_encodes**: for every builder of the table and all arguments in range (`InRange false`: they select a row of the
    decision table that returns a PDU and fill every hole of its skeleton with a value of the type and within the
    constraints of its position — `C13_in_range` states this role by role), the builder returns a PDU, `ngap.Encoder`
    (model) returns octets for it, and these octets are the complete X.691 ALIGNED PER encoding of the PDU (C03). -/
theorem C13_encodes (E : Ext) (t : Template) (ht : t ∈ allTable) (plmn : Bytes) (args : List Val)
    (h : InRange false E t plmn args) :
    ∃ pdu bs, build E t plmn args = .ok pdu ∧ encodePdu pdu = .ok bs ∧
      Spec.X691.encodePdu Gen.Ngap.schema Builders.fuel (.struct Gen.Ngap.pduId) Gen.Ngap.encoderParams pdu = some bs := by
  obtain ⟨c, tm, hsel, hout, hob⟩ := h
  have hsk : skOK false tm = true := (skeleton_facts t ht c (selected_mem E t plmn args c hsel) tm hout).1.1
  obtain ⟨hb, hv⟩ := selected_builds false E t plmn args c tm hsel hout hsk hob
  obtain ⟨bs, h1, h2⟩ := okV_pdu_encodes false _ hv
  exact ⟨_, bs, hb, h1, h2⟩

set_option maxRecDepth 1000000 in
/-- the hypothesis `InRange` is satisfiable (the general case, role by role: `C13_in_range`; for the messages of the
    registration path with explicit ranges: Proofs/BuildersPath.lean): UPLINK NAS TRANSPORT with the largest identifiers -/
example : InRange true Model.NetExt.goExt tUplinkNasTransport [0x02, 0xf8, 0x39]
    [.int (2 ^ 40 - 1), .int (2 ^ 32 - 1), .octs [0x7e, 0x00, 0x41]] := by
  refine ⟨⟨[], .val _⟩, _, rfl, rfl, ?_⟩
  have h : ((skObls (initiating 46 Builders.ignore 48 [
      amfIE Builders.reject 4 1 0, ranIE Builders.reject 4 2 1,
      ieT idNAS Builders.reject 4 3 (.struct [.hole (.argOcts 2)]),
      ieT idULI Builders.ignore 4 4 (userLocationNR [0, 0, 0, 0, 0x10] [0, 0, 1])])).all fun o =>
        Obl.ok Gen.Ngap.schema true Model.NetExt.goExt (effEnv tUplinkNasTransport [0x02, 0xf8, 0x39]
          [.int (2 ^ 40 - 1), .int (2 ^ 32 - 1), .octs [0x7e, 0x00, 0x41]]) .nil o) = true := by decide +kernel
  exact fun o ho => List.all_eq_true.mp h o ho

set_option maxRecDepth 1000000 in
/-- … also with a caller-supplied ngapType value and a non-empty PDU session id list: UE CONTEXT RELEASE COMPLETE for
    sessions 1 and 255 -/
example : InRange true Model.NetExt.goExt tUEContextReleaseComplete [0x02, 0xf8, 0x39]
    [.int 1, .int 2, .slice [.int 1, .int 255]] := by
  refine ⟨⟨[2], .val (successful 41 Builders.reject 16 (ueCtxRelCompleteIEs true))⟩, _, rfl, rfl, ?_⟩
  have h : ((skObls (successful 41 Builders.reject 16 (ueCtxRelCompleteIEs true))).all fun o =>
        Obl.ok Gen.Ngap.schema true Model.NetExt.goExt (effEnv tUEContextReleaseComplete [0x02, 0xf8, 0x39]
          [.int 1, .int 2, .slice [.int 1, .int 255]]) .nil o) = true := by decide +kernel
  exact fun o ho => List.all_eq_true.mp h o ho

/-- **C13_decodes_back**: with bit strings in canonical form (`InRange true`: unused bits of a gNB id's last octet clear)
    the library decoder (model) returns, from the octets `ngap.Encoder` produced, exactly the PDU the builder made (C04) —
    so every "carries" theorem above is a statement about what the receiver decodes. -/
theorem C13_decodes_back (E : Ext) (t : Template) (ht : t ∈ allTable) (plmn : Bytes) (args : List Val)
    (h : InRange true E t plmn args) (hnc : NonCanonicalConst t = false) :
    ∃ pdu bs, build E t plmn args = .ok pdu ∧ encodePdu pdu = .ok bs ∧
      unmarshal Gen.Ngap.schema Builders.fuel (.struct Gen.Ngap.pduId) Gen.Ngap.decoderParams bs = .ok pdu := by
  obtain ⟨c, tm, hsel, hout, hob⟩ := h
  have hsk : skOK true tm = true := by
    rcases (skeleton_facts t ht c (selected_mem E t plmn args c hsel) tm hout).1.2 with h2 | h2
    · exact h2
    · rw [hnc] at h2; cases h2
  obtain ⟨hb, hv⟩ := selected_builds true E t plmn args c tm hsel hout hsk hob
  obtain ⟨bs, h1, _⟩ := okV_pdu_encodes true _ hv
  exact ⟨_, bs, hb, h1, okV_pdu_decodes _ bs hv h1⟩

/-- **C13_in_range**: `InRange`, role by role. The arguments select the row `c` with skeleton `tm`; the identifiers, PLMN,
    address, name, gNB id and session id list are in the explicit ranges of `ArgsInRange`; every caller-supplied ngapType
    value / string / integer of a role without a fixed range (AMF-side builders; the 5G-S-TMSI text) conforms to the type at
    the position the builder puts it (`genericOK` obligations). -/
theorem C13_in_range (canon : Bool) (E : Ext) (t : Template) (ht : t ∈ allTable) (plmn : Bytes) (args : List Val)
    (c : Case) (tm : Tm) (hsel : selected E t plmn args = some c) (hout : c.out = .val tm)
    (hr : ArgsInRange canon E t (effEnv t plmn args) tm)
    (hgen : ∀ o ∈ skObls tm, genericOK t o = true → Obl.ok Gen.Ngap.schema canon E (effEnv t plmn args) .nil o = true) :
    InRange canon E t plmn args := by
  refine ⟨c, tm, hsel, hout, fun o ho => ?_⟩
  rcases (skeleton_facts t ht c (selected_mem E t plmn args c hsel) tm hout).2 o ho with h1 | h1
  · exact explicit_sound canon E t _ tm hr o ho h1
  · exact hgen o ho h1

/-- the hypotheses of `C13_refuses` are satisfiable: UPLINK NAS TRANSPORT with AMF-UE-NGAP-ID 2^40 -/
example (E : Ext) : Shaped E tUplinkNasTransport [0x02, 0xf8, 0x39] [.int (2 ^ 40), .int 7, .octs []]
    (eval E (effEnv tUplinkNasTransport [0x02, 0xf8, 0x39] [.int (2 ^ 40), .int 7, .octs []]) .nil
      (initiating 46 Builders.ignore 48 [amfIE Builders.reject 4 1 0, ranIE Builders.reject 4 2 1,
        ieT idNAS Builders.reject 4 3 (.struct [.hole (.argOcts 2)]),
        ieT idULI Builders.ignore 4 4 (userLocationNR [0, 0, 0, 0, 0x10] [0, 0, 1])])) ∧
    roleIdx tUplinkNasTransport .amf = some 0 ∧ idUpper .amf = some (2 ^ 40 - 1) ∧ (2 ^ 40 - 1 : Int) < 2 ^ 40 :=
  ⟨⟨_, by simp [skeletons, tUplinkNasTransport], rfl⟩, by decide, rfl, by decide⟩

/-- **C13_refuses**: an identifier outside its ASN.1 range is refused with an error, never truncated: for every builder
    that takes an AMF-UE-NGAP-ID (`r = .amf`), RAN-UE-NGAP-ID (`.ran`) or PDU session id (`.psi`), whatever the other
    arguments are, if that argument is negative or above 2^40−1 / 2^32−1 / 255, then `ngap.Encoder` (model) does not
    return octets for the PDU the builder (or the wrapper) made. -/
theorem C13_refuses (E : Ext) (t : Template) (ht : t ∈ allTable) (r : Role) (ub : Int) (hub : idUpper r = some ub)
    (hr : r = .amf ∨ r = .ran ∨ r = .psi) (i : Nat) (hi : roleIdx t r = some i)
    (plmn : Bytes) (args : List Val) (pdu : Val) (h : Shaped E t plmn args pdu)
    (n : Int) (ha : args[i]? = some (.int n)) (hout : n < 0 ∨ ub < n) :
    ∀ bs, encodePdu pdu ≠ .ok bs := by
  obtain ⟨tm, htm, rfl⟩ := h
  have hT := List.all_eq_true.mp reach_table t ht
  simp only [Bool.and_eq_true] at hT
  have hR : reachOK r t = true := by
    rcases hr with rfl | rfl | rfl
    · exact hT.1.1
    · exact hT.1.2
    · exact hT.2
  unfold reachOK at hR
  rw [hi, hub] at hR
  have hev : evalHole E (effEnv t plmn args) .nil (.arg i) = .int n := by
    simp [evalHole, effEnv_arg t plmn args i _ ha]
  exact badV_pdu_refused _ (tmReach_sound E (effEnv t plmn args) Gen.Ngap.schema (.arg i) 0 ub n hout skDepth Builders.fuel _ _ tm
    .nil hev (List.all_eq_true.mp hR tm htm))

/-- **C13_refuses (PDU session id list)**: UE CONTEXT RELEASE COMPLETE / REQUEST built from a list that contains a PDU
    session id outside 0..255 is never encoded, whatever the other arguments and the other elements are. -/
theorem C13_refuses_list (E : Ext) (t : Template) (ht : t ∈ allTable) (i : Nat) (hi : roleIdx t .psilist = some i)
    (plmn : Bytes) (args : List Val) (pdu : Val) (h : build E t plmn args = .ok pdu)
    (xs : List Val) (ha : args[i]? = some (.slice xs)) (n : Int) (hmem : Val.int n ∈ xs) (hout : n < 0 ∨ 255 < n) :
    ∀ bs, encodePdu pdu ≠ .ok bs := by
  have hT := List.all_eq_true.mp reach_list_table t ht
  unfold reachListOK at hT
  rw [hi] at hT
  simp only [Bool.and_eq_true, beq_iff_eq] at hT
  obtain ⟨⟨hdims, hrole⟩, hcases⟩ := hT
  obtain ⟨c, hc, tm, hcout, rfl, hslice, _⟩ := psilist_row E t i hdims hrole plmn args pdu h
  have hC := (allVal_eq_true t _).mp hcases c hc tm hcout
  simp only [hslice xs ha, Bool.false_or] at hC
  exact badV_pdu_refused _ (tmReachList_sound E (effEnv t plmn args) Gen.Ngap.schema i 0 255 n hout xs
    (effEnv_arg t plmn args i _ ha) hmem skDepth Builders.fuel _ _ tm .nil hC)

end Stgutg.Props.C13
