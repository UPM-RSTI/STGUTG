/-
  C08 — the NAS message codec is lossless for all 45 message types.
  Property theorems only; helper lemmas live in Stgutg/Proofs/NasCodec.lean.

  `Layout` is what `gen naslayout` extracts from the generated Go codec, `encode`/`decode` is the hand
  model of the statement shapes (Model/NasCodec.lean, tied by `corr nas-rt`), `LayoutWF`/`MsgWF` are the
  decidable predicates of Model/NasWF.lean.  The generic theorems quantify over EVERY well-formed layout and
  message; the table facts instantiate them at the 45 layouts regenerated from the source on every run.
-/
import Stgutg.Proofs.NasCodec
import Stgutg.Gen.NasLayouts

namespace Stgutg.Props.C08
open Stgutg Stgutg.Nas

/-- decoding the encoding of any well-formed message yields the message (any subset of optional IEs, any
    field values, any IE length within the IE's capacity) -/
theorem nas_decode_encode (L : Layout) (m : Msg) (hL : LayoutWF L) (hm : MsgWF L m) :
    (encode L m).bind (decode L) = .ok m := by
  obtain ⟨bs, henc, hdec⟩ := encode_decode_ok L m hL hm
  rw [henc]
  exact hdec

/-- encoding never fails or panics on a well-formed message -/
theorem nas_encode_ok (L : Layout) (m : Msg) (hL : LayoutWF L) (hm : MsgWF L m) :
    ∃ bs, encode L m = .ok bs := by
  obtain ⟨bs, henc, _⟩ := encode_decode_ok L m hL hm
  exact ⟨bs, henc⟩

/-- the byte strings of layout `L` "in canonical IE order": the encodings of its well-formed messages
    (mandatory part, then each present optional IE once, in table order, `Len` = number of value octets) -/
def canonicalLang (L : Layout) (bs : Bytes) : Prop := ∃ m, MsgWF L m ∧ encode L m = .ok bs

/-- encoding what was decoded from a canonical byte string reproduces the bytes -/
theorem nas_encode_decode (L : Layout) (hL : LayoutWF L) (bs : Bytes) (h : canonicalLang L bs) :
    (decode L bs).bind (encode L) = .ok bs := by
  obtain ⟨m, hm, henc⟩ := h
  have := nas_decode_encode L m hL hm
  rw [henc] at this
  simp only [Except.bind] at this
  rw [this]
  exact henc

/-- optional IEs are recognised whatever order they arrive in: the mandatory part followed by ANY
    permutation of the message's optional IE encodings decodes like the canonical order (to the message) -/
theorem nas_order_insensitive (L : Layout) (m : Msg) (hL : LayoutWF L) (hm : MsgWF L m)
    (mand : Bytes) (hmand : encGroups L.fields m false L.encMand = .ok mand)
    (ps : List (Nat × Bytes)) (hperm : ps.Perm (optPieces L.fields m L.encOpt)) :
    encode L m = .ok (mand ++ ((optPieces L.fields m L.encOpt).map (·.2)).flatten) ∧
    decode L (mand ++ (ps.map (·.2)).flatten) =
      decode L (mand ++ ((optPieces L.fields m L.encOpt).map (·.2)).flatten) ∧
    decode L (mand ++ (ps.map (·.2)).flatten) = .ok m := by
  obtain ⟨mand', hmand', henc, hdec⟩ := decode_pieces L m hL hm
  rw [hmand] at hmand'
  cases hmand'
  have h1 := hdec ps (fun p hp => hperm.mem_iff.mp hp)
    (fun p hp => List.mem_map_of_mem (hperm.mem_iff.mpr hp))
  have h2 := hdec _ (fun _ h => h) (fun p hp => List.mem_map_of_mem hp)
  exact ⟨henc, by rw [h1, h2], h1⟩

/-- through the message-type dispatch of nas.go: `PlainNasDecode (PlainNasEncode M) = M` for a `nas.Message`
    whose header octets are those of its (well-formed) embedded message -/
theorem nas_plain_roundtrip (C : Codec) (hC : CodecWF C) (pm : PlainMsg) (hp : PlainWF C pm) :
    (plainEncode C pm).bind (plainDecode C) = .ok pm := by
  simp only [CodecWF, codecWF, Bool.and_eq_true, bne_iff_ne, ne_eq] at hC
  obtain ⟨⟨⟨hgmm, hgsm⟩, hepd⟩, _⟩ := hC
  simp only [PlainWF, plainWF, Bool.and_eq_true] at hp
  obtain ⟨h1, h2⟩ := hp
  generalize hd : (if pm.gsm = true then C.gsm else C.gmm) = d at h1 h2
  have hdw : dispatchWF C.layouts d = true := by
    rw [← hd]; split <;> assumption
  split at h1
  case h_2 => simp at h1
  rename_i e t he0 ht0
  simp only [Bool.and_eq_true, beq_iff_eq] at h1
  obtain ⟨hepd', hlk⟩ := h1
  obtain ⟨_, hti, hpos, L, hL, hLwf⟩ := dispatchWF_layout C.layouts d hdw t.toNat pm.idx hlk
  simp only [hL, Bool.and_eq_true] at h2
  obtain ⟨hm, h3⟩ := h2
  obtain ⟨bs, hbs, hdec⟩ := encode_decode_ok L pm.body hLwf hm
  simp only [hbs, Bool.and_eq_true, decide_eq_true_eq, beq_iff_eq] at h3
  obtain ⟨hlen, hhdr⟩ := h3
  cases bs with
  | nil => simp at hlen; omega
  | cons b rest =>
    rw [hhdr, List.getElem?_take] at he0 ht0
    simp only [show 0 < d.hdrLen by omega, hti, if_true, List.getElem?_cons_zero, Option.some.injEq] at he0 ht0
    subst he0
    obtain ⟨p1, p2⟩ := plain_of_encode C pm.gsm d hd.symm hdw hepd hlk hL hbs hdec hepd' hlen ht0
    obtain ⟨g, h, i, m⟩ := pm
    simp only at hhdr p1 p2 ⊢
    subst hhdr
    rw [p2]
    exact p1

/-- unknown message types are reported as errors (decode side): a message whose EPD is 5GMM / 5GSM but
    whose message-type octet is in no `case` of the dispatch is refused -/
theorem nas_unknown_type (C : Codec) (bytes : Bytes) (gsm : Bool) (e t : UInt8)
    (d : Dispatch) (hd : d = if gsm then C.gsm else C.gmm)
    (hne : C.gmm.epd ≠ C.gsm.epd)
    (h0 : bytes[0]? = some e) (he : e.toNat = d.epd) (hlen : d.hdrLen ≤ bytes.length)
    (ht : bytes[d.typeIdx]? = some t) (hti : d.typeIdx < d.hdrLen)
    (hno : d.dec.lookup t.toNat = none) :
    plainDecode C bytes = .error .error := by
  cases bytes with
  | nil => simp at h0
  | cons b rest =>
    simp at h0
    subst h0
    have htake : ((b :: rest).take d.hdrLen)[d.typeIdx]? = some t := by
      rw [List.getElem?_take]; simp [hti, ht]
    rw [plainDecode_dispatch C gsm d hd hne b rest he hlen]
    simp only [htake, hno]

/-- an EPD that is neither 5GMM nor 5GSM is refused -/
theorem nas_unknown_epd (C : Codec) (b : UInt8) (rest : Bytes)
    (h1 : b.toNat ≠ C.gmm.epd) (h2 : b.toNat ≠ C.gsm.epd) :
    plainDecode C (b :: rest) = .error .error := by
  simp [plainDecode, h1, h2]

/-- unknown message types are reported as errors (encode side) -/
theorem nas_unknown_type_encode (C : Codec) (pm : PlainMsg) (t : UInt8)
    (ht : pm.hdr[(if pm.gsm then C.gsm else C.gmm).typeIdx]? = some t)
    (hno : (if pm.gsm then C.gsm else C.gmm).enc.lookup t.toNat = none) :
    plainEncode C pm = .error .error := by
  simp only [plainEncode, ht, hno]

/-- the codec as extracted from the working tree -/
def codec : Codec := { layouts := Gen.Nas.layouts, gmm := Gen.Nas.dispatchGmm, gsm := Gen.Nas.dispatchGsm }

theorem layouts_count : Gen.Nas.layouts.length = 45 := by decide

/-- every one of the 45 extracted layouts is well-formed: encode and decode statements pair up field by
    field with a lossless statement pairing, there is exactly one decode case per optional IE, the IEI
    constants are pairwise distinct under the decoder's own `ieiN >= 0x80 → high nibble` rule, half-octet
    IEIs are 8..15 and full-octet IEIs < 0x80 (so neither shadows the other) -/
theorem layouts_wf : ∀ L ∈ Gen.Nas.layouts, LayoutWF L := by decide +kernel

/-- nas.go: decode and encode switches list the same (type, message) pairs, types and messages pairwise
    distinct, all 28 + 16 dispatched layouts are well-formed and start with the header octets -/
theorem codec_wf : CodecWF codec := by decide +kernel

theorem dispatch_count : Gen.Nas.dispatchGmm.dec.length = 28 ∧ Gen.Nas.dispatchGsm.dec.length = 16 := by decide

/-- C08 for the code in the tree: all 45 message types, every well-formed message -/
theorem C08_roundtrip : ∀ L ∈ Gen.Nas.layouts, ∀ m, MsgWF L m → (encode L m).bind (decode L) = .ok m :=
  fun L hL m hm => nas_decode_encode L m (layouts_wf L hL) hm

theorem C08_reencode : ∀ L ∈ Gen.Nas.layouts, ∀ bs, canonicalLang L bs → (decode L bs).bind (encode L) = .ok bs :=
  fun L hL bs h => nas_encode_decode L (layouts_wf L hL) bs h

theorem C08_plain_roundtrip : ∀ pm, PlainWF codec pm → (plainEncode codec pm).bind (plainDecode codec) = .ok pm :=
  fun pm hp => nas_plain_roundtrip codec codec_wf pm hp

/-- a message type octet outside the 28 5GMM / 16 5GSM values is an error -/
theorem C08_unknown_type_gmm (bytes : Bytes) (t : UInt8) (h0 : bytes[0]? = some 0x7E) (hlen : 3 ≤ bytes.length)
    (ht : bytes[2]? = some t) (hno : Gen.Nas.dispatchGmm.dec.lookup t.toNat = none) :
    plainDecode codec bytes = .error .error :=
  nas_unknown_type codec bytes false 0x7E t Gen.Nas.dispatchGmm rfl (by decide) h0 (by decide) hlen ht (by decide) hno

theorem C08_unknown_type_gsm (bytes : Bytes) (t : UInt8) (h0 : bytes[0]? = some 0x2E) (hlen : 4 ≤ bytes.length)
    (ht : bytes[3]? = some t) (hno : Gen.Nas.dispatchGsm.dec.lookup t.toNat = none) :
    plainDecode codec bytes = .error .error :=
  nas_unknown_type codec bytes true 0x2E t Gen.Nas.dispatchGsm rfl (by decide) h0 (by decide) hlen ht (by decide) hno

/-! ## the hypotheses are satisfiable -/

def sampleVal (s : Shape) (iei : Nat) (e : List WOp) : Val :=
  match e with
  | [.octet] => if s.hasIei || iei = 0 then { data := List.replicate s.body.size 0 }
                else { data := [UInt8.ofNat (iei * 16 + 5)] }
  | [.iei, .len, .buf] => { iei := iei, len := 1, data := [0xA5] }
  | [.len, .buf] => { len := 1, data := [0xA5] }
  | [.iei, .len, .octetLen] => { iei := iei, len := 1, data := 0xA5 :: List.replicate (s.body.size - 1) 0 }
  | [.iei, .len, .octet] | [.len, .octet] => { iei := iei, len := 1, data := List.replicate s.body.size 0x5A }
  | [.iei, .octet] => { iei := iei, data := List.replicate s.body.size 0x5A }
  | _ => {}

/-- a message with every optional IE present, one value octet where a length is free -/
def sampleMsg (L : Layout) : Msg :=
  (L.encMand.map fun g => (L.fields[g.1]?).map fun f => sampleVal f.shape 0 g.2) ++
  (L.encOpt.zip L.cases).map fun p => (L.fields[p.1.1]?).map fun f => sampleVal f.shape p.2.iei p.1.2

example : ∀ L ∈ Gen.Nas.layouts, MsgWF L (sampleMsg L) := by decide +kernel

/-- the round trip evaluated on the samples by the kernel (a test of the statement, not a proof obligation) -/
example : ∀ L ∈ Gen.Nas.layouts,
    (match (encode L (sampleMsg L)).bind (decode L) with
      | .ok m' => m' == sampleMsg L
      | .error _ => false) = true := by
  decide +kernel

/-- a Registration Request and a PDU Session Establishment Request as `PlainNasDecode` produces them -/
def samplePlain (gsm : Bool) (name : String) (hdr : Bytes) : Option PlainMsg :=
  (Gen.Nas.layouts.findIdx? (·.name == name)).bind fun i =>
    (Gen.Nas.layouts[i]?).map fun L =>
      { gsm := gsm, hdr := hdr, idx := i,
        body := (sampleMsg L).zipIdx.map fun (v, j) =>
          if j < hdr.length then v.map fun x => { x with data := [hdr.getD j 0] } else v }

example : (samplePlain false "RegistrationRequest" [0x7E, 0x00, 0x41]).any (plainWF codec) = true := by decide +kernel
example : (samplePlain true "PDUSessionEstablishmentRequest" [0x2E, 0x05, 0x01, 0xC1]).any (plainWF codec) = true := by
  decide +kernel

end Stgutg.Props.C08
