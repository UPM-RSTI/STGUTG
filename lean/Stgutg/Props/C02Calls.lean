/-
  C01 / C02 — the calls the emulator makes for one UE, as relations between the security state before, the uplink octets and the
  security state after: the registration (`regUls`), the procedures a registered UE may repeat (`procUls`, a history of them
  `histUls`), the de-registration (`deregUls`), over the arguments that stay the same along a UE's life (`Args`).
  Each message is what the emulator's constructor (Model/NasCtor.lean), `EncodeNasPduWithSecurity` (Model/NasProtect.lean, under
  the security state threaded from message to message) and wrapper (Model/Builders.lean) return. The emulator-run lemmas conclude
  in these relations and the judge's theorems start from them. Definitions only. Mathlib is imported so that the `2 ^ n` of
  `Args.OK` are Mathlib's `Monoid.npow`, as in every theorem about it (core's `Nat.pow` would be another term).
-/
import Stgutg.Model.Emulator
import Mathlib.Tactic.Ring

namespace Stgutg.Props.C02
open Stgutg Stgutg.Model.Emulator Stgutg.Builders Stgutg.Model.NasProtect

/-- the procedures a registered UE may repeat -/
inductive Proc where
  | establish | service | release
  deriving DecidableEq, Repr

/-- protected NAS messages a procedure sends (= by how much it advances the UL NAS COUNT) -/
def Proc.cost : Proc → Nat
  | .establish => 1 | .service => 1 | .release => 2

/-- uplink messages a procedure sends -/
def Proc.len : Proc → Nat
  | .establish => 2 | .service => 2 | .release => 3

/-- the arguments that stay the same along a UE's history -/
structure Args where
  plmn : Bytes
  amf : Nat
  ran : Int
  psi : Nat
  ip : Bytes
  rt : Nat
  dnn : Bytes
  sn : Option (Nat × UInt8 × UInt8 × UInt8)

def Args.snVal (a : Args) : Option Nas.Ctor.Snssai := a.sn.map fun x => ⟨UInt8.ofNat x.1, [x.2.1, x.2.2.1, x.2.2.2]⟩

structure Args.OK (E : Model.Convert.Ext) (a : Args) : Prop where
  hplmn : a.plmn.length = 3
  ha1 : a.amf < 2 ^ 40
  hr0 : 0 ≤ a.ran
  hr1 : a.ran < 2 ^ 32
  h1 : 1 ≤ a.psi
  h15 : a.psi ≤ 15
  hip : cls E .ip (.str a.ip) = 2
  hrt : a.rt < 8
  hd : a.dnn.length ≤ 99 ∧ ∀ c ∈ a.dnn, c ≠ 0x2E
  hs : ∀ x, a.sn = some x → x.1 < 256

/-- `uls` are the uplink messages the emulator's wrappers return for procedure `p` from security state `sec`, which the
    procedure leaves as `sec'` -/
def procUls (P : Prims) (E : Model.Convert.Ext) (a : Args) : Proc → UeSec → List Bytes → UeSec → Prop
  | .establish, sec, uls, sec' => ∃ plain o b1 b2,
      Nas.Ctor.encodeWith Gen.Nas.layout_ULNASTransport
        (Nas.Ctor.ulEstablishment (UInt8.ofNat a.psi) (UInt8.ofNat a.rt) a.dnn a.snVal) = .ok plain ∧
      (Model.NasProtect.encodeNasPduWithSecurity P sec plain 2 true false).2 = .ok o ∧
      Wrapper.run E .GetUplinkNASTransport a.plmn [.int a.amf, .int a.ran, .octs o] = .ok (.ok b1) ∧
      Wrapper.run E .GetPDUSessionResourceSetupResponse a.plmn [.int a.amf, .int a.ran, .int a.psi, .str a.ip] = .ok (.ok b2) ∧
      uls = [b1, b2] ∧ sec' = (Model.NasProtect.encodeNasPduWithSecurity P sec plain 2 true false).1
  | .service, sec, uls, sec' => ∃ plain o b1 b2,
      Nas.Ctor.encodeWith Gen.Nas.layout_ServiceRequest (Nas.Ctor.serviceRequest 1) = .ok plain ∧
      (Model.NasProtect.encodeNasPduWithSecurity P sec plain 2 true false).2 = .ok o ∧
      Wrapper.run E .GetInitialUEMessage a.plmn [.int a.ran, .octs o, .str []] = .ok (.ok b1) ∧
      Wrapper.run E .GetInitialContextSetupResponseForServiceRequest a.plmn
        [.int a.amf, .int a.ran, .int a.psi, .str a.ip] = .ok (.ok b2) ∧
      uls = [b1, b2] ∧ sec' = (Model.NasProtect.encodeNasPduWithSecurity P sec plain 2 true false).1
  | .release, sec, uls, sec' => ∃ p1 o1 b1 b2 p3 o3 b3,
      Nas.Ctor.encodeWith Gen.Nas.layout_ULNASTransport (Nas.Ctor.ulReleaseRequest (UInt8.ofNat a.psi)) = .ok p1 ∧
      (Model.NasProtect.encodeNasPduWithSecurity P sec p1 2 true false).2 = .ok o1 ∧
      Wrapper.run E .GetUplinkNASTransport a.plmn [.int a.amf, .int a.ran, .octs o1] = .ok (.ok b1) ∧
      Wrapper.run E .GetPDUSessionResourceReleaseResponse a.plmn [.int a.amf, .int a.ran, .int a.psi] = .ok (.ok b2) ∧
      Nas.Ctor.encodeWith Gen.Nas.layout_ULNASTransport
        (Nas.Ctor.ulReleaseComplete (UInt8.ofNat a.psi) (UInt8.ofNat a.rt) a.dnn a.snVal) = .ok p3 ∧
      (Model.NasProtect.encodeNasPduWithSecurity P (Model.NasProtect.encodeNasPduWithSecurity P sec p1 2 true false).1
        p3 2 true false).2 = .ok o3 ∧
      Wrapper.run E .GetUplinkNASTransport a.plmn [.int a.amf, .int a.ran, .octs o3] = .ok (.ok b3) ∧
      uls = [b1, b2, b3] ∧
      sec' = (Model.NasProtect.encodeNasPduWithSecurity P (Model.NasProtect.encodeNasPduWithSecurity P sec p1 2 true false).1
        p3 2 true false).1

def histUls (P : Prims) (E : Model.Convert.Ext) (a : Args) : List Proc → UeSec → List Bytes → UeSec → Prop
  | [], sec, uls, sec' => uls = [] ∧ sec' = sec
  | p :: ps, sec, uls, sec' => ∃ u1 sec1 u2, procUls P E a p sec u1 sec1 ∧ histUls P E a ps sec1 u2 sec' ∧ uls = u1 ++ u2

/-- the five uplink messages of `RegisterUE` (UL2 … UL6 of `C01_registration_script_accepted`) from security state `sec`,
    which registration leaves as `sec'` -/
def regUls (P : Prims) (E : Model.Convert.Ext) (a : Args) (mi secCap : Nas.Val) (resStar : Bytes) (sec : UeSec)
    (uls : List Bytes) (sec' : UeSec) : Prop :=
  ∃ nas2 b2 nas3 b3 rr smc o1 b4 b5 rc o2 b6,
    Nas.Ctor.encodeWith Gen.Nas.layout_RegistrationRequest
      (Nas.Ctor.registrationRequest 1 mi none (some secCap) none none none) = .ok nas2 ∧
    Wrapper.run E .GetInitialUEMessage a.plmn [.int a.ran, .octs nas2, .str []] = .ok (.ok b2) ∧
    Nas.Ctor.encodeWith Gen.Nas.layout_AuthenticationResponse (Nas.Ctor.authenticationResponse resStar []) = .ok nas3 ∧
    Wrapper.run E .GetUplinkNASTransport a.plmn [.int a.amf, .int a.ran, .octs nas3] = .ok (.ok b3) ∧
    Nas.Ctor.encodeWith Gen.Nas.layout_RegistrationRequest
      (Nas.Ctor.registrationRequest 1 mi none (some secCap) (some cap5GMMVal) none none) = .ok rr ∧
    Nas.Ctor.encodeWith Gen.Nas.layout_SecurityModeComplete (Nas.Ctor.securityModeComplete (some rr)) = .ok smc ∧
    (Model.NasProtect.encodeNasPduWithSecurity P sec smc 4 true true).2 = .ok o1 ∧
    Wrapper.run E .GetUplinkNASTransport a.plmn [.int a.amf, .int a.ran, .octs o1] = .ok (.ok b4) ∧
    Wrapper.run E .GetInitialContextSetupResponse a.plmn [.int a.amf, .int a.ran] = .ok (.ok b5) ∧
    Nas.Ctor.encodeWith Gen.Nas.layout_RegistrationComplete (Nas.Ctor.registrationComplete none) = .ok rc ∧
    (Model.NasProtect.encodeNasPduWithSecurity P (Model.NasProtect.encodeNasPduWithSecurity P sec smc 4 true true).1 rc 2 true false).2
      = .ok o2 ∧
    Wrapper.run E .GetUplinkNASTransport a.plmn [.int a.amf, .int a.ran, .octs o2] = .ok (.ok b6) ∧
    uls = [b2, b3, b4, b5, b6] ∧
    sec' = (Model.NasProtect.encodeNasPduWithSecurity P (Model.NasProtect.encodeNasPduWithSecurity P sec smc 4 true true).1
      rc 2 true false).1

/-- the two uplink messages of `DeregisterUE` -/
def deregUls (P : Prims) (E : Model.Convert.Ext) (a : Args) (mi : Nas.Val) (sec : UeSec) (uls : List Bytes) : Prop :=
  ∃ plain o b1 b2, Nas.Ctor.encodeWith Gen.Nas.layout_DeregistrationRequestUEOriginatingDeregistration
        (Nas.Ctor.deregistrationRequest 1 0 4 mi) = .ok plain ∧
    (Model.NasProtect.encodeNasPduWithSecurity P sec plain 2 true false).2 = .ok o ∧
    Wrapper.run E .GetUplinkNASTransport a.plmn [.int a.amf, .int a.ran, .octs o] = .ok (.ok b1) ∧
    Wrapper.run E .GetUEContextReleaseComplete a.plmn [.int a.amf, .int a.ran, .nil] = .ok (.ok b2) ∧
    uls = [b1, b2]

end Stgutg.Props.C02
