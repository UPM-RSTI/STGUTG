/-
  C02 — `C02_accepted_statement` for N ≤ 10 000 UEs and ARBITRARY repetition counts, THROUGH `emulate`: test mode (NG Setup, the
  registration loop, the loops over `EstablishPDU`, `ServiceRequest`, `ReleasePDU`, `DeregisterUE` with the `Min` clamps of `main`)
  writes its uplink messages and the reference AMF/SMF judges them `accept`.
    `accepted_n_len`               what the emulator READS as hypotheses (registration: `Reads`; later: `LifeDl`); concludes also how
                                   many uplink messages were written
    `C02_accepted_n_for_downlink`  the same with the hypotheses spelt out
    `accepted_n_spec_len`, `C02_accepted_n`   the downlink side SPECIFIED (Spec/AmfDownlink.lean)
-/
import Stgutg.Proofs.EmulatorLifeLoops
import Stgutg.Proofs.EmulatorDlLife

namespace Stgutg.Props.C02
open Stgutg Stgutg.Model.Emulator Stgutg.Proofs.Emulator Stgutg.Builders
open Stgutg.Model.NasProtect Stgutg.Proofs.NasProtect Stgutg.Spec.NasSecurity
open Stgutg.Proofs.BuildersRoles Stgutg.Proofs.UeIdentity Stgutg.Proofs.EmulatorRun Stgutg.Proofs.EmulatorSubscriber
open Stgutg.Proofs.EmulatorLife Stgutg.Props.C01 Stgutg.Proofs.KeyDerivation Stgutg.Proofs.EmulatorDownlink
open Stgutg.Proofs.EmulatorDlLife Stgutg.Proofs.EmulatorLifeReenc Stgutg.Proofs.EmulatorLifeArgs Stgutg.Proofs.EmulatorLifeN
open Stgutg.Model.KeyDerivation
open Stgutg.Spec.Ts35206 (BlockCipher)

theorem natMin_eq (a b : Int) : Spec.Amf.natMin a b = min a.toNat b.toNat := by
  unfold Spec.Amf.natMin; split <;> omega

theorem dlEstablish_some (P : Prims) (cfg : Spec.Amf.Cfg) (j : Nat) (ch : Spec.Amf.Choice) (ran : Int) (psi pti c : Nat) (d : Bytes)
    (aka : Spec.Ts33501A.Aka) (hvec : Spec.Amf.vector P cfg j ch = some aka)
    (h : Spec.AmfDl.dlEstablish P cfg j ch ran psi pti c = some d) :
    ∃ n, Spec.AmfDl.protectAt P (Spec.AmfDl.ctxOf aka) c (Spec.AmfDl.dlNasTransportAccept psi pti ch.ueIp) = some n ∧
      Spec.AmfDl.ngap (Spec.AmfDl.pduSessionResourceSetupRequest ch.amfUeNgapId ran psi n
        (Spec.AmfDl.setupTransfer ch.upfIp ch.teid).encode) = some d := by
  unfold Spec.AmfDl.dlEstablish at h
  simp only [Option.bind_eq_bind, Option.bind_eq_some_iff, hvec] at h
  obtain ⟨aka', ha, n, hn, hd⟩ := h
  cases ha
  exact ⟨n, hn, hd⟩

theorem dlService_some (P : Prims) (cfg : Spec.Amf.Cfg) (j : Nat) (ch : Spec.Amf.Choice) (ran : Int) (psi ul c : Nat) (d : Bytes)
    (aka : Spec.Ts33501A.Aka) (hvec : Spec.Amf.vector P cfg j ch = some aka) (plmn : Bytes) (hplmn : Spec.Amf.plmnOf cfg = some plmn)
    (h : Spec.AmfDl.dlService P cfg j ch ran psi ul c = some d) :
    ∃ n, Spec.AmfDl.ngap (Spec.AmfDl.initialContextSetupRequest ch.amfUeNgapId ran plmn (Spec.AmfDl.kgnbAt P aka.kamf ul) n) = some d := by
  unfold Spec.AmfDl.dlService at h
  simp only [Option.bind_eq_bind, Option.bind_eq_some_iff, hvec, hplmn] at h
  obtain ⟨p', hp, aka', ha, sa, _, n, _, hd⟩ := h
  cases ha; cases hp
  exact ⟨n, hd⟩

theorem dlDeregister_some (P : Prims) (cfg : Spec.Amf.Cfg) (j : Nat) (ch : Spec.Amf.Choice) (ran : Int) (c : Nat) (d1 d2 : Bytes)
    (h : Spec.AmfDl.dlDeregister P cfg j ch ran c = some (d1, d2)) :
    ∃ n, Spec.AmfDl.ngap (Spec.AmfDl.downlinkNasTransport ch.amfUeNgapId ran n) = some d1 ∧
      Spec.AmfDl.ngap (Spec.AmfDl.ueContextReleaseCommand ch.amfUeNgapId ran) = some d2 := by
  unfold Spec.AmfDl.dlDeregister at h
  simp only [Option.bind_eq_bind, Option.bind_eq_some_iff] at h
  obtain ⟨aka, _, da, _, n, _, x1, h1, x2, h2, he⟩ := h
  simp only [Option.pure_def, Option.some.injEq, Prod.mk.injEq] at he
  obtain ⟨rfl, rfl⟩ := he
  exact ⟨n, h1, h2⟩

/-- the downlink messages of a whole test-mode run, in the order the emulator reads them: NG SETUP RESPONSE; four per registration;
    one per establishment; one per service request; two per de-registration -/
def lifeDls (d1 : Bytes) (dn : Nat → Bytes × Bytes × Bytes × Bytes) (de ds : Nat → Bytes) (dd : Nat → Bytes × Bytes)
    (N est svc der : Nat) : List Bytes :=
  d1 :: (dlsOf dn 0 N ++ ((List.range est).map de ++ ((List.range svc).map ds ++
    (List.range der).flatMap fun j => [(dd j).1, (dd j).2])))

/-- what the emulator reads after the registrations, for the numbers of procedures the clamps of `main` give: UE `j`'s setup request
    is decodable and `EstablishPDU` extracts from it the triple the AMF assigned to `j`; the answers to the service requests and the
    two messages of each de-registration are decodable -/
structure LifeDl (cfg : Cfg) (chf : Nat → Spec.Amf.Choice) (N est svc rel der : Nat) (de ds : Nat → Bytes) (dd : Nat → Bytes × Bytes) :
    Prop where
  hest : est = min N cfg.pdu.toNat
  hsvc : svc = min est cfg.svc.toNat
  hrel : rel = min est cfg.rel.toNat
  hder : der = min N cfg.dereg.toNat
  est : ∀ j, j < est → DlFor .establish [de j] [{ ip := (chf j).ueIp, teid := (chf j).teid, upf := (chf j).upfIp }]
  svc : ∀ j, j < svc → DlFor .service [ds j] []
  der : ∀ j, j < der → ∃ m1 m2, ngapDecode ((dd j).1.take 2048) = .ok m1 ∧ ngapDecode ((dd j).2.take 2048) = .ok m2

/-- **test mode for `N ≤ 10 000` UEs and any repetition counts**, with the downlink side as hypotheses (`Reads` for the registrations,
    `LifeDl` after them): NG Setup, the registration loop, then the four loops, each from the `Judged` / `Glob` state the one before
    left. The emulator completes, has written `1 + 5N + 2·est + 2·svc + 3·rel + 2·der` uplink messages, and the reference AMF/SMF
    accepts them. -/
theorem accepted_n_len (P : Prims) (hP : PrimsOk P) (hH : MacLen P.hmac) (cfg : Cfg) (scfg : Spec.Amf.Cfg)
    (chs : List Spec.Amf.Choice) (E : Model.Convert.Ext) (N : Nat) (hN4 : N ≤ 10000) {w : Nat} (W : Population cfg scfg w N)
    (hreg : cfg.reg = (N : Int))
    (hsc : scfg.reg = cfg.reg ∧ scfg.pdu = cfg.pdu ∧ scfg.svc = cfg.svc ∧ scfg.rel = cfg.rel ∧ scfg.dereg = cfg.dereg ∧
      scfg.hist = false)
    (h22 : 22 ≤ cfg.bitlength) (h32 : cfg.bitlength ≤ 32) (hg : cfg.gnbId.length = (cfg.bitlength + 7) / 8)
    (hc : Canonical cfg.gnbId cfg.bitlength) (hname : 1 ≤ cfg.name.length)
    (m : Bytes) (hplmn : Model.Suci.ngSetupPlmn cfg.imsi cfg.mnc.length = .ok m) (hm : m.length = 3)
    (hcfg : Spec.Amf.plmnOf scfg = some m)
    (s1 s2 s3 : UInt8) (hsd : E.hexDecode cfg.sd = ([s1, s2, s3], false)) (hgtp : cls E .ip (.str cfg.gnbGtp) = 2)
    (d1 : Bytes) (v1 : Aper.Val) (hdec1 : ngapDecode (d1.take 2048) = .ok v1)
    (chf : Nat → Spec.Amf.Choice) (akaf : Nat → Spec.Ts33501A.Aka) (dn : Nat → Bytes × Bytes × Bytes × Bytes)
    (keysf : Nat → Model.KeyDerivation.UeKeys) (R : Reads P cfg scfg chs N chf akaf dn keysf fun j => createUE cfg j)
    (est svc rel der : Nat) (de ds : Nat → Bytes) (dd : Nat → Bytes × Bytes) (L : LifeDl cfg chf N est svc rel der de ds dd) :
    let t := emulate P E cfg (lifeDls d1 dn de ds dd N est svc der)
    t.outcome = .completed ∧ t.uls.length = 1 + 5 * N + 2 * est + 2 * svc + 3 * rel + 2 * der ∧
    Spec.Amf.judge P true scfg chs t.uls (some (t.reports.map fun r => { ip := r.ip, teid := r.teid, upf := r.upf }))
      (t.outcome == .completed) = .accept := by
  obtain ⟨hs1, hs2, hs3, hs4, hs5, hs6⟩ := hsc
  have ⟨hN, himsi, hd, hw, hmncl, hmcc, hmnc, hlen, hfit⟩ := W
  have hch := R.hch
  have hamf := R.hamf
  obtain ⟨hest, hsvc, hrel, hder, LE, LS, LD⟩ := L
  have hpop : PopOK cfg E N m chf := ⟨hd, hN4, msinFits_fits hd hfit, hm, hamf, hgtp⟩
  have hestN : est ≤ N := hest ▸ Nat.min_le_left ..
  have hsvcE : svc ≤ est := hsvc ▸ Nat.min_le_left ..
  have hrelE : rel ≤ est := hrel ▸ Nat.min_le_left ..
  have hsvcN : svc ≤ N := Nat.le_trans hsvcE hestN
  have hrelN : rel ≤ N := Nat.le_trans hrelE hestN
  have hderN : der ≤ N := hder ▸ Nat.min_le_left ..
  -- the emulator's side of an iteration of any of the three loops (`hemul` of `proc_loop'`)
  have hemul : ∀ p i, i < N → ∀ sec dl reps, DlFor p dl reps → ∀ uls sec', procUls P E (argsOf cfg m chf s1 s2 s3 i) p sec uls sec' →
      Runs (procFn P E cfg p (mkUe cfg chf (fun j => (keysf j).kamf) i sec)) m dl uls reps sec' :=
    fun p i hi sec dl reps hdl uls sec' hp => procFn_runs P E cfg _ _ (argsOf_ok hpop s1 s2 s3 i hi)
      (ueArgs_mkUe hpop s1 s2 s3 hsd _ i hi sec) p dl reps hdl uls sec' hp
  have hnum := C02_numbers_are_min (countsOf cfg)
  have hregs : (genRegistrations (countsOf cfg)).toNat = N := by rw [(genNumbers_eq (countsOf cfg)).2]; simp [countsOf, hreg]
  have hb1 : (genNumbers (countsOf cfg)).establish.toNat = est := by
    rw [hnum.1, hest]; show min cfg.reg.toNat cfg.pdu.toNat = _; rw [hreg, Int.toNat_natCast]
  have hb2 : (genNumbers (countsOf cfg)).service.toNat = svc := by
    rw [hnum.2.1, hb1, hsvc]; rfl
  have hb3 : (genNumbers (countsOf cfg)).release.toNat = rel := by
    rw [hnum.2.2.1, hb1, hrel]; rfl
  have hb4 : (genNumbers (countsOf cfg)).deregister.toNat = der := by
    rw [hnum.2.2.2, hder]; show min cfg.reg.toNat cfg.dereg.toNat = _; rw [hreg, Int.toNat_natCast]
  obtain ⟨b1, hrun1, hstep1⟩ := C01_step_ng_setup_request P scfg chs {} 0 E [] cfg.gnbId m cfg.name (cfg.bitlength : Int) hm
    (by exact_mod_cast h22) (by exact_mod_cast h32) (by simpa using hg) (by simpa using hc) hname hcfg rfl
  have hsetup := manageNGSetup_run E cfg { dls := lifeDls d1 dn de ds dd N est svc der } m b1 d1 _ v1 hplmn hrun1 rfl hdec1
  have hJ1 : Judged P scfg chs { dls := dlsOf dn 0 N ++ ((List.range est).map de ++ ((List.range svc).map ds ++
      (List.range der).flatMap fun j => [(dd j).1, (dd j).2])), ulsRev := [b1], plmn := m } (regSt (usOf cfg chf akaf 0)) := by
    show Spec.Amf.run P true scfg chs {} 0 [b1] = _
    rw [run_clean_step P true scfg chs {} 0 b1 _ rfl (by rw [hstep1]), hstep1, run_nil]
    rfl
  obtain ⟨w2, secf2, hloopR, hdls2, hplmn2, hrp2, hl2, hJ2, hlive2⟩ := register_loop P hP hH cfg scfg chs E N hN4 W m hm chf akaf dn keysf
    _ R N 0 [] _ _ (by omega) rfl rfl hJ1
  simp only [Nat.zero_add, List.nil_append] at hloopR hJ2 hlive2
  have hlist : ((List.range' 0 N).map fun j => mkUe cfg chf (fun j => (keysf j).kamf) j (secf2 j)) =
      ueList N (mkUe cfg chf fun j => (keysf j).kamf) secf2 := by
    simp [ueList, List.range_eq_range']
  rw [hlist] at hloopR
  have hG2 : Glob cfg chf N 0 (regSt (usOf cfg chf akaf N)) (u0 cfg chf akaf) secf2 (fun _ => 1) :=
    { clean := rfl, setup := rfl, ues := rfl,
      idj := fun j _ => ⟨rfl, (ranOf_eq cfg j).symm⟩,
      per := fun j _ hj => ⟨rfl, hlive2 j (Nat.zero_le j) hj, rfl, .inl rfl⟩ }
  obtain ⟨w3, secf3, st3, uf3, cf3, hloopE, hplmn3, hdls3, hJ3, hG3, hsess3, hcf3, hE3, hV3, hR3, hD3, hRP3, hl3⟩ :=
    proc_loop' P hP scfg chs hpop s1 s2 s3 (mkUe cfg chf fun j => (keysf j).kamf) (mkUe_sec cfg chf _) .establish
      (establishPDU P E cfg) est hestN (fun i => [de i])
      (fun i => [({ ip := (chf i).ueIp, teid := (chf i).teid, upf := (chf i).upfIp } : Report)])
      (fun i sec uls sec' hi hp => hemul .establish i (Nat.lt_of_lt_of_le hi hestN) sec _ _ (LE i hi) uls sec' hp)
      (fun _ => .none) (fun _ => .established) (fun _ _ => rfl) 1 (by decide) _ w2 secf2 _ _ _ hplmn2
      (by rw [hdls2, ← List.map_eq_flatMap]) hJ2 hG2 (fun _ _ => rfl) (fun _ _ => Nat.le_refl 1)
  have hS2 : ∀ j, j < svc → sessAfter (if j < est then Spec.Amf.Sess.established else .none) .service = some .established := by
    intro j hj; rw [if_pos (Nat.lt_of_lt_of_le hj hsvcE)]; rfl
  obtain ⟨w4, secf4, st4, uf4, cf4, hloopS, hplmn4, hdls4, hJ4, hG4, hsess4, hcf4, hE4, hV4, hR4, hD4, hRP4, hl4⟩ :=
    proc_loop' P hP scfg chs hpop s1 s2 s3 (mkUe cfg chf fun j => (keysf j).kamf) (mkUe_sec cfg chf _) .service
      (serviceRequest P E cfg) svc hsvcN (fun i => [ds i]) (fun _ => [])
      (fun i sec uls sec' hi hp => hemul .service i (Nat.lt_of_lt_of_le hi hsvcN) sec _ _ (LS i hi) uls sec' hp)
      (fun j => if j < est then .established else .none) (fun _ => .established) hS2 2 (by decide) _ w3 secf3 st3 uf3 cf3 hplmn3
      (by rw [hdls3, ← List.map_eq_flatMap]) hJ3 hG3 hsess3 hcf3
  have hS3 : ∀ j, j < rel → sessAfter (if j < svc then Spec.Amf.Sess.established else if j < est then .established else .none)
      .release = some .released := by
    intro j hj
    by_cases h1 : j < svc
    · rw [if_pos h1]; rfl
    · rw [if_neg h1, if_pos (Nat.lt_of_lt_of_le hj hrelE)]; rfl
  obtain ⟨w5, secf5, st5, uf5, cf5, hloopL, hplmn5, hdls5, hJ5, hG5, hsess5, hcf5, hE5, hV5, hR5, hD5, hRP5, hl5⟩ :=
    proc_loop' P hP scfg chs hpop s1 s2 s3 (mkUe cfg chf fun j => (keysf j).kamf) (mkUe_sec cfg chf _) .release
      (releasePDU P E cfg) rel hrelN (fun _ => []) (fun _ => [])
      (fun i sec uls sec' hi hp => hemul .release i (Nat.lt_of_lt_of_le hi hrelN) sec _ _ ⟨rfl, rfl⟩ uls sec' hp)
      (fun j => if j < svc then .established else if j < est then .established else .none) (fun _ => .released) hS3 3 (by decide)
      _ w4 secf4 st4 uf4 cf4 hplmn4 (by rw [hdls4, flatMap_nil']; rfl) hJ4 hG4 hsess4 hcf4
  have hsuci : ∀ i, i < der → ∃ suci, Model.Suci.encodeSuci (Model.Suci.trimImsiPrefix (createUE cfg i).ctx.supi) cfg.mnc.length = .ok suci ∧
      suci.length < 65536 ∧ Spec.Amf.suciIs scfg i suci = true := by
    intro i hi
    obtain ⟨suci, hsu, ⟨_, _, hlt⟩, hsub, _⟩ := created_ue_identity cfg scfg N hN himsi hd hw hmncl hmcc hmnc hlen hfit i
      (Nat.lt_of_lt_of_le hi hderN)
    exact ⟨suci, hsu, hlt, by have := List.find?_some hsub; exact this⟩
  obtain ⟨w6, secf6, st6, hloopD, hdls6, hJ6, hclean6, hl6, hE6, hV6, hR6, hD6, hRP6⟩ :=
    dereg_loop P hP scfg chs hpop (fun j => (keysf j).kamf) der hderN dd LD hsuci 5 (by decide) [] w5 secf5 st5 uf5 cf5
      hplmn5 (by rw [hdls5, List.append_nil]; rfl) hJ5 hG5 hcf5
  have hrunall : testMode P E cfg { dls := lifeDls d1 dn de ds dd N est svc der } = (w6, .ok ()) := by
    unfold testMode
    simp only [Proofs.Emulator.bind_apply, hsetup, hregs, hb1, hb2, hb3, hb4]
    simp only [hloopR, hloopE, hloopS, hloopL, hloopD]
    rfl
  have huls : (emulate P E cfg (lifeDls d1 dn de ds dd N est svc der)).uls = w6.ulsRev.reverse := by
    unfold emulate; rw [hrunall]; rfl
  have hreps : (emulate P E cfg (lifeDls d1 dn de ds dd N est svc der)).reports = w6.reportsRev.reverse := by
    unfold emulate; rw [hrunall]; rfl
  have hout : (emulate P E cfg (lifeDls d1 dn de ds dd N est svc der)).outcome = .completed := by
    unfold emulate; rw [hrunall]; rfl
  refine ⟨hout, by rw [huls, List.length_reverse, hl6, hl5, hl4, hl3, hl2]; simp only [Proc.len, List.length_cons, List.length_nil]; omega, ?_⟩
  simp only [huls, hreps, hout]
  unfold Spec.Amf.judge Spec.Amf.clauses
  have hJ6' : Spec.Amf.run P true scfg chs {} 0 w6.ulsRev.reverse = st6 := hJ6
  rw [hJ6']
  have e1 : st6.established = List.range est := by rw [hE6, hE5, hE4, hE3]; simp [regSt]
  have e2 : st6.services = svc := by rw [hV6, hV5, hV4, hV3]; simp [regSt]
  have e3 : st6.releases = rel := by rw [hR6, hR5, hR4, hR3]; simp [regSt]
  have e4 : st6.deregs = der := by rw [hD6, hD5, hD4, hD3]; simp [regSt]
  have x1 : Spec.Amf.expectedEstablished scfg = est := by
    simp only [Spec.Amf.expectedEstablished, hs6, Bool.false_eq_true, if_false, natMin_eq, hs1, hs2, hreg, Int.toNat_natCast]
    exact hest.symm
  have x2 : Spec.Amf.expectedServices scfg = svc := by
    simp only [Spec.Amf.expectedServices, x1, natMin_eq, hs3, Int.toNat_natCast]; exact hsvc.symm
  have x3 : Spec.Amf.expectedReleases scfg = rel := by
    simp only [Spec.Amf.expectedReleases, x1, natMin_eq, hs4, Int.toNat_natCast]; exact hrel.symm
  have x4 : Spec.Amf.expectedDeregs scfg = der := by
    simp only [Spec.Amf.expectedDeregs, natMin_eq, hs1, hs5, hreg, Int.toNat_natCast]; exact hder.symm
  have hrepsEq : w6.reportsRev.reverse = (List.range est).map fun i =>
      ({ ip := (chf i).ueIp, teid := (chf i).teid, upf := (chf i).upfIp } : Report) := by
    rw [hRP6, hRP5, hRP4, hRP3, hrp2]
    simp [← List.map_eq_flatMap, flatMap_nil']
  have hbeq : (Outcome.completed == Outcome.completed) = true := rfl
  rw [hbeq, finish_clean scfg chs st6 _ _ hclean6 (by rw [e1, x1]; simp) (by rw [e2, x2]) (by rw [e3, x3]) (by rw [e4, x4]) ?_]
  · rfl
  · intro rs hrs
    cases hrs
    rw [hrepsEq, e1, List.map_map]
    clear * - hch hestN
    induction est with
    | zero => rfl
    | succ n ih =>
      rw [List.range_succ, List.map_append, List.filterMap_append, ← ih (by omega)]
      simp [hch n (by omega)]

/-- **C02_accepted_n_for_downlink.** Test mode for `N ≤ 10 000` UEs and ANY repetition counts (`Test_ue_pdu_establishment`,
    `Test_ue_service`, `Test_ue_pdu_release`, `Test_ue_deregistration`: any integers — the loops run `est = min(N, pdu)`,
    `min(est, svc)`, `min(est, rel)`, `min(N, dereg)` times, `C02_numbers_are_min`), through `emulate`, with the downlink side as
    hypotheses: `DlReads` for every registration; every later downlink message decodable; `EstablishPDU` extracts from UE `j`'s
    setup request the triple the AMF assigned to `j`. The emulator completes and the reference AMF/SMF ACCEPTS the transcript:
    no clause on any of the `1 + 5N + 2·est + 2·svc + 3·rel + 2·dereg` uplink messages (the UEs' histories interleave: loop by loop,
    UE by UE), the expected numbers of procedures, reported = assigned. -/
theorem C02_accepted_n_for_downlink (P : Prims) (hP : PrimsOk P) (hH : MacLen P.hmac) (cfg : Cfg) (scfg : Spec.Amf.Cfg)
    (chs : List Spec.Amf.Choice) (E : Model.Convert.Ext) (N : Nat) (hN4 : N ≤ 10000)
    (hreg : cfg.reg = (N : Int))
    (hsc : scfg.reg = cfg.reg ∧ scfg.pdu = cfg.pdu ∧ scfg.svc = cfg.svc ∧ scfg.rel = cfg.rel ∧ scfg.dereg = cfg.dereg ∧
      scfg.hist = false)
    (himsi : scfg.imsi = cfg.imsi) (hd : DecimalImsi cfg.imsi) {w : Nat} (hw : w = 2 ∨ w = 3) (hmncl : cfg.mnc.length = w)
    (hmcc : scfg.mcc = cfg.imsi.take 3) (hmnc : scfg.mnc = (cfg.imsi.drop 3).take w) (hlen : 3 + w < cfg.imsi.length)
    (hfit : MsinFits cfg.imsi (3 + w) N)
    (h22 : 22 ≤ cfg.bitlength) (h32 : cfg.bitlength ≤ 32) (hg : cfg.gnbId.length = (cfg.bitlength + 7) / 8)
    (hc : Canonical cfg.gnbId cfg.bitlength) (hname : 1 ≤ cfg.name.length)
    (m : Bytes) (hplmn : Model.Suci.ngSetupPlmn cfg.imsi cfg.mnc.length = .ok m) (hm : m.length = 3)
    (hcfg : Spec.Amf.plmnOf scfg = some m)
    (s1 s2 s3 : UInt8) (hsd : E.hexDecode cfg.sd = ([s1, s2, s3], false)) (hgtp : cls E .ip (.str cfg.gnbGtp) = 2)
    -- registration
    (d1 : Bytes) (v1 : Aper.Val) (hdec1 : ngapDecode (d1.take 2048) = .ok v1)
    (chf : Nat → Spec.Amf.Choice) (akaf : Nat → Spec.Ts33501A.Aka) (dn : Nat → Bytes × Bytes × Bytes × Bytes)
    (keysf : Nat → Model.KeyDerivation.UeKeys)
    (hch : ∀ j, j < N → chs[j]? = some (chf j)) (hvec : ∀ j, j < N → Spec.Amf.vector P scfg j (chf j) = some (akaf j))
    (hamf : ∀ j, j < N → (chf j).amfUeNgapId < 2 ^ 40)
    (hD : ∀ j, j < N → DlReads P cfg (createUE cfg j) (dn j).1 (dn j).2.1 (dn j).2.2.1 (dn j).2.2.2 (chf j).amfUeNgapId (keysf j)
      (createUE cfg j))
    (hkeys : ∀ j, j < N → (keysf j).resStar = (akaf j).resStar ∧ (keysf j).knasEnc = (akaf j).knasEnc ∧
      (keysf j).knasInt = (akaf j).knasInt)
    -- after registration
    (est svc rel der : Nat) (hest : est = min N cfg.pdu.toNat) (hsvc : svc = min est cfg.svc.toNat)
    (hrel : rel = min est cfg.rel.toNat) (hder : der = min N cfg.dereg.toNat)
    (de ds : Nat → Bytes) (dd : Nat → Bytes × Bytes) (msgE msgS m1 m2 : Nat → Aper.Val)
    (hdecE : ∀ j, j < est → ngapDecode ((de j).take 2048) = .ok (msgE j))
    (hrepE : ∀ j, j < est → extractReport (msgE j) = .ok { ip := (chf j).ueIp, teid := (chf j).teid, upf := (chf j).upfIp })
    (hdecS : ∀ j, j < svc → ngapDecode ((ds j).take 2048) = .ok (msgS j))
    (hdecD1 : ∀ j, j < der → ngapDecode ((dd j).1.take 2048) = .ok (m1 j))
    (hdecD2 : ∀ j, j < der → ngapDecode ((dd j).2.take 2048) = .ok (m2 j)) :
    let t := emulate P E cfg (lifeDls d1 dn de ds dd N est svc der)
    t.outcome = .completed ∧
    Spec.Amf.judge P true scfg chs t.uls (some (t.reports.map fun r => { ip := r.ip, teid := r.teid, upf := r.upf }))
      (t.outcome == .completed) = .accept := by
  have h := accepted_n_len P hP hH cfg scfg chs E N hN4 ⟨by simp [Spec.Amf.subscribers, hsc.1, hreg], himsi, hd, hw, hmncl, hmcc, hmnc, hlen, hfit⟩
    hreg hsc h22 h32 hg hc hname m hplmn hm hcfg s1 s2 s3 hsd hgtp d1 v1 hdec1 chf akaf dn keysf
    ⟨hch, hvec, hamf, hD, fun _ _ => ⟨rfl, rfl, rfl⟩, hkeys⟩ est svc rel der de ds dd
    ⟨hest, hsvc, hrel, hder, fun j hj => ⟨de j, msgE j, _, rfl, rfl, hdecE j hj, hrepE j hj⟩, fun j hj => ⟨ds j, msgS j, rfl, rfl, hdecS j hj⟩,
      fun j hj => ⟨m1 j, m2 j, hdecD1 j hj, hdecD2 j hj⟩⟩
  exact ⟨h.1, h.2.2⟩

/-- the DL NAS COUNT of the Deregistration Accept for UE `j`: 0, 1, 2 were used during registration, one more for the PDU SESSION
    ESTABLISHMENT ACCEPT and one for the SERVICE ACCEPT if `j` had them -/
def deregDlCount (est svc j : Nat) : Nat := 3 + (if j < est then 1 else 0) + (if j < svc then 1 else 0)

/-- `C02_accepted_n` below, with the number of uplink messages written -/
theorem accepted_n_spec_len (P : Prims) (hP : PrimsOk P) (hE : BlockCipher P.aes) (hH : MacLen P.hmac) (cfg : Cfg) (scfg : Spec.Amf.Cfg)
    (chs : List Spec.Amf.Choice) (E : Model.Convert.Ext) (N : Nat) (hN4 : N ≤ 10000)
    (hreg : cfg.reg = (N : Int))
    (hsc : scfg.reg = cfg.reg ∧ scfg.pdu = cfg.pdu ∧ scfg.svc = cfg.svc ∧ scfg.rel = cfg.rel ∧ scfg.dereg = cfg.dereg ∧
      scfg.hist = false)
    (himsi : scfg.imsi = cfg.imsi) (hd : DecimalImsi cfg.imsi) (h5 : 5 ≤ cfg.imsi.length) (h15 : cfg.imsi.length ≤ 15)
    {w : Nat} (hw : w = 2 ∨ w = 3) (hmncl : cfg.mnc.length = w) (hmcc3 : cfg.mcc.length = 3)
    (hmccB : scfg.mcc = cfg.mcc) (hmncB : scfg.mnc = cfg.mnc)
    (hmcc : scfg.mcc = cfg.imsi.take 3) (hmnc : scfg.mnc = (cfg.imsi.drop 3).take w) (hlen : 3 + w < cfg.imsi.length)
    (hfit : MsinFits cfg.imsi (3 + w) N)
    (h22 : 22 ≤ cfg.bitlength) (h32 : cfg.bitlength ≤ 32) (hg : cfg.gnbId.length = (cfg.bitlength + 7) / 8)
    (hc : Canonical cfg.gnbId cfg.bitlength) (hname : 1 ≤ cfg.name.length)
    (m : Bytes) (hplmn : Model.Suci.ngSetupPlmn cfg.imsi cfg.mnc.length = .ok m) (hm : m.length = 3)
    (hcfg : Spec.Amf.plmnOf scfg = some m)
    (k opc : Bytes) (hk : hexDecode cfg.k = some k) (hk' : Spec.Amf.hexText scfg.k = some k) (hk16 : k.length = 16)
    (hopcne : cfg.opc ≠ []) (hopc : hexDecode cfg.opc = some opc) (hopc' : Spec.Amf.opcOf P scfg = some opc)
    (hopc16 : opc.length = 16) (habba : 2 ≤ scfg.abba.length ∧ scfg.abba.length < 256)
    (s1 s2 s3 : UInt8) (hsd : E.hexDecode cfg.sd = ([s1, s2, s3], false)) (hgtp : cls E .ip (.str cfg.gnbGtp) = 2)
    -- the AMF's choices, one per UE
    (chf : Nat → Spec.Amf.Choice) (hch : ∀ j, j < N → chs[j]? = some (chf j))
    (hchWF : ∀ j, j < N → (chf j).amfUeNgapId < 2 ^ 40 ∧ (chf j).rand.length = 16 ∧ (chf j).sqn.length = 6 ∧ (chf j).amf.length = 2 ∧
      (chf j).ueIp.length = 4 ∧ (chf j).upfIp.length = 4 ∧ (chf j).teid < 2 ^ 32)
    -- the numbers of procedures
    (est svc rel der : Nat) (hest : est = min N cfg.pdu.toNat) (hsvc : svc = min est cfg.svc.toNat)
    (hrel : rel = min est cfg.rel.toNat) (hder : der = min N cfg.dereg.toNat)
    -- the downlink messages are those of the specification
    (caps : Nat → Bytes) (d1 : Bytes) (dn : Nat → Bytes × Bytes × Bytes × Bytes) (de ds : Nat → Bytes) (dd : Nat → Bytes × Bytes)
    (hd1 : Spec.AmfDl.ngap (Spec.AmfDl.ngSetupResponse m) = some d1) (hb1 : d1.length ≤ 2048)
    (hdl : ∀ j, j < N → Spec.AmfDl.dl P scfg j (chf j) (createUE cfg j).ctx.ranUeNgapId (caps j) =
      some [d1, (dn j).1, (dn j).2.1, (dn j).2.2.1, (dn j).2.2.2])
    (hbuf : ∀ j, j < N → (dn j).1.length ≤ 2048 ∧ (dn j).2.1.length ≤ 2048 ∧ (dn j).2.2.1.length ≤ 2048 ∧ (dn j).2.2.2.length ≤ 2048)
    (hdE : ∀ j, j < est → Spec.AmfDl.dlEstablish P scfg j (chf j) (createUE cfg j).ctx.ranUeNgapId
      (pduIdOf ((Model.UeIdentity.decVal cfg.imsi + j : Nat) : Int)).toNat 1 3 = some (de j) ∧ (de j).length ≤ 2048)
    (hdS : ∀ j, j < svc → Spec.AmfDl.dlService P scfg j (chf j) (createUE cfg j).ctx.ranUeNgapId
      (pduIdOf ((Model.UeIdentity.decVal cfg.imsi + j : Nat) : Int)).toNat 3 4 = some (ds j) ∧ (ds j).length ≤ 2048)
    (hdD : ∀ j, j < der → Spec.AmfDl.dlDeregister P scfg j (chf j) (createUE cfg j).ctx.ranUeNgapId (deregDlCount est svc j) =
      some (dd j) ∧ (dd j).1.length ≤ 2048 ∧ (dd j).2.length ≤ 2048) :
    let t := emulate P E cfg (lifeDls d1 dn de ds dd N est svc der)
    t.outcome = .completed ∧ t.uls.length = 1 + 5 * N + 2 * est + 2 * svc + 3 * rel + 2 * der ∧
    Spec.Amf.judge P true scfg chs t.uls (some (t.reports.map fun r => { ip := r.ip, teid := r.teid, upf := r.upf }))
      (t.outcome == .completed) = .accept := by
  have hpop : PopOK cfg E N m chf := ⟨hd, hN4, msinFits_fits hd hfit, hm, fun j hj => (hchWF j hj).1, hgtp⟩
  obtain ⟨akaf, keysf, ⟨R⟩⟩ := reads_of_spec P hE hH cfg scfg himsi hd h5 h15 hmcc3 (by rw [hmncl]; exact hw) hmccB hmncB m hm hcfg k opc
    hk hk' hk16 hopcne hopc hopc' hopc16 habba N (msinFits_fits hd hfit) chs chf hch
    (fun j hj => ⟨(hchWF j hj).1, (hchWF j hj).2.1, (hchWF j hj).2.2.1, (hchWF j hj).2.2.2.1⟩) caps d1 dn hb1 hdl hbuf
  obtain ⟨x1, hx1, hdec1⟩ := Proofs.EmulatorDownlink.ngsr_roundtrip m hm
  cases Option.some.inj (hx1.symm.trans hd1)
  have hids : ∀ j, j < N → (0 : Int) ≤ (chf j).amfUeNgapId ∧ ((chf j).amfUeNgapId : Int) < 2 ^ 40 ∧
      0 ≤ (createUE cfg j).ctx.ranUeNgapId ∧ (createUE cfg j).ctx.ranUeNgapId < 2 ^ 32 := fun j hj =>
    ⟨Int.natCast_nonneg _, by exact_mod_cast (hchWF j hj).1, ran_range cfg hd j (hpop.j62 j hj)⟩
  have hestN : est ≤ N := hest ▸ Nat.min_le_left ..
  have hsvcN : svc ≤ N := Nat.le_trans (hsvc ▸ Nat.min_le_left ..) hestN
  have hderN : der ≤ N := hder ▸ Nat.min_le_left ..
  -- each specified message after registration round-trips (C03 + C04) and fits the buffer: the emulator decodes it
  refine accepted_n_len P hP hH cfg scfg chs E N hN4 ⟨by simp [Spec.Amf.subscribers, hsc.1, hreg], himsi, hd, hw, hmncl, hmcc, hmnc, hlen, hfit⟩
    hreg hsc h22 h32 hg hc hname m hplmn hm hcfg s1 s2 s3 hsd hgtp d1 _ (by rw [List.take_of_length_le hb1]; exact hdec1) chf akaf dn keysf
    R est svc rel der de ds dd ⟨hest, hsvc, hrel, hder, fun j hj => ?_, fun j hj => ?_, fun j hj => ?_⟩
  · have hjN : j < N := by omega
    obtain ⟨ha0, ha1, hr0, hr1⟩ := hids j hjN
    obtain ⟨_, _, _, _, hip, hupf, hteid⟩ := hchWF j hjN
    obtain ⟨_, _, _, hp1, hp15⟩ := psiOf_facts hpop j hjN
    unfold psiOf at hp1 hp15
    obtain ⟨hdEj, hbE⟩ := hdE j hj
    obtain ⟨nE, hnE, hngE⟩ := dlEstablish_some P scfg j (chf j) _ _ 1 3 (de j) (akaf j) (R.hvec j hjN) hdEj
    have hpsi255 : (((pduIdOf ((Model.UeIdentity.decVal cfg.imsi + j : Nat) : Int)).toNat : Nat) : Int) ≤ 255 := by
      have := Nat.le_trans hp15 (by decide : 15 ≤ 255)
      exact_mod_cast this
    exact ⟨de j, _, _, rfl, rfl, reads_of_roundtrip (setupReq_roundtrip (chf j).amfUeNgapId (createUE cfg j).ctx.ranUeNgapId
        (((pduIdOf ((Model.UeIdentity.decVal cfg.imsi + j : Nat) : Int)).toNat : Nat) : Int) nE
        (Spec.AmfDl.setupTransfer (chf j).upfIp (chf j).teid).encode ha0 ha1 hr0 hr1 (Int.natCast_nonneg _) hpsi255) hngE hbE,
      extractReport_spec P hP (Spec.AmfDl.ctxOf (akaf j)) rfl rfl 3 _ 1 (chf j).ueIp (chf j).upfIp (chf j).teid hip hupf hteid
        _ _ _ nE hnE⟩
  · have hjN : j < N := by omega
    obtain ⟨ha0, ha1, hr0, hr1⟩ := hids j hjN
    obtain ⟨hdSj, hbS⟩ := hdS j hj
    obtain ⟨nS, hngS⟩ := dlService_some P scfg j (chf j) _ _ 3 4 (ds j) (akaf j) (R.hvec j hjN) m hcfg hdSj
    exact ⟨ds j, _, rfl, rfl, reads_of_roundtrip (icsReq_roundtrip m hm (chf j).amfUeNgapId (createUE cfg j).ctx.ranUeNgapId
      (Spec.AmfDl.kgnbAt P (akaf j).kamf 3) nS ha0 ha1 hr0 hr1 (by unfold Spec.AmfDl.kgnbAt Spec.Ts33501A.kdf; exact hH _ _)) hngS hbS⟩
  · have hjN : j < N := by omega
    obtain ⟨ha0, ha1, hr0, hr1⟩ := hids j hjN
    obtain ⟨hdDj, hbD1, hbD2⟩ := hdD j hj
    obtain ⟨nD, hngD1, hngD2⟩ := dlDeregister_some P scfg j (chf j) _ _ (dd j).1 (dd j).2 hdDj
    exact ⟨_, _, reads_of_roundtrip (dnt_roundtrip (chf j).amfUeNgapId (createUE cfg j).ctx.ranUeNgapId nD ha0 ha1 hr0 hr1) hngD1 hbD1,
      reads_of_roundtrip (ueCtxRel_roundtrip (chf j).amfUeNgapId (createUE cfg j).ctx.ranUeNgapId ha0 ha1 hr0 hr1) hngD2 hbD2⟩

/-- **C02_accepted_n.** The statement of C02 (`C02_accepted_statement`) for `N ≤ 10 000` UEs and ANY repetition counts, with the
    downlink side SPECIFIED: for every well-formed configuration (as in `C01_accepted_n`; `Test_ue_registation` = N; the other four
    counts any integers; S-NSSAI SD of three octets; a gNB GTP address the builders accept) and every choice of a conformant
    AMF/SMF for every UE (RAND of 16 octets, SQN of 6, AMF field of 2, any ngKSI, AMF-UE-NGAP-ID below 2^40, IPv4 UE and UPF addresses,
    TEID below 2^32), when the AMF sends — all built with the SPECIFICATION encoders only, each within the 2048-octet receive buffer —
      the NG SETUP RESPONSE; for UE 0 … N−1 the four messages of `Spec.AmfDl.dl`;
      for UE 0 … est−1 (`est = min(N, pdu)`) `Spec.AmfDl.dlEstablish` for the PSI `(supi+14) mod 15 + 1` and PTI 1 of the request, DL NAS COUNT 3;
      for UE 0 … min(est, svc)−1 `Spec.AmfDl.dlService` (DL NAS COUNT 4, K_gNB of UL NAS COUNT 3);
      (nothing for the releases;) for UE 0 … min(N, dereg)−1 the two messages of `Spec.AmfDl.dlDeregister`,
    the emulator completes and the reference AMF/SMF ACCEPTS its whole transcript (C02 clauses: ids, one PSI, PTI, prerequisites,
    NAS COUNT and MAC per UE; the expected numbers of procedures; reported = assigned):
      judge true (emulate cfg dls).uls (some reports) = accept. -/
theorem C02_accepted_n (P : Prims) (hP : PrimsOk P) (hE : BlockCipher P.aes) (hH : MacLen P.hmac) (cfg : Cfg) (scfg : Spec.Amf.Cfg)
    (chs : List Spec.Amf.Choice) (E : Model.Convert.Ext) (N : Nat) (hN4 : N ≤ 10000)
    (hreg : cfg.reg = (N : Int))
    (hsc : scfg.reg = cfg.reg ∧ scfg.pdu = cfg.pdu ∧ scfg.svc = cfg.svc ∧ scfg.rel = cfg.rel ∧ scfg.dereg = cfg.dereg ∧
      scfg.hist = false)
    (himsi : scfg.imsi = cfg.imsi) (hd : DecimalImsi cfg.imsi) (h5 : 5 ≤ cfg.imsi.length) (h15 : cfg.imsi.length ≤ 15)
    {w : Nat} (hw : w = 2 ∨ w = 3) (hmncl : cfg.mnc.length = w) (hmcc3 : cfg.mcc.length = 3)
    (hmccB : scfg.mcc = cfg.mcc) (hmncB : scfg.mnc = cfg.mnc)
    (hmcc : scfg.mcc = cfg.imsi.take 3) (hmnc : scfg.mnc = (cfg.imsi.drop 3).take w) (hlen : 3 + w < cfg.imsi.length)
    (hfit : MsinFits cfg.imsi (3 + w) N)
    (h22 : 22 ≤ cfg.bitlength) (h32 : cfg.bitlength ≤ 32) (hg : cfg.gnbId.length = (cfg.bitlength + 7) / 8)
    (hc : Canonical cfg.gnbId cfg.bitlength) (hname : 1 ≤ cfg.name.length)
    (m : Bytes) (hplmn : Model.Suci.ngSetupPlmn cfg.imsi cfg.mnc.length = .ok m) (hm : m.length = 3)
    (hcfg : Spec.Amf.plmnOf scfg = some m)
    (k opc : Bytes) (hk : hexDecode cfg.k = some k) (hk' : Spec.Amf.hexText scfg.k = some k) (hk16 : k.length = 16)
    (hopcne : cfg.opc ≠ []) (hopc : hexDecode cfg.opc = some opc) (hopc' : Spec.Amf.opcOf P scfg = some opc)
    (hopc16 : opc.length = 16) (habba : 2 ≤ scfg.abba.length ∧ scfg.abba.length < 256)
    (s1 s2 s3 : UInt8) (hsd : E.hexDecode cfg.sd = ([s1, s2, s3], false)) (hgtp : cls E .ip (.str cfg.gnbGtp) = 2)
    -- the AMF's choices, one per UE
    (chf : Nat → Spec.Amf.Choice) (hch : ∀ j, j < N → chs[j]? = some (chf j))
    (hchWF : ∀ j, j < N → (chf j).amfUeNgapId < 2 ^ 40 ∧ (chf j).rand.length = 16 ∧ (chf j).sqn.length = 6 ∧ (chf j).amf.length = 2 ∧
      (chf j).ueIp.length = 4 ∧ (chf j).upfIp.length = 4 ∧ (chf j).teid < 2 ^ 32)
    -- the numbers of procedures
    (est svc rel der : Nat) (hest : est = min N cfg.pdu.toNat) (hsvc : svc = min est cfg.svc.toNat)
    (hrel : rel = min est cfg.rel.toNat) (hder : der = min N cfg.dereg.toNat)
    -- the downlink messages are those of the specification
    (caps : Nat → Bytes) (d1 : Bytes) (dn : Nat → Bytes × Bytes × Bytes × Bytes) (de ds : Nat → Bytes) (dd : Nat → Bytes × Bytes)
    (hd1 : Spec.AmfDl.ngap (Spec.AmfDl.ngSetupResponse m) = some d1) (hb1 : d1.length ≤ 2048)
    (hdl : ∀ j, j < N → Spec.AmfDl.dl P scfg j (chf j) (createUE cfg j).ctx.ranUeNgapId (caps j) =
      some [d1, (dn j).1, (dn j).2.1, (dn j).2.2.1, (dn j).2.2.2])
    (hbuf : ∀ j, j < N → (dn j).1.length ≤ 2048 ∧ (dn j).2.1.length ≤ 2048 ∧ (dn j).2.2.1.length ≤ 2048 ∧ (dn j).2.2.2.length ≤ 2048)
    (hdE : ∀ j, j < est → Spec.AmfDl.dlEstablish P scfg j (chf j) (createUE cfg j).ctx.ranUeNgapId
      (pduIdOf ((Model.UeIdentity.decVal cfg.imsi + j : Nat) : Int)).toNat 1 3 = some (de j) ∧ (de j).length ≤ 2048)
    (hdS : ∀ j, j < svc → Spec.AmfDl.dlService P scfg j (chf j) (createUE cfg j).ctx.ranUeNgapId
      (pduIdOf ((Model.UeIdentity.decVal cfg.imsi + j : Nat) : Int)).toNat 3 4 = some (ds j) ∧ (ds j).length ≤ 2048)
    (hdD : ∀ j, j < der → Spec.AmfDl.dlDeregister P scfg j (chf j) (createUE cfg j).ctx.ranUeNgapId (deregDlCount est svc j) =
      some (dd j) ∧ (dd j).1.length ≤ 2048 ∧ (dd j).2.length ≤ 2048) :
    let t := emulate P E cfg (lifeDls d1 dn de ds dd N est svc der)
    t.outcome = .completed ∧
    Spec.Amf.judge P true scfg chs t.uls (some (t.reports.map fun r => { ip := r.ip, teid := r.teid, upf := r.upf }))
      (t.outcome == .completed) = .accept := by
  have h := accepted_n_spec_len P hP hE hH cfg scfg chs E N hN4 hreg hsc himsi hd h5 h15 hw hmncl hmcc3 hmccB hmncB hmcc hmnc hlen hfit h22 h32
    hg hc hname m hplmn hm hcfg k opc hk hk' hk16 hopcne hopc hopc' hopc16 habba s1 s2 s3 hsd hgtp chf hch hchWF est svc rel der hest hsvc
    hrel hder caps d1 dn de ds dd hd1 hb1 hdl hbuf hdE hdS hdD
  exact ⟨h.1, h.2.2⟩

open Stgutg.Proofs.EmulatorWitness in
set_option maxRecDepth 1000000 in
/-- the downlink hypotheses of `C02_accepted_one` / `C02_accepted_n` beyond those of `C01_accepted_n` are satisfiable: for the
    configuration and choice of the recorded registration (RAN-UE-NGAP-ID 6, PDU session identity 11; `cheapPrims` satisfy the
    hypotheses on primitives: `cheapPrims_ok`) the specification encoders produce the setup request, the INITIAL CONTEXT SETUP
    REQUEST with the Service Accept, and the two messages of de-registration, all within the receive buffer, and the assigned
    addresses / TEID are in range. (That `C02_accepted_n_for_downlink`'s reading hypotheses are satisfiable is what
    `C02_accepted_n` shows: it derives them from these messages. The evaluated end-to-end witness is `C02_accepted_witness`.) -/
example : (match reg1Choices.head? with
    | some ch =>
      (match Spec.AmfDl.dlEstablish cheapPrims (specOf reg1Cfg reg1Abba) 0 ch 6 11 1 3,
             Spec.AmfDl.dlService cheapPrims (specOf reg1Cfg reg1Abba) 0 ch 6 11 3 4,
             Spec.AmfDl.dlDeregister cheapPrims (specOf reg1Cfg reg1Abba) 0 ch 6 (deregDlCount 1 1 0) with
       | some dE, some dS, some (dD1, dD2) =>
         decide (dE.length ≤ 2048) && decide (dS.length ≤ 2048) && decide (dD1.length ≤ 2048) && decide (dD2.length ≤ 2048) &&
         decide (ch.ueIp.length = 4) && decide (ch.upfIp.length = 4) && decide (ch.teid < 2 ^ 32)
       | _, _, _ => false)
    | none => false) = true := by decide +kernel

/-- … and the identifiers the example uses are the emulator's: `CreateUE` gives the first UE of that configuration the
    RAN-UE-NGAP-ID 6 and the procedures compute the PDU session identity 11 -/
example : (createUE Proofs.EmulatorWitness.reg1Cfg 0).ctx.ranUeNgapId = 6 ∧
    (pduIdOf ((Model.UeIdentity.decVal Proofs.EmulatorWitness.reg1Cfg.imsi + 0 : Nat) : Int)).toNat = 11 := by decide +kernel

/-- the clamps of the statement for counts above, below and at N, negative and zero: N = 3, pdu = 5, svc = 2, rel = 7, dereg = −1
    give est = 3, svc = 2, rel = 3, der = 0 -/
example : min 3 (5 : Int).toNat = 3 ∧ min 3 (2 : Int).toNat = 2 ∧ min 3 (7 : Int).toNat = 3 ∧ min 3 (-1 : Int).toNat = 0 := by decide

end Stgutg.Props.C02
