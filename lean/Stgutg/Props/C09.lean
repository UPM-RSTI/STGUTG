/-
  C09 — the NAS wire layout follows the TS 24.501 (v15.3) message tables of clauses 8.2 / 8.3.
  Property theorems and, for the constructors, the general theorem they instantiate; helper lemmas live in Stgutg/Proofs.

  `Gen.Nas.layouts` is what `gen naslayout` extracts from the Go codec on every run, `Spec.Ts24501.tables`
  is the transcription of the standard, `Nas.deviations` (Model/NasSpec.lean) compares the wire structure a
  layout implements with the wire structure of its table, row by row: order and widths of the mandatory fields
  (header octets included), and (IEI, format, length-field width, fixed length / capacity) of every optional IE.  The
  value of the message type octet is not part of the wire structure; `C09_message_types` compares it through the
  dispatch of nas.go.
-/
import Stgutg.Model.NasSpec
import Stgutg.Model.NasCtor
import Stgutg.Spec.NasCtorIntended
import Stgutg.Proofs.NasCodec
import Stgutg.Proofs.NasSpec
import Stgutg.Proofs.NasCtor
import Stgutg.Gen.NasLayouts
import Stgutg.Props.C08

namespace Stgutg.Props.C09
open Stgutg Stgutg.Nas Stgutg.Spec.Ts24501

/-- rows of layout `L` that deviate from its table (`none`: no table of that name / malformed table) -/
def layoutDeviations (L : Layout) : Option (List (Nat ⊕ Nat)) :=
  ((tableByName L.name).bind (·.wire)).map (deviations L)

/-- message type and header kind of a layout according to the dispatch of nas.go -/
def dispatchedType (i : Nat) : Option (Bool × Nat) :=
  match Gen.Nas.dispatchGmm.dec.find? (·.2 == i), Gen.Nas.dispatchGsm.dec.find? (·.2 == i) with
  | some p, none => some (false, p.1)
  | none, some p => some (true, p.1)
  | _, _ => none

/-- every one of the 45 layouts implements exactly the wire structure of its table -/
def C09_layouts_statement : Prop := ∀ L ∈ Gen.Nas.layouts, layoutDeviations L = some []

/-- the deviations of the tree as it is (KNOWN_FINDINGS.txt):
    F15  Registration Request, IEI 0x52 Last visited registered TAI: `Iei` + `Octet[7]` = 8 octets, table 8.2.6.1.1: TV 7;
    F23  Security protected 5GS NAS message: the `Plain 5GS NAS message` (V, 3-n) has no wire element at all. -/
def knownDeviations : List (String × (Nat ⊕ Nat)) :=
  [("RegistrationRequest", .inr 0x52), ("SecurityProtected5GSNASMessage", .inl 4)]

theorem C09_layouts_counterexample : ¬ C09_layouts_statement := by
  intro h
  have := h Gen.Nas.layout_RegistrationRequest (by simp [Gen.Nas.layouts])
  revert this
  decide +kernel

/-- apart from exactly the two keyed rows, all 45 layouts implement the wire structure of their tables:
    45 message types, 159 optional-IE rows (158 equal), mandatory part of every message (all equal but one element) -/
theorem C09_layouts_partial :
    Gen.Nas.layouts.flatMap (fun L => match layoutDeviations L with
      | some ds => ds.map fun d => (L.name, d)
      | none => [(L.name, .inl 0)]) = knownDeviations ∧
    ∀ L ∈ Gen.Nas.layouts, (layoutDeviations L).isSome = true := by
  decide +kernel

/-- the message type octet and the header kind (5GMM: EPD, security header type, type; 5GSM: EPD, PDU session
    ID, PTI, type) under which nas.go dispatches each layout are those of its table; the only table without a
    message type (8.2.28) is the only layout that is not dispatched -/
theorem C09_message_types :
    ∀ i < Gen.Nas.layouts.length,
      (match Gen.Nas.layouts[i]? with
        | some L => (match tableByName L.name with
            | some T => (match T.msgType with
                | some t => dispatchedType i == some (T.gsm, t)
                | none => dispatchedType i == none)
            | none => false)
        | none => false) = true := by
  decide +kernel

theorem C09_epd : Gen.Nas.dispatchGmm.epd = epd5GMM ∧ Gen.Nas.dispatchGsm.epd = epd5GSM := by decide

theorem C09_table_count :
    tables.length = 45 ∧ (tables.map (·.opt.length)).sum = 159 ∧
    (Gen.Nas.layouts.map (·.name)).all (fun n => (tables.filter (·.name == n)).length == 1) = true := by
  decide +kernel

/-- generic: for every well-formed layout that implements the wire structure `w` (outside the fields in `skip`,
    which the message leaves nil) and every message that denotes an abstract message (`specWF`: well-formed, and
    `Len` = number of octets sent for the fixed-size `Len`+`Octet` shapes), the independent TS 24.501 parser reads the
    codec's bytes back to exactly that abstract message -/
theorem C09_spec_parses_impl (L : Layout) (w : Wire) (m : Msg) (skip : List Nat)
    (hL : LayoutWF L) (hm : specWF L m = true) (ha : agree L w skip = true) (hs : skips m skip = true) :
    ∃ bs, encode L m = .ok bs ∧ parse w bs = some (toSpec L w m) := by
  obtain ⟨bs, henc, _, hparse, _⟩ := spec_agree L w m skip hL hm ha hs
  exact ⟨bs, henc, hparse⟩

/-- generic, the other direction: the bytes the independent TS 24.501 encoder builds for the abstract message are
    decoded by the codec to the intended values -/
theorem C09_impl_parses_spec (L : Layout) (w : Wire) (m : Msg) (skip : List Nat)
    (hL : LayoutWF L) (hm : specWF L m = true) (ha : agree L w skip = true) (hs : skips m skip = true) :
    ∃ bs, Spec.Ts24501.encode w (toSpec L w m) = some bs ∧ decode L bs = .ok m := by
  obtain ⟨bs, _, hspec, _, hdec⟩ := spec_agree L w m skip hL hm ha hs
  exact ⟨bs, hspec, hdec⟩

/-- the standard's encoder and parser are mutually consistent (a fact about Spec/Ts24501.lean alone) -/
theorem C09_spec_selfconsistent (w : Wire) (sm : SMsg) (bs : Bytes) (hnr : noRest w = true)
    (h : Spec.Ts24501.encode w sm = some bs) : parse w bs = some sm :=
  parse_encode w sm bs hnr h

/-- fields a message must leave nil for the consequence theorems to apply: the deviating row of F15 -/
def skipOf (L : Layout) : List Nat :=
  if L.name == "RegistrationRequest" then [Gen.Nas.idx_RegistrationRequest_LastVisitedRegisteredTAI] else []

def wireOf (L : Layout) : Option Wire := (tableByName L.name).bind (·.wire)

/-- table fact: every layout except 8.2.28 (F23) implements the wire structure of its table row by row (the
    Registration Request outside IEI 0x52), the tables' IEIs are pairwise distinct per message -/
theorem C09_agree :
    (Gen.Nas.layouts.all fun L =>
      L.name == "SecurityProtected5GSNASMessage" ||
      (match wireOf L with
        | some w => agree L w (skipOf L)
        | none => false)) = true := by
  decide +kernel

/-- C09 consequences for the code in the tree: 44 message types, every message that denotes an abstract message -/
theorem C09_consequences (L : Layout) (hmem : L ∈ Gen.Nas.layouts) (hne : (L.name == "SecurityProtected5GSNASMessage") = false)
    (m : Msg) (hm : specWF L m = true) (hs : skips m (skipOf L) = true) :
    ∃ w bs, wireOf L = some w ∧ encode L m = .ok bs ∧ parse w bs = some (toSpec L w m) ∧
      Spec.Ts24501.encode w (toSpec L w m) = some bs ∧ decode L bs = .ok m := by
  have h := List.all_eq_true.mp C09_agree L hmem
  simp only [hne, Bool.false_or] at h
  cases hw : wireOf L with
  | none => simp [hw] at h
  | some w =>
    simp only [hw] at h
    obtain ⟨bs, henc, hspec, hparse, hdec⟩ := spec_agree L w m _ (C08.layouts_wf L hmem) hm h hs
    exact ⟨w, bs, rfl, henc, hparse, hspec, hdec⟩

/-! ## the constructors on the emulator's path (NasPdu.go)

    `Ctor.*` is the hand model of each constructor (Model/NasCtor.lean, tied by `corr nas-ctor`), `Intended.*` the
    abstract message it is meant to send (Spec/NasCtorIntended.lean).  Each theorem: the bytes the constructor
    produces are parsed by the independent TS 24.501 parser, under the message's table, to the intended values. -/

open Stgutg.Gen.Nas in
/-- the standard's parser reads the constructor's bytes back to `expected` -/
def ctorParses (L : Layout) (model : Res Msg) (expected : SMsg) : Bool :=
  match wireOf L, Ctor.encodeWith L model with
  | some w, .ok bs => parse w bs == some expected
  | _, _ => false

/-- the general constructor theorem: a constructor whose message is `msg`, checked against the layout row by row
    (`mandRowsOK`, `optRowsOK`), sends bytes that the standard's parser reads back to `expected`, the abstract message of
    `msg` (`rowsSpec`); they are the octets the standard's encoder gives for `expected`, and `Decode<Msg>` reads them back.
    A constructor theorem with symbolic arguments is this one at the closed form of the constructor's message (`hmodel`) -/
theorem ctor_sends_octets (L : Layout) (hmem : L ∈ Gen.Nas.layouts)
    (hne : (L.name == "SecurityProtected5GSNASMessage") = false)
    {model : Res Msg} {msg : Msg} (hmodel : model = .ok msg) (hsk : skips msg (skipOf L) = true)
    (hm : mandRowsOK L.fields msg L.encMand = true)
    (ho : optRowsOK (L.fields.drop L.encMand.length) (msg.drop L.encMand.length) L.encOpt L.cases = true)
    {expected : SMsg} (hto : ∀ w, wireOf L = some w → rowsSpec L w msg = expected) :
    ∃ w bs, wireOf L = some w ∧ Ctor.encodeWith L model = .ok bs ∧ parse w bs = some expected ∧
      Spec.Ts24501.encode w expected = some bs ∧ encode L msg = .ok bs ∧ decode L bs = .ok msg := by
  obtain ⟨hwf, hrows⟩ := rows_sound L msg (C08.layouts_wf L hmem) hm ho
  obtain ⟨w, bs, hw, henc, hparse, hspec, hdec⟩ := C09_consequences L hmem hne msg hwf hsk
  have he : toSpec L w msg = expected := by rw [hrows w, hto w hw]
  rw [he] at hparse hspec
  exact ⟨w, bs, hw, by simp [Ctor.encodeWith, hmodel, henc], hparse, hspec, henc, hdec⟩

/-- the constructor's message encodes to `bs`, which the standard's parser reads as `expected` -/
def Sends (L : Layout) (model : Res Msg) (bs : Bytes) (expected : SMsg) : Prop :=
  ∃ w, wireOf L = some w ∧ Ctor.encodeWith L model = .ok bs ∧ parse w bs = some expected

theorem Sends.ctorParses {L : Layout} {model : Res Msg} {bs : Bytes} {expected : SMsg} (h : Sends L model bs expected) :
    ctorParses L model expected = true := by
  obtain ⟨w, hw, he, hp⟩ := h
  simp [C09.ctorParses, hw, he, hp]

/-! ### plain 5GMM messages: what the conversations need of one

    A 5GMM message goes out on its own (the 5GSM ones travel inside UL NAS TRANSPORT), so more is asked of its octets than
    that they parse: `EncodeNasPduWithSecurity` first runs them through `PlainNasDecode` / `PlainNasEncode`, and the reference
    AMF looks at the three header octets before it parses under the message's table. -/

/-- what the generated tables say of a dispatched 5GMM layout: its number in the layout list, its table, and the message type
    under which nas.go dispatches it (each field is closed: `rfl` or an evaluation) -/
structure Tabled (L : Layout) (T : Table) (i : Nat) (t : UInt8) : Prop where
  layout : Gen.Nas.layouts[i]? = some L
  table : tableByName L.name = some T
  gmm : T.gsm = false
  type : T.msgType = some t.toNat
  dispatch : Gen.Nas.dispatchGmm.dec.lookup t.toNat = some i
  named : (L.name == "SecurityProtected5GSNASMessage") = false

/-- the message `msg` of layout number `i` goes out as `bs`: the parser of table `T` reads `bs` as `expected` (`parses` is
    `Spec.Amf.parseNas T bs`), `bs` is what the standard's encoder writes for `expected` (`written` is `Spec.AmfDl.nas T expected`),
    it starts with the three header values of `expected`, and `PlainNasDecode` / `PlainNasEncode` reproduce it -/
structure Sent (T : Table) (i : Nat) (msg : Msg) (bs : Bytes) (expected : SMsg) : Prop where
  parses : T.wire.bind (parse · bs) = some expected
  written : T.wire.bind (Spec.Ts24501.encode · expected) = some bs
  head : ∀ a b c tl, expected.mand = [a] :: [b] :: [c] :: tl → ∃ r, bs = a :: b :: c :: r
  decodes : plainDecode C08.codec bs = .ok ⟨false, bs.take 3, i, msg⟩
  reencodes : plainEncode C08.codec ⟨false, bs.take 3, i, msg⟩ = .ok bs

/-- `ctor_sends_octets` for a dispatched 5GMM layout, when the abstract message starts with the 5GMM protocol discriminator
    and ends its header with the table's message type: the octets are `Sent`.  The header octets are read off the standard's
    encoder (`encode_head3`), the rest is nas.go around one message (`plain_of_encode`) -/
theorem sent {L : Layout} {T : Table} {i : Nat} {t : UInt8} (hT : Tabled L T i t)
    {model : Res Msg} {msg : Msg} (hmodel : model = .ok msg) (hsk : skips msg (skipOf L) = true)
    (hm : mandRowsOK L.fields msg L.encMand = true)
    (ho : optRowsOK (L.fields.drop L.encMand.length) (msg.drop L.encMand.length) L.encOpt L.cases = true)
    {expected : SMsg} (hto : ∀ w, wireOf L = some w → rowsSpec L w msg = expected)
    {b : UInt8} {tl : List Bytes} (hhd : expected.mand = [0x7E] :: [b] :: [t] :: tl) :
    ∃ bs, Ctor.encodeWith L model = .ok bs ∧ Sent T i msg bs expected := by
  obtain ⟨w, bs, hw, henc, hparse, hspec, hencL, hdec⟩ :=
    ctor_sends_octets L (List.mem_of_getElem? hT.layout) hT.named hmodel hsk hm ho hto
  have hw' : T.wire = some w := by unfold wireOf at hw; rwa [hT.table] at hw
  obtain ⟨rest, hmand⟩ := Table.wire_gmm hT.gmm hT.type hw'
  have hhead := fun a b c tl h => encode_head3 hmand hspec (a := a) (b := b) (c := c) (tl := tl) h
  obtain ⟨r, rfl⟩ := hhead _ _ _ _ hhd
  have hC := C08.codec_wf
  simp only [CodecWF, codecWF, Bool.and_eq_true, bne_iff_ne, ne_eq] at hC
  have h3 : Gen.Nas.dispatchGmm.hdrLen = 3 ∧ Gen.Nas.dispatchGmm.typeIdx = 2 ∧ Gen.Nas.dispatchGmm.epd = 0x7E := by decide
  obtain ⟨p1, p2⟩ := plain_of_encode C08.codec false Gen.Nas.dispatchGmm rfl hC.1.1.1 hC.1.2 hT.dispatch hT.layout hencL hdec
    (by rw [h3.2.2]; rfl) (by rw [h3.1]; simp) (by rw [h3.2.1]; rfl)
  rw [h3.1] at p1 p2
  exact ⟨_, henc, by rw [hw']; exact hparse, by rw [hw']; exact hspec, hhead, p1, p2⟩

/-- back to the wire structure found by the layout's name -/
theorem Sent.c09 {L : Layout} {T : Table} {i : Nat} {t : UInt8} {msg : Msg} {bs : Bytes} {expected : SMsg}
    (h : Sent T i msg bs expected) (hT : Tabled L T i t) {model : Res Msg} (henc : Ctor.encodeWith L model = .ok bs) :
    ∃ w bs, wireOf L = some w ∧ Ctor.encodeWith L model = .ok bs ∧ parse w bs = some expected := by
  obtain ⟨w, hw, hp⟩ := Option.bind_eq_some_iff.mp h.parses
  exact ⟨w, bs, by unfold wireOf; rw [hT.table]; exact hw, henc, hp⟩

section
open Stgutg.Gen.Nas Stgutg.Gen

theorem tabled_registrationRequest : Tabled layout_RegistrationRequest Spec.Ts24501.registrationRequest 34 0x41 :=
  ⟨rfl, rfl, rfl, rfl, by decide +kernel, by decide +kernel⟩

theorem tabled_authenticationRequest : Tabled layout_AuthenticationRequest Spec.Ts24501.authenticationRequest 2 0x56 :=
  ⟨rfl, rfl, rfl, rfl, by decide +kernel, by decide +kernel⟩

theorem tabled_authenticationResponse : Tabled layout_AuthenticationResponse Spec.Ts24501.authenticationResponse 3 0x57 :=
  ⟨rfl, rfl, rfl, rfl, by decide +kernel, by decide +kernel⟩

theorem tabled_securityModeComplete : Tabled layout_SecurityModeComplete Spec.Ts24501.securityModeComplete 36 0x5E :=
  ⟨rfl, rfl, rfl, rfl, by decide +kernel, by decide +kernel⟩

theorem tabled_registrationComplete : Tabled layout_RegistrationComplete Spec.Ts24501.registrationComplete 32 0x43 :=
  ⟨rfl, rfl, rfl, rfl, by decide +kernel, by decide +kernel⟩

theorem tabled_ulNasTransport : Tabled layout_ULNASTransport Spec.Ts24501.ulNasTransport 44 0x67 :=
  ⟨rfl, rfl, rfl, rfl, by decide +kernel, by decide +kernel⟩

theorem tabled_serviceRequest : Tabled layout_ServiceRequest Spec.Ts24501.serviceRequest 41 0x4C :=
  ⟨rfl, rfl, rfl, rfl, by decide +kernel, by decide +kernel⟩

theorem tabled_deregistrationRequest : Tabled layout_DeregistrationRequestUEOriginatingDeregistration
    Spec.Ts24501.deregistrationRequestUEOriginating 10 0x45 :=
  ⟨rfl, rfl, rfl, rfl, by decide +kernel, by decide +kernel⟩

/-- the three 5GSM constructors that send a bare header: the four octets, and what the standard's parser makes of them -/
theorem gsmHeaderOnly_sends (L : Layout) (hmem : L ∈ Gen.Nas.layouts)
    (hne : (L.name == "SecurityProtected5GSNASMessage") = false) (hsk : skipOf L = [])
    (hwm : (wireOf L).map (·.mand) = some [.v 1, .v 1, .v 1, .v 1])
    (hge : L.encMand = [(0, [.octet]), (1, [.octet]), (2, [.octet]), (3, [.octet])])
    {model : Res Msg} (psi : Nat) (ty : UInt8) (n : Nat) (hmodel : model = .ok (gsmHeaderMsg (UInt8.ofNat psi) ty n))
    (hm : mandRowsOK L.fields (gsmHeaderMsg (UInt8.ofNat psi) ty n) L.encMand = true)
    (ho : optRowsOK (L.fields.drop L.encMand.length) ((gsmHeaderMsg (UInt8.ofNat psi) ty n).drop L.encMand.length)
      L.encOpt L.cases = true) :
    Sends L model [0x2E, UInt8.ofNat psi, 1, ty] (Intended.gsmHeaderOnly ty psi 1) := by
  obtain ⟨w, bs, hw, h1, h2, h3, -, -⟩ := ctor_sends_octets L hmem hne hmodel (by rw [hsk]; rfl) hm ho
    (expected := Intended.gsmHeaderOnly ty psi 1) (fun w _ => by
      simp [rowsSpec, hge, gsmHeaderMsg, mandRowsSpec, mandToSpec, optRowsSpec_none, Intended.gsmHeaderOnly, Intended.u8,
        Intended.assignedPti])
  rw [hw] at hwm
  simp only [Option.map_some, Option.some.injEq] at hwm
  have : bs = [0x2E, UInt8.ofNat psi, 1, ty] := by
    simpa [Intended.gsmHeaderOnly, Intended.u8, Intended.assignedPti, Spec.Ts24501.encode, encMand, encOpts, hwm] using h3.symm
  subst this
  exact ⟨w, hw, h1, h2⟩

theorem modReq_sends (psi : Nat) : Sends layout_PDUSessionModificationRequest
    (Ctor.pduSessionModificationRequest (UInt8.ofNat psi)) [0x2E, UInt8.ofNat psi, 1, 0xC9]
    (Intended.pduSessionModificationRequest psi 1) :=
  gsmHeaderOnly_sends layout_PDUSessionModificationRequest (by simp [Gen.Nas.layouts]) (by decide +kernel) (by decide +kernel)
    (by decide +kernel) rfl psi 0xC9 9 (modReq_eval _) (by rfl) (by rfl)

theorem relReq_sends (psi : Nat) : Sends layout_PDUSessionReleaseRequest
    (Ctor.pduSessionReleaseRequest (UInt8.ofNat psi)) [0x2E, UInt8.ofNat psi, 1, 0xD1]
    (Intended.pduSessionReleaseRequest psi 1) :=
  gsmHeaderOnly_sends layout_PDUSessionReleaseRequest (by simp [Gen.Nas.layouts]) (by decide +kernel) (by decide +kernel)
    (by decide +kernel) rfl psi 0xD1 2 (relReq_eval _) (by rfl) (by rfl)

theorem relCompl_sends (psi : Nat) : Sends layout_PDUSessionReleaseComplete
    (Ctor.pduSessionReleaseComplete (UInt8.ofNat psi)) [0x2E, UInt8.ofNat psi, 1, 0xD4]
    (Intended.pduSessionReleaseComplete psi 1) :=
  gsmHeaderOnly_sends layout_PDUSessionReleaseComplete (by simp [Gen.Nas.layouts]) (by decide +kernel) (by decide +kernel)
    (by decide +kernel) rfl psi 0xD4 2 (relCompl_eval _) (by rfl) (by rfl)

/-- the establishment request inside the container is the standard's encoding of the intended inner message -/
theorem ul_inner_establishment_spec : ∀ psi < 256,
    ((tableByName "PDUSessionEstablishmentRequest").bind (·.wire)).bind
        (Spec.Ts24501.encode · (Intended.pduSessionEstablishmentRequest psi 1)) =
      some ([0x2E, UInt8.ofNat psi, 0x01, 0xC1, 0xFF, 0xFF, 0x91, 0x7B, 0x00, 0x0A] ++ Intended.pco) := by
  -- the encoder never looks into the one octet that depends on `psi`: both sides compute to the same list
  intro psi _
  rfl

/-- the establishment request: its octets are those the standard's encoder gives for the intended message -/
theorem estReq_sends (psi : Nat) (hpsi : psi < 256) : Sends layout_PDUSessionEstablishmentRequest
    (Ctor.pduSessionEstablishmentRequest (UInt8.ofNat psi))
    ([0x2E, UInt8.ofNat psi, 0x01, 0xC1, 0xFF, 0xFF, 0x91, 0x7B, 0x00, 0x0A] ++ Intended.pco)
    (Intended.pduSessionEstablishmentRequest psi 1) := by
  have hmem : layout_PDUSessionEstablishmentRequest ∈ Gen.Nas.layouts := by simp [Gen.Nas.layouts]
  obtain ⟨w, bs, hw, h1, h2, h3, -, -⟩ := ctor_sends_octets _ hmem (by decide +kernel) (estReq_eval (UInt8.ofNat psi)) (by rfl) (by rfl) (by rfl)
    (expected := Intended.pduSessionEstablishmentRequest psi 1) (fun w _ => by
      simp [rowsSpec, layout_PDUSessionEstablishmentRequest, estReqMsg, mandRowsSpec, optRowsSpec, mandToSpec, optToSpec,
        Intended.pduSessionEstablishmentRequest, Intended.u8, Intended.assignedPti, Intended.pco, Ctor.pcoContents])
  have hb := ul_inner_establishment_spec psi hpsi
  rw [show (tableByName "PDUSessionEstablishmentRequest").bind (·.wire) = some w from hw, Option.bind_some, h3] at hb
  cases hb
  exact ⟨w, hw, h1, h2⟩

/-- `GetPduSessionEstablishmentRequest`: every PDU session identity; PTI 1, IPv4, full integrity data rates, the PCO -/
theorem C09_ctor_establishmentRequest : ∀ psi < 256, ctorParses layout_PDUSessionEstablishmentRequest
    (Ctor.pduSessionEstablishmentRequest (UInt8.ofNat psi)) (Intended.pduSessionEstablishmentRequest psi 1) = true :=
  fun psi hpsi => (estReq_sends psi hpsi).ctorParses

/-- `GetServiceRequest`: every service type value; ngKSI native/1, 5G-S-TMSI with type of identity 5G-S-TMSI (after the
    F18 repair), uplink data status for "data", allowed PDU session status for "mobile terminated services" -/
theorem C09_ctor_serviceRequest : ∀ st < 16, ctorParses layout_ServiceRequest
    (Ctor.serviceRequest (UInt8.ofNat st)) (Intended.serviceRequest st) = true := by
  decide +kernel

/-- full statement for the three 5GSM constructors without a PTI argument: they use an assigned PTI (7.3.1) -/
def C09_ctor_pti_statement : Prop :=
  ∀ psi < 256, ∃ pti, 1 ≤ pti ∧ pti ≤ 254 ∧
    ctorParses layout_PDUSessionReleaseRequest (Ctor.pduSessionReleaseRequest (UInt8.ofNat psi))
      (Intended.pduSessionReleaseRequest psi pti) = true ∧
    ctorParses layout_PDUSessionReleaseComplete (Ctor.pduSessionReleaseComplete (UInt8.ofNat psi))
      (Intended.pduSessionReleaseComplete psi pti) = true ∧
    ctorParses layout_PDUSessionModificationRequest (Ctor.pduSessionModificationRequest (UInt8.ofNat psi))
      (Intended.pduSessionModificationRequest psi pti) = true

/-- the three constructors send PTI 1, an assigned value, and everything else as intended (holds since the F19 repair) -/
theorem C09_ctor_pti : C09_ctor_pti_statement := by
  exact fun psi _ => ⟨1, by decide, by decide, (relReq_sends psi).ctorParses, (relCompl_sends psi).ctorParses,
    (modReq_sends psi).ctorParses⟩

/-- what was sent before the F19 repair (PTI octet 0 = "unassigned") is NOT what the standard intends, for any assigned PTI:
    the judge used by the correspondence run tells the two apart -/
theorem C09_ctor_pti_zero_rejected : ∀ pti < 255, 1 ≤ pti →
    (match wireOf layout_PDUSessionReleaseRequest with
     | some w => parse w [0x2E, 5, 0, 0xD1] == some (Intended.pduSessionReleaseRequest 5 pti)
     | none => true) = false := by
  intro pti h255 h1
  -- the parser is run once, on the four octets; the PTI it finds is 0, and an assigned PTI is not
  have hp : (wireOf layout_PDUSessionReleaseRequest).map (parse · [0x2E, 5, 0, 0xD1])
      = some (some ⟨[[0x2E], [5], [0], [0xD1]], []⟩) := by decide +kernel
  cases hw : wireOf layout_PDUSessionReleaseRequest with
  | none => rw [hw] at hp; cases hp
  | some w =>
    rw [hw] at hp
    simp only [Option.map_some, Option.some.injEq] at hp
    simp only [hp]
    have : UInt8.ofNat pti ≠ 0 := fun h => by
      have h0 : pti = 0 := (UInt8.toNat_ofNat_of_lt' (show pti < 256 by omega)).symm.trans (congrArg UInt8.toNat h)
      omega
    simp [Intended.pduSessionReleaseRequest, Intended.gsmHeaderOnly, Intended.u8, Intended.assignedPti, h1,
      show pti ≤ 254 by omega, Ne.symm this]

theorem ulWire_psi {w : Wire} (hw : wireOf layout_ULNASTransport = some w) :
    w.opt.find? (fun x => x.iei == 0x12) = some ⟨0x12, .tv 1, 1, some 1⟩ := by
  have : (wireOf layout_ULNASTransport).map (fun w => w.opt.find? (fun x => x.iei == 0x12))
      = some (some ⟨0x12, .tv 1, 1, some 1⟩) := by decide +kernel
  rw [hw] at this; simpa using this

theorem ulReleaseRequest_sent (psi : Nat) (hpsi : psi < 256) :
    ∃ msg bs, Ctor.encodeWith layout_ULNASTransport (Ctor.ulReleaseRequest (UInt8.ofNat psi)) = .ok bs ∧
      Sent Spec.Ts24501.ulNasTransport 44 msg bs (Intended.ulNasTransport [0x2E, UInt8.ofNat psi, 1, 0xD1] psi none [] none) := by
  obtain ⟨_, _, hin, _⟩ := relReq_sends psi
  have hmodel : Ctor.ulReleaseRequest (UInt8.ofNat psi) = .ok
      [some ⟨0, 0, [0x7E]⟩, some ⟨0, 0, [0x00]⟩, some ⟨0, 0, [0x67]⟩, some ⟨0, 0, [0x01]⟩,
       some ⟨0, 4, [0x2E, UInt8.ofNat psi, 1, 0xD1]⟩, some ⟨0x12, 0, [UInt8.ofNat psi]⟩, none, none, none, none, none] := by
    simp only [Ctor.ulReleaseRequest, hin, Ctor.ulNasTransport, ulHead_eval, Bool.false_eq_true, if_false]
    rw [ulTail_eval _ _ (by rfl) (by rfl) (by simp)]
    rfl
  exact ⟨_, sent tabled_ulNasTransport hmodel (by rfl) (by rfl) (by rfl) (fun w hw => by
      simp [rowsSpec, layout_ULNASTransport, mandRowsSpec, optRowsSpec, mandToSpec, optToSpec, ulWire_psi hw,
        Intended.ulNasTransport, Intended.halves, Intended.u8]) rfl⟩

/-- `GetUlNasTransport_PduSessionReleaseRequest`: UL NAS TRANSPORT, payload container type N1 SM information, PDU session
    ID IE = the argument, payload = the release request with PTI 1 -/
theorem C09_ctor_ulReleaseRequest : ∀ psi < 256, ctorParses layout_ULNASTransport
    (Ctor.ulReleaseRequest (UInt8.ofNat psi))
    (Intended.ulNasTransport [0x2E, UInt8.ofNat psi, 1, 0xD1] psi none [] none) = true := by
  intro psi hpsi
  obtain ⟨_, bs, henc, hs⟩ := ulReleaseRequest_sent psi hpsi
  obtain ⟨w, _, h⟩ := hs.c09 tabled_ulNasTransport henc
  exact Sends.ctorParses ⟨w, h⟩

theorem registrationComplete_sent (sor : Option Bytes) (h : ∀ c, sor = some c → c.length < 65536) :
    ∃ msg bs, Ctor.encodeWith layout_RegistrationComplete (Ctor.registrationComplete sor) = .ok bs ∧
      Sent Spec.Ts24501.registrationComplete 32 msg bs (Intended.registrationComplete sor) := by
  have hbase : Ctor.registrationCompleteBase
      = .ok [some ⟨0, 0, [0x7E]⟩, some ⟨0, 0, [0x00]⟩, some ⟨0, 0, [0x43]⟩, none] := by decide +kernel
  have hmodel : Ctor.registrationComplete sor
      = .ok [some ⟨0, 0, [0x7E]⟩, some ⟨0, 0, [0x00]⟩, some ⟨0, 0, [0x43]⟩, sor.map fun c => ⟨0x73, c.length, c⟩] := by
    cases sor with
    | none => simp [Ctor.registrationComplete, hbase]
    | some c => simp [Ctor.registrationComplete, hbase, Ctor.setP, idx_RegistrationComplete_SORTransparentContainer,
        Ctor.bufIE_eq sh_SORTransparentContainer 0x73 65536 c _ rfl rfl (by omega) (h c rfl)]
  refine ⟨_, sent tabled_registrationComplete hmodel (by rfl) (by rfl)
    (by cases sor with
      | none => rfl
      | some c => simp [layout_RegistrationComplete, optRowsOK, optValOK, specValOK, lenFits, sh_SORTransparentContainer, h c rfl])
    (fun w hw => ?_) rfl⟩
  simp [rowsSpec, layout_RegistrationComplete, mandRowsSpec, optRowsSpec, mandToSpec, optToSpec, Intended.registrationComplete,
    present_eq, Function.comp_def]

/-- `GetRegistrationComplete`: with or without a SOR transparent container of any content below 64 KiB -/
theorem C09_ctor_registrationComplete (sor : Option Bytes) (h : ∀ c, sor = some c → c.length < 65536) :
    ∃ w bs, wireOf layout_RegistrationComplete = some w ∧
      Ctor.encodeWith layout_RegistrationComplete (Ctor.registrationComplete sor) = .ok bs ∧
      parse w bs = some (Intended.registrationComplete sor) :=
  let ⟨_, _, henc, hs⟩ := registrationComplete_sent sor h
  hs.c09 tabled_registrationComplete henc

theorem securityModeComplete_sent (nmc : Option Bytes) (h : ∀ c, nmc = some c → c.length < 65536) :
    ∃ msg bs, Ctor.encodeWith layout_SecurityModeComplete (Ctor.securityModeComplete nmc) = .ok bs ∧
      Sent Spec.Ts24501.securityModeComplete 36 msg bs (Intended.securityModeComplete nmc) := by
  have hbase : Ctor.securityModeCompleteBase
      = .ok [some ⟨0, 0, [0x7E]⟩, some ⟨0, 0, [0x00]⟩, some ⟨0, 0, [0x5E]⟩,
             some ⟨0x77, 9, [0x15, 0x11, 0, 0, 0, 0, 0, 0, 0]⟩, none] := by decide +kernel
  have hmodel : Ctor.securityModeComplete nmc
      = .ok [some ⟨0, 0, [0x7E]⟩, some ⟨0, 0, [0x00]⟩, some ⟨0, 0, [0x5E]⟩,
             some ⟨0x77, 9, [0x15, 0x11, 0, 0, 0, 0, 0, 0, 0]⟩, nmc.map fun c => ⟨0x71, c.length, c⟩] := by
    cases nmc with
    | none => simp [Ctor.securityModeComplete, hbase]
    | some c => simp [Ctor.securityModeComplete, hbase, Ctor.setP, idx_SecurityModeComplete_NASMessageContainer,
        Ctor.bufIE_eq sh_NASMessageContainer 0x71 65536 c _ rfl rfl (by omega) (h c rfl)]
  refine ⟨_, sent tabled_securityModeComplete hmodel (by rfl) (by rfl)
    (by cases nmc with
      | none => decide +kernel
      | some c => simp [layout_SecurityModeComplete, optRowsOK, optValOK, specValOK, lenFits, sh_NASMessageContainer, sh_IMEISV,
          Body.size, allZero, h c rfl]) (fun w hw => ?_) rfl⟩
  simp [rowsSpec, layout_SecurityModeComplete, mandRowsSpec, optRowsSpec, mandToSpec, optToSpec, Intended.securityModeComplete,
    present_eq, Function.comp_def]

/-- `GetSecurityModeComplete`: the IMEISV (type of identity IMEISV, even, digits 1,1,1,0…) and, when given, the NAS
    message container with any content below 64 KiB -/
theorem C09_ctor_securityModeComplete (nmc : Option Bytes) (h : ∀ c, nmc = some c → c.length < 65536) :
    ∃ w bs, wireOf layout_SecurityModeComplete = some w ∧
      Ctor.encodeWith layout_SecurityModeComplete (Ctor.securityModeComplete nmc) = .ok bs ∧
      parse w bs = some (Intended.securityModeComplete nmc) :=
  let ⟨_, _, henc, hs⟩ := securityModeComplete_sent nmc h
  hs.c09 tabled_securityModeComplete henc

theorem authenticationResponse_sent (param eap : Bytes)
    (h : param.length = 16 ∨ (param = [] ∧ eap.length < 65536)) :
    ∃ msg bs, Ctor.encodeWith layout_AuthenticationResponse (Ctor.authenticationResponse param eap) = .ok bs ∧
      Sent Spec.Ts24501.authenticationResponse 3 msg bs (Intended.authenticationResponse (if param = [] then none else some param)
        (if param = [] ∧ eap ≠ [] then some eap else none)) := by
  have hbase : Ctor.authenticationResponseBase
      = .ok [some ⟨0, 0, [0x7E]⟩, some ⟨0, 0, [0x00]⟩, some ⟨0, 0, [0x57]⟩, none, none] := by decide +kernel
  rcases h with h16 | ⟨hp, he⟩
  · have hne : param ≠ [] := by intro h; simp [h] at h16
    have hmodel : Ctor.authenticationResponse param eap
        = .ok [some ⟨0, 0, [0x7E]⟩, some ⟨0, 0, [0x00]⟩, some ⟨0, 0, [0x57]⟩, some ⟨0x2D, 16, param⟩, none] := by
      simp [Ctor.authenticationResponse, hbase, h16, Ctor.setP, Ctor.setLen, newVal, sh_AuthenticationResponseParameter,
        Shape.zero, Body.size, idx_AuthenticationResponse_AuthenticationResponseParameter]
      rw [show param.take 16 = param by rw [← h16]; simp]
      simpa [h16, List.replicate] using Ctor.copyInto_replicate param
    refine ⟨_, sent tabled_authenticationResponse hmodel (by rfl) (by rfl)
      (by simp [layout_AuthenticationResponse, optRowsOK, optValOK, specValOK, lenFits, sh_AuthenticationResponseParameter,
            Body.size, h16, allZero, show param.drop 16 = [] from List.drop_eq_nil_of_le (by omega)]) (fun w hw => ?_) rfl⟩
    simp [rowsSpec, layout_AuthenticationResponse, mandRowsSpec, optRowsSpec, mandToSpec, optToSpec, Intended.authenticationResponse,
      Intended.present, hne]
    rw [← h16]; simp
  · subst hp
    have hmodel : Ctor.authenticationResponse [] eap
        = .ok [some ⟨0, 0, [0x7E]⟩, some ⟨0, 0, [0x00]⟩, some ⟨0, 0, [0x57]⟩, none,
            if eap = [] then none else some ⟨0x78, eap.length, eap⟩] := by
      cases eap with
      | nil => simp [Ctor.authenticationResponse, hbase]
      | cons a t => simp [Ctor.authenticationResponse, hbase, Ctor.setP, idx_AuthenticationResponse_EAPMessage,
          Ctor.bufIE_eq sh_EAPMessage 0x78 65536 (a :: t) _ rfl rfl (by omega) he]
    refine ⟨_, sent tabled_authenticationResponse hmodel (by rfl) (by rfl)
      (by cases eap with
        | nil => rfl
        | cons a t => simpa [layout_AuthenticationResponse, optRowsOK, optValOK, specValOK, lenFits, sh_EAPMessage] using he)
      (fun w hw => ?_) rfl⟩
    cases eap <;> simp [rowsSpec, layout_AuthenticationResponse, mandRowsSpec, optRowsSpec, mandToSpec, optToSpec,
      Intended.authenticationResponse, Intended.present]

/-- `GetAuthenticationResponse`: a 16-octet RES* → authentication response parameter; otherwise a non-empty EAP message
    → EAP message IE; otherwise the bare message -/
theorem C09_ctor_authenticationResponse (param eap : Bytes)
    (h : param.length = 16 ∨ (param = [] ∧ eap.length < 65536)) :
    ∃ w bs, wireOf layout_AuthenticationResponse = some w ∧
      Ctor.encodeWith layout_AuthenticationResponse (Ctor.authenticationResponse param eap) = .ok bs ∧
      parse w bs = some (Intended.authenticationResponse (if param = [] then none else some param)
        (if param = [] ∧ eap ≠ [] then some eap else none)) :=
  let ⟨_, _, henc, hs⟩ := authenticationResponse_sent param eap h
  hs.c09 tabled_authenticationResponse henc

theorem deregistrationRequest_sent (acc sw ksi : Nat) (mi : Val) (ha : acc < 4) (hs : sw < 2) (hk : ksi < 8)
    (hev : ksi % 2 = 0) (hl : mi.len = mi.data.length) (hlt : mi.data.length < 65536) :
    ∃ msg bs, Ctor.encodeWith layout_DeregistrationRequestUEOriginatingDeregistration
        (Ctor.deregistrationRequest (UInt8.ofNat acc) (UInt8.ofNat sw) (UInt8.ofNat ksi) mi) = .ok bs ∧
      Sent deregistrationRequestUEOriginating 10 msg bs (Intended.deregistrationRequest acc sw ksi mi.data) := by
  have hbase := deregBase_eval acc ha sw hs (ksi / 2) (by omega)
  rw [show 2 * (ksi / 2) = ksi by omega] at hbase
  have hmodel : Ctor.deregistrationRequest (UInt8.ofNat acc) (UInt8.ofNat sw) (UInt8.ofNat ksi) mi
      = .ok [some ⟨0, 0, [0x7E]⟩, some ⟨0, 0, [0x00]⟩, some ⟨0, 0, [0x45]⟩,
          some ⟨0, 0, Intended.halves (Intended.deregType sw 0 acc) (Intended.ngKSI 0 ksi)⟩,
          some ⟨0, mi.data.length, mi.data⟩] := by
    simp [Ctor.deregistrationRequest, hbase, Ctor.updF, Ctor.ok1, Ctor.setContents, Ctor.setLenBuf,
      idx_DeregistrationRequestUEOriginatingDeregistration_MobileIdentity5GS, hl, Ctor.copyInto_replicate]
  refine ⟨_, sent tabled_deregistrationRequest hmodel
    (by rfl)
    (by simp [layout_DeregistrationRequestUEOriginatingDeregistration, mandRowsOK, mandValOK, specValOK, lenFits,
          sh_ExtendedProtocolDiscriminator, sh_SpareHalfOctetAndSecurityHeaderType, sh_DeregistrationRequestMessageIdentity,
          sh_NgksiAndDeregistrationType, sh_MobileIdentity5GS, Body.size, hlt, Intended.halves])
    (by rfl) (fun w hw => ?_) rfl⟩
  simp [rowsSpec, layout_DeregistrationRequestUEOriginatingDeregistration, mandRowsSpec, optRowsSpec, mandToSpec,
    Intended.deregistrationRequest]

/-- `GetDeregistrationRequest`: access type, switch-off flag, re-registration not required, native key set identifier
    (even identifiers: the emulator passes 4; odd ones are F25), the mobile identity contents -/
theorem C09_ctor_deregistrationRequest (acc sw ksi : Nat) (mi : Val) (ha : acc < 4) (hs : sw < 2) (hk : ksi < 8)
    (hev : ksi % 2 = 0) (hl : mi.len = mi.data.length) (hlt : mi.data.length < 65536) :
    ∃ w bs, wireOf layout_DeregistrationRequestUEOriginatingDeregistration = some w ∧
      Ctor.encodeWith layout_DeregistrationRequestUEOriginatingDeregistration
        (Ctor.deregistrationRequest (UInt8.ofNat acc) (UInt8.ofNat sw) (UInt8.ofNat ksi) mi) = .ok bs ∧
      parse w bs = some (Intended.deregistrationRequest acc sw ksi mi.data) :=
  let ⟨_, _, henc, hs⟩ := deregistrationRequest_sent acc sw ksi mi ha hs hk hev hl hlt
  hs.c09 tabled_deregistrationRequest henc

/-- a buffer IE struct argument that denotes (iei, value) -/
def bufArgOK (iei w : Nat) (v : Option Val) : Prop :=
  ∀ x, v = some x → x.iei = iei ∧ x.len = x.data.length ∧ x.data.length < w

theorem registrationRequest_sent (rt : Nat) (mi : Val) (nssai sec cap : Option Val) (nmc : Option Bytes) (uds : Option Val)
    (hrt : rt < 8) (hmi : mi.iei = 0 ∧ mi.len = mi.data.length ∧ mi.data.length < 65536)
    (hn : bufArgOK 0x2F 256 nssai) (hs : bufArgOK 0x2E 256 sec) (hu : bufArgOK 0x40 256 uds)
    (hc : ∀ x, cap = some x → x.iei = 0x10 ∧ x.len ≤ 13 ∧ x.data.length = 13 ∧ allZero (x.data.drop x.len) = true)
    (hm : ∀ c, nmc = some c → c.length < 65536) :
    ∃ msg bs, Ctor.encodeWith layout_RegistrationRequest
        (Ctor.registrationRequest (UInt8.ofNat rt) mi nssai sec cap nmc uds) = .ok bs ∧
      Sent Spec.Ts24501.registrationRequest 34 msg bs (Intended.registrationRequest rt mi.data (nssai.map (·.data))
        (sec.map (·.data)) (cap.map fun x => x.data.take x.len) nmc (uds.map (·.data))) := by
  obtain ⟨hmi1, hmi2, hmi3⟩ := hmi
  have hmodel : Ctor.registrationRequest (UInt8.ofNat rt) mi nssai sec cap nmc uds = .ok
      [some ⟨0, 0, [0x7E]⟩, some ⟨0, 0, [0x00]⟩, some ⟨0, 0, [0x41]⟩,
       some ⟨0, 0, Intended.halves (Intended.regType 1 rt) (Intended.ngKSI 0 7)⟩, some mi,
       none, cap, sec, nssai, none, none, uds, none, none, none, none, none, none, none, none, none, none, none, none,
       nmc.map fun c => ⟨0x71, c.length, c⟩] := by
    have hbase := regReqBase_eval rt hrt
    cases nmc with
    | none => simp [Ctor.registrationRequest, hbase, regBaseMsg, Ctor.setP, idx_RegistrationRequest_MobileIdentity5GS,
        idx_RegistrationRequest_UESecurityCapability, idx_RegistrationRequest_Capability5GMM, idx_RegistrationRequest_RequestedNSSAI,
        idx_RegistrationRequest_UplinkDataStatus, List.replicate]
    | some c => simp [Ctor.registrationRequest, hbase, regBaseMsg, Ctor.setP, idx_RegistrationRequest_MobileIdentity5GS,
        idx_RegistrationRequest_UESecurityCapability, idx_RegistrationRequest_Capability5GMM, idx_RegistrationRequest_RequestedNSSAI,
        idx_RegistrationRequest_UplinkDataStatus, idx_RegistrationRequest_NASMessageContainer, List.replicate,
        Ctor.bufIE_eq sh_NASMessageContainer 0x71 65536 c _ rfl rfl (by omega) (hm c rfl)]
  refine ⟨_, sent tabled_registrationRequest hmodel
    (by cases nmc <;> rfl)
    (by simp [layout_RegistrationRequest, mandRowsOK, mandValOK, specValOK, lenFits, sh_ExtendedProtocolDiscriminator,
          sh_SpareHalfOctetAndSecurityHeaderType, sh_RegistrationRequestMessageIdentity, sh_NgksiAndRegistrationType5GS,
          sh_MobileIdentity5GS, Body.size, Intended.halves, hmi1, hmi2, hmi3])
    (by
      simp only [layout_RegistrationRequest, optRowsOK, List.drop_succ_cons, List.drop_zero, List.length_cons, List.length_nil,
        Bool.and_true, Bool.true_and, Bool.and_eq_true]
      refine ⟨?_, ?_, ?_, ?_, ?_⟩
      · cases cap with
        | none => rfl
        | some x =>
          obtain ⟨a, b, c, d⟩ := hc x rfl
          simp [optValOK, specValOK, lenFits, sh_Capability5GMM, Body.size, a, b, c, d]; omega
      · cases sec with
        | none => rfl
        | some x => obtain ⟨a, b, c⟩ := hs x rfl; simp [optValOK, specValOK, lenFits, sh_UESecurityCapability, a, b, c]
      · cases nssai with
        | none => rfl
        | some x => obtain ⟨a, b, c⟩ := hn x rfl; simp [optValOK, specValOK, lenFits, sh_RequestedNSSAI, a, b, c]
      · cases uds with
        | none => rfl
        | some x => obtain ⟨a, b, c⟩ := hu x rfl; simp [optValOK, specValOK, lenFits, sh_UplinkDataStatus, a, b, c]
      · cases nmc with
        | none => rfl
        | some c => simp [optValOK, specValOK, lenFits, sh_NASMessageContainer, hm c rfl]) (fun w hw => ?_) rfl⟩
  simp only [rowsSpec, layout_RegistrationRequest, mandRowsSpec, optRowsSpec, List.drop_succ_cons, List.drop_zero, List.length_cons,
    List.length_nil]
  simp [Intended.registrationRequest, present_eq, mandToSpec, optToSpec, Function.comp_def]

/-- `GetRegistrationRequest`: every registration type value, follow-on request pending, no key available; the mobile
    identity contents and whichever of 5GMM capability, UE security capability, requested NSSAI, uplink data status and
    NAS message container are given (the 5GMM capability struct holds 13 octets and sends the first `Len`) -/
theorem C09_ctor_registrationRequest (rt : Nat) (mi : Val) (nssai sec cap : Option Val) (nmc : Option Bytes) (uds : Option Val)
    (hrt : rt < 8) (hmi : mi.iei = 0 ∧ mi.len = mi.data.length ∧ mi.data.length < 65536)
    (hn : bufArgOK 0x2F 256 nssai) (hs : bufArgOK 0x2E 256 sec) (hu : bufArgOK 0x40 256 uds)
    (hc : ∀ x, cap = some x → x.iei = 0x10 ∧ x.len ≤ 13 ∧ x.data.length = 13 ∧ allZero (x.data.drop x.len) = true)
    (hm : ∀ c, nmc = some c → c.length < 65536) :
    ∃ w bs, wireOf layout_RegistrationRequest = some w ∧
      Ctor.encodeWith layout_RegistrationRequest
        (Ctor.registrationRequest (UInt8.ofNat rt) mi nssai sec cap nmc uds) = .ok bs ∧
      parse w bs = some (Intended.registrationRequest rt mi.data (nssai.map (·.data)) (sec.map (·.data))
        (cap.map fun x => x.data.take x.len) nmc (uds.map (·.data))) :=
  let ⟨_, _, henc, h⟩ := registrationRequest_sent rt mi nssai sec cap nmc uds hrt hmi hn hs hu hc hm
  h.c09 tabled_registrationRequest henc

/-- the SST is cut to an octet on both sides, so no bound on it is asked for -/
theorem ulNasTransport_sent (payload : Bytes) (psi rt : Nat) (dnn : Bytes) (sn : Option (Nat × UInt8 × UInt8 × UInt8))
    (hpsi : psi < 256) (hrt : rt < 8) (hp : payload.length < 65536) (hd : dnn.length ≤ 99 ∧ ∀ c ∈ dnn, c ≠ 0x2E) :
    ∃ bs, Ctor.encodeWith layout_ULNASTransport (Ctor.ulNasTransport payload (UInt8.ofNat psi) true (UInt8.ofNat rt) dnn
        (sn.map fun x => ⟨UInt8.ofNat x.1, [x.2.1, x.2.2.1, x.2.2.2]⟩)) = .ok bs ∧
      Sent Spec.Ts24501.ulNasTransport 44 (ulFullMsg payload psi rt dnn sn) bs (Intended.ulNasTransport payload psi (some rt) dnn
        (sn.map fun x => (x.1, [x.2.1, x.2.2.1, x.2.2.2]))) := by
  have hrt8 : (UInt8.ofNat (0x80 + rt)).toNat / 16 = 8 := by
    rw [u8_toNat_lt (by omega)]; omega
  have hrtv : UInt8.ofNat ((UInt8.ofNat (0x80 + rt)).toNat % 16) = Intended.u8 (rt % 8) := by
    rw [u8_toNat_lt (by omega)]
    simp only [Intended.u8]
    congr 1; omega
  refine sent tabled_ulNasTransport (ulNasTransport_eval payload psi rt dnn sn hrt hp)
    (by rfl)
    (by simp [ulFullMsg, layout_ULNASTransport, mandRowsOK, mandValOK, specValOK, lenFits, sh_ExtendedProtocolDiscriminator,
          sh_SpareHalfOctetAndSecurityHeaderType, sh_ULNASTRANSPORTMessageIdentity, sh_SpareHalfOctetAndPayloadContainerType,
          sh_PayloadContainer, Body.size, hp])
    (by
      simp only [ulFullMsg, layout_ULNASTransport, optRowsOK, List.drop_succ_cons, List.drop_zero, List.length_cons, List.length_nil,
        Bool.and_true, Bool.true_and, Bool.and_eq_true]
      refine ⟨?_, ?_, ?_, ?_⟩
      · simp [optValOK, specValOK, sh_PduSessionID2Value, Body.size]
      · simp [optValOK, specValOK]; omega
      · cases sn with
        | none => rfl
        | some x => simp [optValOK, specValOK, lenFits, sh_SNSSAI, Body.size, allZero]
      · by_cases hde : dnn.isEmpty = true
        · simp [hde]
        · simp [hde, optValOK, specValOK, lenFits, sh_DNN, Ctor.ulDnnIE]
          omega) (fun w hw => ?_) rfl
  simp only [rowsSpec, ulFullMsg, layout_ULNASTransport, mandRowsSpec, optRowsSpec, List.drop_succ_cons, List.drop_zero, List.length_cons,
    List.length_nil]
  simp [mandToSpec, optToSpec, ulWire_psi hw, Intended.ulNasTransport, Intended.halves, Intended.u8]
  refine ⟨by simpa [Intended.u8] using hrtv, ?_⟩
  cases sn <;> by_cases hde : dnn = [] <;>
    simp [hde, Ctor.ulDnnIE, dnnLabels_nodot dnn hd.2, Intended.u8]

/-- the shared UL NAS TRANSPORT wrapper with request type, DNN and S-NSSAI: for every payload below 64 KiB, PDU session
    identity, request type value, single-label DNN of at most 99 octets (or none) and S-NSSAI with SST and 3-octet SD
    (or none), the bytes parse to: EPD 5GMM, plain, UL NAS TRANSPORT, payload container type N1 SM information, the
    payload, PDU session ID, request type, S-NSSAI (SST ‖ SD), DNN (length-prefixed label) -/
theorem C09_ctor_ulNasTransport (payload : Bytes) (psi rt : Nat) (dnn : Bytes) (sn : Option (Nat × UInt8 × UInt8 × UInt8))
    (hpsi : psi < 256) (hrt : rt < 8) (hp : payload.length < 65536)
    (hd : dnn.length ≤ 99 ∧ ∀ c ∈ dnn, c ≠ 0x2E) (hs : ∀ x, sn = some x → x.1 < 256) :
    ∃ w bs, wireOf layout_ULNASTransport = some w ∧
      Ctor.encodeWith layout_ULNASTransport (Ctor.ulNasTransport payload (UInt8.ofNat psi) true (UInt8.ofNat rt) dnn
        (sn.map fun x => ⟨UInt8.ofNat x.1, [x.2.1, x.2.2.1, x.2.2.2]⟩)) = .ok bs ∧
      parse w bs = some (Intended.ulNasTransport payload psi (some rt) dnn
        (sn.map fun x => (x.1, [x.2.1, x.2.2.1, x.2.2.2]))) :=
  let ⟨_, henc, h⟩ := ulNasTransport_sent payload psi rt dnn sn hpsi hrt hp hd
  h.c09 tabled_ulNasTransport henc

/-- what the three wrapped 5GSM constructors put into the payload container -/
theorem ul_inner_eval : ∀ psi < 256,
    Ctor.encodeWith layout_PDUSessionEstablishmentRequest (Ctor.pduSessionEstablishmentRequest (UInt8.ofNat psi)) =
      .ok ([0x2E, UInt8.ofNat psi, 0x01, 0xC1, 0xFF, 0xFF, 0x91, 0x7B, 0x00, 0x0A] ++ Intended.pco) ∧
    Ctor.encodeWith layout_PDUSessionModificationRequest (Ctor.pduSessionModificationRequest (UInt8.ofNat psi)) =
      .ok [0x2E, UInt8.ofNat psi, 0x01, 0xC9] ∧
    Ctor.encodeWith layout_PDUSessionReleaseComplete (Ctor.pduSessionReleaseComplete (UInt8.ofNat psi)) =
      .ok [0x2E, UInt8.ofNat psi, 0x01, 0xD4] := by
  intro psi hpsi
  obtain ⟨_, _, h1, _⟩ := estReq_sends psi hpsi
  obtain ⟨_, _, h2, _⟩ := modReq_sends psi
  obtain ⟨_, _, h3, _⟩ := relCompl_sends psi
  exact ⟨h1, h2, h3⟩

theorem ulEstablishment_sent (psi rt : Nat) (dnn : Bytes) (sn : Option (Nat × UInt8 × UInt8 × UInt8))
    (hpsi : psi < 256) (hrt : rt < 8) (hd : dnn.length ≤ 99 ∧ ∀ c ∈ dnn, c ≠ 0x2E) :
    ∃ msg bs, Ctor.encodeWith layout_ULNASTransport (Ctor.ulEstablishment (UInt8.ofNat psi) (UInt8.ofNat rt) dnn
        (sn.map fun x => ⟨UInt8.ofNat x.1, [x.2.1, x.2.2.1, x.2.2.2]⟩)) = .ok bs ∧
      Sent Spec.Ts24501.ulNasTransport 44 msg bs (Intended.ulNasTransport
        ([0x2E, UInt8.ofNat psi, 0x01, 0xC1, 0xFF, 0xFF, 0x91, 0x7B, 0x00, 0x0A] ++ Intended.pco) psi (some rt) dnn
        (sn.map fun x => (x.1, [x.2.1, x.2.2.1, x.2.2.2]))) := by
  have h := (ul_inner_eval psi hpsi).1
  simp only [Ctor.ulEstablishment, h]
  exact ⟨_, ulNasTransport_sent _ psi rt dnn sn hpsi hrt (by simp [Intended.pco]) hd⟩

theorem ulReleaseComplete_sent (psi rt : Nat) (dnn : Bytes) (sn : Option (Nat × UInt8 × UInt8 × UInt8))
    (hpsi : psi < 256) (hrt : rt < 8) (hd : dnn.length ≤ 99 ∧ ∀ c ∈ dnn, c ≠ 0x2E) :
    ∃ msg bs, Ctor.encodeWith layout_ULNASTransport (Ctor.ulReleaseComplete (UInt8.ofNat psi) (UInt8.ofNat rt) dnn
        (sn.map fun x => ⟨UInt8.ofNat x.1, [x.2.1, x.2.2.1, x.2.2.2]⟩)) = .ok bs ∧
      Sent Spec.Ts24501.ulNasTransport 44 msg bs (Intended.ulNasTransport [0x2E, UInt8.ofNat psi, 0x01, 0xD4] psi (some rt) dnn
        (sn.map fun x => (x.1, [x.2.1, x.2.2.1, x.2.2.2]))) := by
  have h := (ul_inner_eval psi hpsi).2.2
  simp only [Ctor.ulReleaseComplete, h]
  exact ⟨_, ulNasTransport_sent _ psi rt dnn sn hpsi hrt (by simp) hd⟩

/-- `GetUlNasTransport_PduSessionEstablishmentRequest` -/
theorem C09_ctor_ulEstablishment (psi rt : Nat) (dnn : Bytes) (sn : Option (Nat × UInt8 × UInt8 × UInt8))
    (hpsi : psi < 256) (hrt : rt < 8) (hd : dnn.length ≤ 99 ∧ ∀ c ∈ dnn, c ≠ 0x2E) (hs : ∀ x, sn = some x → x.1 < 256) :
    ∃ w bs, wireOf layout_ULNASTransport = some w ∧
      Ctor.encodeWith layout_ULNASTransport (Ctor.ulEstablishment (UInt8.ofNat psi) (UInt8.ofNat rt) dnn
        (sn.map fun x => ⟨UInt8.ofNat x.1, [x.2.1, x.2.2.1, x.2.2.2]⟩)) = .ok bs ∧
      parse w bs = some (Intended.ulNasTransport
        ([0x2E, UInt8.ofNat psi, 0x01, 0xC1, 0xFF, 0xFF, 0x91, 0x7B, 0x00, 0x0A] ++ Intended.pco) psi (some rt) dnn
        (sn.map fun x => (x.1, [x.2.1, x.2.2.1, x.2.2.2]))) :=
  let ⟨_, _, henc, h⟩ := ulEstablishment_sent psi rt dnn sn hpsi hrt hd
  h.c09 tabled_ulNasTransport henc

/-- `GetUlNasTransport_PduSessionModificationRequest`: as intended, the inner message with PTI 1 (since the F19 repair) -/
theorem C09_ctor_ulModification (psi rt : Nat) (dnn : Bytes) (sn : Option (Nat × UInt8 × UInt8 × UInt8))
    (hpsi : psi < 256) (hrt : rt < 8) (hd : dnn.length ≤ 99 ∧ ∀ c ∈ dnn, c ≠ 0x2E) (hs : ∀ x, sn = some x → x.1 < 256) :
    ∃ w bs, wireOf layout_ULNASTransport = some w ∧
      Ctor.encodeWith layout_ULNASTransport (Ctor.ulModification (UInt8.ofNat psi) (UInt8.ofNat rt) dnn
        (sn.map fun x => ⟨UInt8.ofNat x.1, [x.2.1, x.2.2.1, x.2.2.2]⟩)) = .ok bs ∧
      parse w bs = some (Intended.ulNasTransport [0x2E, UInt8.ofNat psi, 0x01, 0xC9] psi (some rt) dnn
        (sn.map fun x => (x.1, [x.2.1, x.2.2.1, x.2.2.2]))) := by
  have h := (ul_inner_eval psi hpsi).2.1
  simp only [Ctor.ulModification, h]
  exact C09_ctor_ulNasTransport _ psi rt dnn sn hpsi hrt (by simp) hd hs

/-- `GetUlNasTransport_PduSessionReleaseComplete`: as intended, the inner message with PTI 1 (since the F19 repair) -/
theorem C09_ctor_ulReleaseComplete (psi rt : Nat) (dnn : Bytes) (sn : Option (Nat × UInt8 × UInt8 × UInt8))
    (hpsi : psi < 256) (hrt : rt < 8) (hd : dnn.length ≤ 99 ∧ ∀ c ∈ dnn, c ≠ 0x2E) (hs : ∀ x, sn = some x → x.1 < 256) :
    ∃ w bs, wireOf layout_ULNASTransport = some w ∧
      Ctor.encodeWith layout_ULNASTransport (Ctor.ulReleaseComplete (UInt8.ofNat psi) (UInt8.ofNat rt) dnn
        (sn.map fun x => ⟨UInt8.ofNat x.1, [x.2.1, x.2.2.1, x.2.2.2]⟩)) = .ok bs ∧
      parse w bs = some (Intended.ulNasTransport [0x2E, UInt8.ofNat psi, 0x01, 0xD4] psi (some rt) dnn
        (sn.map fun x => (x.1, [x.2.1, x.2.2.1, x.2.2.2]))) :=
  let ⟨_, _, henc, h⟩ := ulReleaseComplete_sent psi rt dnn sn hpsi hrt hd
  h.c09 tabled_ulNasTransport henc

/-- `GetServiceRequest` with service type "data", as `ServiceRequest` calls it -/
theorem serviceRequest_sent :
    ∃ msg bs, Ctor.encodeWith layout_ServiceRequest (Ctor.serviceRequest 1) = .ok bs ∧
      Sent Spec.Ts24501.serviceRequest 41 msg bs (Intended.serviceRequest 1) := by
  have hmodel : Ctor.serviceRequest 1 = .ok
      [some ⟨0, 0, [0x7E]⟩, some ⟨0, 0, [0x00]⟩, some ⟨0, 0, [0x4C]⟩, some ⟨0, 0, [0x11]⟩,
       some ⟨0, 7, [0xF4, 0xFE, 0x00, 0x00, 0x00, 0x00, 0x01]⟩, some ⟨0x40, 2, [0x00, 0x04]⟩, none, none, none] := by
    decide +kernel
  exact ⟨_, sent tabled_serviceRequest hmodel (by rfl) (by rfl) (by rfl) (fun _ _ => rfl) rfl⟩

end

end Stgutg.Props.C09
