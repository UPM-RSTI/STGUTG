/-
  `Fast.get l i = l[i]?`, for every list, in a form the kernel evaluates cheaply when many indices of one long closed list are
  asked for inside one declaration. `l[i]?` walks `i` cells every time. `Fast.get` goes through `i / 64` nested `drop 64`:
  the kernel keeps the weak head normal form of each level, so a chunk that was visited once is a cache hit away and a lookup
  walks at most 63 cells. A table fact whose decidable predicate looks struct types up by index is decided on the form of the
  predicate that takes a lookup function (Proofs/AperSpecFast.lean), at `Fast.get env`.
-/
namespace Stgutg.Proofs.Fast

/-- `l` without its first `64 * k` elements, as `k` nested `drop 64` -/
def dropK {α : Type} (l : List α) : Nat → List α
  | 0 => l
  | k + 1 => (dropK l k).drop 64

theorem dropK_eq {α : Type} (l : List α) : ∀ k, dropK l k = l.drop (64 * k)
  | 0 => rfl
  | k + 1 => by rw [dropK, dropK_eq l k, List.drop_drop]; congr 1

/-- `l[i]?` through the chunk `i / 64` -/
def get {α : Type} (l : List α) (i : Nat) : Option α := (dropK l (i / 64))[i % 64]?

theorem get_eq {α : Type} (l : List α) (i : Nat) : get l i = l[i]? := by
  rw [get, dropK_eq, List.getElem?_drop]; congr 1; omega

end Stgutg.Proofs.Fast
