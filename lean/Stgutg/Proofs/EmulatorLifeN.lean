/-
  C02 helper: test mode for N UEs — the population as functions of the UE index (the judge's records, the emulator's security
  states), the judge's run as a fold over the uplink messages written so far (`Judged`), and the loops of test mode
  (`for i := 0; i < n; i++ { proc(ueList[i]) }`), emulator and judge together: `forUes_sim` (a loop whose body runs while the
  judge steps, does; the world is threaded there, once) and its instance for `EstablishPDU` / `ServiceRequest` / `ReleasePDU`
  (`proc_loop'`, `proc_loop`): every iteration is `proc_step` (Props/C02History.lean) for UE `i`, the other UEs' records untouched.
-/
import Stgutg.Props.C02Script
import Stgutg.Proofs.EmulatorLife
import Stgutg.Proofs.EmulatorLifeReenc
import Stgutg.Proofs.EmulatorLifeArgs

namespace Stgutg.Proofs.EmulatorLifeN
open Stgutg Stgutg.Model.Emulator Stgutg.Proofs.Emulator Stgutg.Builders
open Stgutg.Model.NasProtect Stgutg.Proofs.NasProtect Stgutg.Spec.NasSecurity
open Stgutg.Proofs.EmulatorLife Stgutg.Proofs.EmulatorRun Stgutg.Props.C02 Stgutg.Props.C01

def upd {α : Type} (f : Nat → α) (i : Nat) (a : α) : Nat → α := fun j => if j = i then a else f j

theorem upd_same {α : Type} (f : Nat → α) (i : Nat) (a : α) : upd f i a i = a := by simp [upd]
theorem upd_other {α : Type} (f : Nat → α) (i j : Nat) (a : α) (h : j ≠ i) : upd f i a j = f j := by simp [upd, h]

/-- one step of `run` (the state after the message, with the clauses of the property judged kept) -/
def runStep (P : Prims) (life : Bool) (cfg : Spec.Amf.Cfg) (chs : List Spec.Amf.Choice) (s : Spec.Amf.St) (k : Nat) (ul : Bytes) :
    Spec.Amf.St :=
  let s' := Spec.Amf.step P cfg chs s k ul
  let fresh := s'.fails.take (s'.fails.length - s.fails.length)
  let keep := match Spec.Amf.registrationPhase s ul with
    | none => fresh
    | some r => if r != life then fresh else []
  { s' with fails := keep ++ s.fails }

theorem run_cons (P : Prims) (life : Bool) (cfg : Spec.Amf.Cfg) (chs : List Spec.Amf.Choice) (s : Spec.Amf.St) (k : Nat)
    (ul : Bytes) (rest : List Bytes) :
    Spec.Amf.run P life cfg chs s k (ul :: rest) = Spec.Amf.run P life cfg chs (runStep P life cfg chs s k ul) (k + 1) rest := by
  conv => lhs; unfold Spec.Amf.run
  unfold runStep
  generalize Spec.Amf.step P cfg chs s k ul = s'
  generalize Spec.Amf.registrationPhase s ul = r
  cases r <;> simp only

theorem run_append (P : Prims) (life : Bool) (cfg : Spec.Amf.Cfg) (chs : List Spec.Amf.Choice) :
    ∀ (l1 : List Bytes) (s : Spec.Amf.St) (k : Nat) (l2 : List Bytes),
      Spec.Amf.run P life cfg chs s k (l1 ++ l2) =
        Spec.Amf.run P life cfg chs (Spec.Amf.run P life cfg chs s k l1) (k + l1.length) l2 := by
  intro l1
  induction l1 with
  | nil => intro s k l2; rw [run_nil]; rfl
  | cons b l ih =>
    intro s k l2
    rw [List.cons_append, run_cons, run_cons, ih, List.length_cons]
    congr 1
    omega

/-- the judge's state after the uplink messages written so far -/
def Judged (P : Prims) (scfg : Spec.Amf.Cfg) (chs : List Spec.Amf.Choice) (wd : World) (s : Spec.Amf.St) : Prop :=
  Spec.Amf.run P true scfg chs {} 0 wd.ulsRev.reverse = s

/-- writing `uls` that take the judge from `s` to `s'` -/
theorem Judged.write {P : Prims} {scfg : Spec.Amf.Cfg} {chs : List Spec.Amf.Choice} {wd wd' : World} {s s' : Spec.Amf.St}
    (h : Judged P scfg chs wd s) (uls : List Bytes) (hw : wd'.ulsRev = uls.reverse ++ wd.ulsRev)
    (hrun : Steps P true scfg chs s wd.ulsRev.length uls s') : Judged P scfg chs wd' s' := by
  unfold Judged at h ⊢
  rw [hw, List.reverse_append, List.reverse_reverse, run_append, h]
  have := hrun []
  rw [List.append_nil, run_nil] at this
  simpa using this

theorem find_range_map (uf : Nat → Spec.Amf.UeSt) (ran : Nat → Int) :
    ∀ (N : Nat), (∀ j, j < N → (uf j).ran = ran j) → (∀ i j, i < N → j < N → i ≠ j → ran i ≠ ran j) →
      ∀ i, i < N → ((List.range N).map uf).find? (·.ran == ran i) = some (uf i) := by
  intro N
  induction N with
  | zero => intro _ _ i hi; omega
  | succ N ih =>
    intro hr hinj i hi
    rw [List.range_succ, List.map_append, List.find?_append]
    by_cases hiN : i < N
    · rw [ih (fun j hj => hr j (by omega)) (fun a b ha hb => hinj a b (by omega) (by omega)) i hiN]
      rfl
    · have hiN' : i = N := by omega
      subst hiN'
      have : ((List.range i).map uf).find? (·.ran == ran i) = none := by
        rw [List.find?_eq_none]
        intro x hx
        simp only [List.mem_map, List.mem_range] at hx
        obtain ⟨j, hj, rfl⟩ := hx
        rw [hr j (by omega)]
        have := hinj j i (by omega) (by omega) (by omega)
        simpa using this
      rw [this]
      simp [hr i (by omega)]

theorem setUe_range_map (s : Spec.Amf.St) (N : Nat) (uf : Nat → Spec.Amf.UeSt) (hj : ∀ j, j < N → (uf j).j = j)
    (hs : s.ues = (List.range N).map uf) (i : Nat) (u' : Spec.Amf.UeSt) (hu : u'.j = i) :
    (s.setUe u').ues = (List.range N).map (upd uf i u') := by
  simp only [Spec.Amf.St.setUe, hs, List.map_map]
  apply List.map_congr_left
  intro x hx
  have hxN : x < N := List.mem_range.mp hx
  simp only [Function.comp, hj x hxN, hu, upd]
  by_cases h : x = i
  · simp [h]
  · simp [h]

/-- the list `main` holds after the registrations: UE `j` is `mk j (secf j)` — everything but the NAS security state is fixed -/
def ueList (N : Nat) (mk : Nat → UeSec → Ue) (secf : Nat → UeSec) : List Ue := (List.range N).map fun j => mk j (secf j)

theorem ueList_get (N : Nat) (mk : Nat → UeSec → Ue) (secf : Nat → UeSec) (i : Nat) (hi : i < N) :
    (ueList N mk secf)[i]? = some (mk i (secf i)) := by
  simp [ueList, hi]

theorem ueList_set (N : Nat) (mk : Nat → UeSec → Ue) (hmk : ∀ j sec sec', { mk j sec with sec := sec' } = mk j sec')
    (secf : Nat → UeSec) (i : Nat) (sec' : UeSec) :
    (ueList N mk secf).set i { mk i (secf i) with sec := sec' } = ueList N mk (upd secf i sec') := by
  apply List.ext_getElem?
  intro n
  rw [List.getElem?_set]
  simp only [ueList, List.getElem?_map, List.length_map, List.length_range]
  by_cases hn : n < N
  · rw [List.getElem?_range hn]
    by_cases h : i = n
    · subst h; simp [hn, upd_same, hmk]
    · simp [h, upd_other _ _ _ _ (Ne.symm h)]
  · have : (List.range N)[n]? = none := by simp; omega
    by_cases h : i = n
    · subst h; simp [hn]
    · simp [h, this]

/-- **a loop of test mode over the first `nEnd` UEs**, by an invariant `Φ i wd secf x` (`x`: whatever else is tracked): when every
    iteration `i < nEnd` preserves it, the loop completes, returns the list with the advanced security states, and the invariant
    holds at `nEnd` -/
theorem forUes_inv {σ : Type} (N : Nat) (mk : Nat → UeSec → Ue) (hmk : ∀ j sec sec', { mk j sec with sec := sec' } = mk j sec')
    (f : Ue → M UeSec) (Φ : Nat → World → (Nat → UeSec) → σ → Prop) (nEnd : Nat) (hN : nEnd ≤ N)
    (step : ∀ i wd secf x, i < nEnd → Φ i wd secf x →
      ∃ wd' sec' x', f (mk i (secf i)) wd = (wd', .ok sec') ∧ Φ (i + 1) wd' (upd secf i sec') x') :
    ∀ (n i : Nat) (wd : World) (secf : Nat → UeSec) (x : σ), i + n = nEnd → Φ i wd secf x →
      ∃ wd' secf' x', forUes f n i (ueList N mk secf) wd = (wd', .ok (ueList N mk secf')) ∧ Φ nEnd wd' secf' x' := by
  intro n
  induction n with
  | zero =>
    intro i wd secf x hi h
    have : i = nEnd := by omega
    subst this
    exact ⟨wd, secf, x, rfl, h⟩
  | succ n ih =>
    intro i wd secf x hi h
    obtain ⟨wd1, sec1, x1, hf, h1⟩ := step i wd secf x (by omega) h
    obtain ⟨wd', secf', x', hloop, h'⟩ := ih (i + 1) wd1 (upd secf i sec1) x1 (by omega) h1
    refine ⟨wd', secf', x', ?_, h'⟩
    simp only [forUes, ueList_get N mk secf i (by omega), bind_apply, hf]
    rw [ueList_set N mk hmk]
    exact hloop

theorem flatMap_nil' {α β : Type} (l : List α) : l.flatMap (fun _ => ([] : List β)) = [] := by
  induction l with
  | nil => rfl
  | cons a l ih => simp [List.flatMap_cons, ih]

theorem range'_head (i nEnd : Nat) (h : i < nEnd) : List.range' i (nEnd - i) = i :: List.range' (i + 1) (nEnd - (i + 1)) := by
  have : nEnd - i = (nEnd - (i + 1)) + 1 := by omega
  rw [this, List.range'_succ]

/-- **a loop of test mode whose body simulates, simulates**: when every iteration `i < nEnd`, from `Φ i`, runs (reading `dlsOf i`,
    writing `L` messages, reporting `repOf i`) while the judge steps over what it wrote and `Φ (i + 1)` holds, the loop runs, the
    judge has judged what was written, and `Φ nEnd` holds. The world (`TestPlmn`, downlink left, uplink written, reports) is threaded
    here, once; `Φ` speaks of the security states, the judge's state and whatever else (`σ`) the caller tracks. -/
theorem forUes_sim {σ : Type} (P : Prims) (scfg : Spec.Amf.Cfg) (chs : List Spec.Amf.Choice) (N : Nat) (mk : Nat → UeSec → Ue)
    (hmk : ∀ j sec sec', { mk j sec with sec := sec' } = mk j sec') (f : Ue → M UeSec) (m : Bytes) (nEnd : Nat) (hN : nEnd ≤ N)
    (dlsOf : Nat → List Bytes) (repOf : Nat → List Report) (L : Nat) (Φ : Nat → (Nat → UeSec) → Spec.Amf.St → σ → Prop)
    (body : ∀ i secf s x k, i < nEnd → Φ i secf s x → ∃ uls sec' s' x', uls.length = L ∧
      Runs (f (mk i (secf i))) m (dlsOf i) uls (repOf i) sec' ∧ Steps P true scfg chs s k uls s' ∧ Φ (i + 1) (upd secf i sec') s' x')
    (tail : List Bytes) (wd : World) (secf : Nat → UeSec) (s : Spec.Amf.St) (x : σ) (hplmn : wd.plmn = m)
    (hdls : wd.dls = (List.range nEnd).flatMap dlsOf ++ tail) (hJ : Judged P scfg chs wd s) (h0 : Φ 0 secf s x) :
    ∃ wd' secf' s' x', forUes f nEnd 0 (ueList N mk secf) wd = (wd', .ok (ueList N mk secf')) ∧ wd'.plmn = m ∧ wd'.dls = tail ∧
      Judged P scfg chs wd' s' ∧ wd'.ulsRev.length = wd.ulsRev.length + nEnd * L ∧
      wd'.reportsRev = ((List.range nEnd).flatMap repOf).reverse ++ wd.reportsRev ∧ Φ nEnd secf' s' x' := by
  have key := forUes_inv N mk hmk f
    (fun i w secf (y : Spec.Amf.St × σ) => w.plmn = m ∧ w.dls = (List.range' i (nEnd - i)).flatMap dlsOf ++ tail ∧
      Judged P scfg chs w y.1 ∧ w.ulsRev.length = wd.ulsRev.length + i * L ∧
      w.reportsRev = ((List.range i).flatMap repOf).reverse ++ wd.reportsRev ∧ Φ i secf y.1 y.2)
    nEnd hN ?step nEnd 0 wd secf (s, x) (Nat.zero_add _) ?init
  case init => exact ⟨hplmn, by simpa [List.range_eq_range'] using hdls, hJ, by simp, by simp, h0⟩
  case step =>
    rintro i w secf ⟨s, x⟩ hi ⟨hp, hd, hJ, hl, hr, hΦ⟩
    obtain ⟨uls, sec', s', x', hlen, hruns, hsteps, hΦ'⟩ := body i secf s x w.ulsRev.length hi hΦ
    rw [range'_head i nEnd hi, List.flatMap_cons, List.append_assoc] at hd
    refine ⟨_, sec', (s', x'), hruns w _ hp hd, hp, rfl, hJ.write uls rfl hsteps, ?_, ?_, hΦ'⟩
    · simp only [List.length_append, List.length_reverse, hlen, hl, Nat.succ_mul]; omega
    · show (repOf i).reverse ++ w.reportsRev = _
      rw [hr, List.range_succ, List.flatMap_append]; simp
  obtain ⟨wd', secf', ⟨s', x'⟩, hloop, hp', hd', hJ', hl', hr', hΦ'⟩ := key
  simp only [Nat.sub_self, List.range'_zero, List.flatMap_nil, List.nil_append] at hd'
  exact ⟨wd', secf', s', x', hloop, hp', hd', hJ', hl', hr', hΦ'⟩

/-- the PDU session identity UE `j` uses in all procedures -/
@[irreducible] def psiOf (cfg : Cfg) (j : Nat) : Nat := (pduIdOf ((Model.UeIdentity.decVal cfg.imsi + j : Nat) : Int)).toNat

@[irreducible] def ranOf (cfg : Cfg) (j : Nat) : Int := (createUE cfg j).ctx.ranUeNgapId

theorem ranOf_eq (cfg : Cfg) (j : Nat) : ranOf cfg j = (createUE cfg j).ctx.ranUeNgapId := by unfold ranOf; rfl

/-- the arguments of UE `j`'s procedures after registration (`C02_calls_are_the_emulators`) -/
def argsOf (cfg : Cfg) (m : Bytes) (chf : Nat → Spec.Amf.Choice) (s1 s2 s3 : UInt8) (j : Nat) : Args :=
  ⟨m, (chf j).amfUeNgapId, ranOf cfg j, psiOf cfg j, cfg.gnbGtp, 1, internet, some ((cfg.sst % 256).toNat, s1, s2, s3)⟩

/-- what is assumed of configuration and choices throughout -/
structure PopOK (cfg : Cfg) (E : Model.Convert.Ext) (N : Nat) (m : Bytes) (chf : Nat → Spec.Amf.Choice) : Prop where
  hd : Proofs.UeIdentity.DecimalImsi cfg.imsi
  hN4 : N ≤ 10000
  hfit : Proofs.UeIdentity.Fits cfg.imsi N
  hm : m.length = 3
  hamf : ∀ j, j < N → (chf j).amfUeNgapId < 2 ^ 40
  hgtp : cls E .ip (.str cfg.gnbGtp) = 2

/-- the hypotheses are satisfiable: the configuration of the recorded registration (IMSI 59903000000006, gNB GTP address
    48.53.100.89) with a population of 5 and choices whose AMF-UE-NGAP-IDs are below 2^40 -/
example : PopOK Proofs.EmulatorWitness.reg1Cfg Model.NetExt.goExt 5 [0x95, 0xf9, 0x30] (fun j => ⟨[], [], [], 0, 2 ^ 40 - 1 - j, [], 0, []⟩) :=
  ⟨⟨by decide, by decide, by decide⟩, by decide, by unfold Proofs.UeIdentity.Fits; decide, rfl,
   fun j _ => by show 2 ^ 40 - 1 - j < 2 ^ 40; omega, by decide +kernel⟩

theorem PopOK.fitj {cfg : Cfg} {E : Model.Convert.Ext} {N : Nat} {m : Bytes} {chf : Nat → Spec.Amf.Choice} (h : PopOK cfg E N m chf)
    (j : Nat) (hj : j < N) : Model.UeIdentity.decVal cfg.imsi + j < 10 ^ cfg.imsi.length := by
  have := h.hfit; unfold Proofs.UeIdentity.Fits at this; omega

theorem PopOK.j62 {cfg : Cfg} {E : Model.Convert.Ext} {N : Nat} {m : Bytes} {chf : Nat → Spec.Amf.Choice} (h : PopOK cfg E N m chf)
    (j : Nat) (hj : j < N) : j < 2 ^ 62 := by
  have := h.hN4
  have : (10000 : Nat) < 2 ^ 62 := by decide
  omega

theorem psiOf_facts {cfg : Cfg} {E : Model.Convert.Ext} {N : Nat} {m : Bytes} {chf : Nat → Spec.Amf.Choice} (h : PopOK cfg E N m chf)
    (j : Nat) (hj : j < N) :
    supiInt (createUE cfg j).ctx.supi = some (((Model.UeIdentity.decVal cfg.imsi + j : Nat) : Int), false) ∧
    psi8 (pduIdOf ((Model.UeIdentity.decVal cfg.imsi + j : Nat) : Int)) = UInt8.ofNat (psiOf cfg j) ∧
    ((psiOf cfg j : Nat) : Int) = pduIdOf ((Model.UeIdentity.decVal cfg.imsi + j : Nat) : Int) ∧
    1 ≤ psiOf cfg j ∧ psiOf cfg j ≤ 15 := by
  obtain ⟨h0, h63⟩ := Proofs.EmulatorLifeArgs.supi_range cfg h.hd j (h.fitj j hj)
  obtain ⟨a, _, b, _, c, d⟩ := C02_calls_are_the_emulators _ h0 h63 0 (le_refl 0)
  unfold psiOf
  exact ⟨Proofs.EmulatorLifeArgs.supiInt_created cfg h.hd j (h.fitj j hj), a, b, c, d⟩

theorem argsOf_ok {cfg : Cfg} {E : Model.Convert.Ext} {N : Nat} {m : Bytes} {chf : Nat → Spec.Amf.Choice} (h : PopOK cfg E N m chf)
    (s1 s2 s3 : UInt8) (j : Nat) (hj : j < N) : (argsOf cfg m chf s1 s2 s3 j).OK E := by
  have hr : 0 ≤ ranOf cfg j ∧ ranOf cfg j < 2 ^ 32 := by
    rw [ranOf_eq]; exact Proofs.EmulatorLifeArgs.ran_range cfg h.hd j (h.j62 j hj)
  obtain ⟨_, _, _, hp1, hp15⟩ := psiOf_facts h j hj
  obtain ⟨hs, hdnn⟩ := Proofs.EmulatorLifeArgs.sst_dnn_ok cfg s1 s2 s3
  exact { hplmn := h.hm, ha1 := h.hamf j hj, hr0 := hr.1, hr1 := hr.2, h1 := hp1, h15 := hp15, hip := h.hgtp,
          hrt := by show (1 : Nat) < 8; decide, hd := hdnn, hs := hs }

theorem ran_inj {cfg : Cfg} {E : Model.Convert.Ext} {N : Nat} {m : Bytes} {chf : Nat → Spec.Amf.Choice} (h : PopOK cfg E N m chf)
    (i j : Nat) (hi : i < N) (hj : j < N) (hij : i ≠ j) : ranOf cfg i ≠ ranOf cfg j := by
  rw [ranOf_eq, ranOf_eq]
  exact (Props.C16.C16_ran_id_distinct h.hd h.hN4 hi hj hij cfg.k cfg.opc cfg.op cfg.k cfg.opc cfg.op).1

/-- the judge's state and the emulator's security states, UE by UE: NG Setup done, no clause, UE `j`'s record `uf j` (subscriber
    `j`, its RAN-UE-NGAP-ID), and for the UEs not yet de-registered (`k ≤ j`): the AMF's choice, REGISTERED, in step with the
    emulator's security state `secf j` at last accepted COUNT `cf j`, and the session (if any) has the UE's PSI -/
structure Glob (cfg : Cfg) (chf : Nat → Spec.Amf.Choice) (N k : Nat) (s : Spec.Amf.St) (uf : Nat → Spec.Amf.UeSt)
    (secf : Nat → UeSec) (cf : Nat → Nat) : Prop where
  clean : s.fails = []
  setup : s.ngSetup = true
  ues : s.ues = (List.range N).map uf
  idj : ∀ j, j < N → (uf j).j = j ∧ (uf j).ran = ranOf cfg j
  per : ∀ j, k ≤ j → j < N → (uf j).ch = chf j ∧ Live (secf j) (uf j) (cf j) ∧ (uf j).reg = .registered ∧
    ((uf j).sess = .none ∨ (uf j).psi = psiOf cfg j)

theorem Glob.find {cfg : Cfg} {E : Model.Convert.Ext} {m : Bytes} {chf : Nat → Spec.Amf.Choice} {N k : Nat} {s : Spec.Amf.St}
    {uf : Nat → Spec.Amf.UeSt} {secf : Nat → UeSec} {cf : Nat → Nat} (G : Glob cfg chf N k s uf secf cf) (h : PopOK cfg E N m chf)
    (i : Nat) (hi : i < N) : s.ues.find? (·.ran == ranOf cfg i) = some (uf i) := by
  rw [G.ues]
  exact find_range_map uf (ranOf cfg) N (fun j hj => (G.idj j hj).2) (fun a b ha hb hab => ran_inj h a b ha hb hab) i hi

theorem Glob.known {cfg : Cfg} {E : Model.Convert.Ext} {m : Bytes} {chf : Nat → Spec.Amf.Choice} {N k : Nat} {s : Spec.Amf.St}
    {uf : Nat → Spec.Amf.UeSt} {secf : Nat → UeSec} {cf : Nat → Nat} (G : Glob cfg chf N k s uf secf cf) (h : PopOK cfg E N m chf)
    (s1 s2 s3 : UInt8) (i : Nat) (hk : k ≤ i) (hi : i < N) : Known (argsOf cfg m chf s1 s2 s3 i) s (uf i) (secf i) (cf i) := by
  obtain ⟨hch, hl, hr, hp⟩ := G.per i hk hi
  have hamf : (uf i).ch.amfUeNgapId = (chf i).amfUeNgapId := by rw [hch]
  exact { clean := G.clean, setup := G.setup, find := G.find h i hi, amf := hamf, live := hl, reg := hr, psi := hp }

/-- updating UE `i`'s record (same subscriber, same RAN-UE-NGAP-ID) in a state of the population -/
theorem Glob.update {cfg : Cfg} {chf : Nat → Spec.Amf.Choice} {N k : Nat} {s : Spec.Amf.St}
    {uf : Nat → Spec.Amf.UeSt} {secf : Nat → UeSec} {cf : Nat → Nat} (G : Glob cfg chf N k s uf secf cf)
    (i : Nat) (k' : Nat) (hk' : k ≤ k') (s' : Spec.Amf.St) (u' : Spec.Amf.UeSt) (sec' : UeSec) (c' : Nat)
    (hclean : s'.fails = []) (hsetup : s'.ngSetup = true) (hues : s'.ues = (s.setUe u').ues)
    (hj : u'.j = i) (hr : u'.ran = ranOf cfg i)
    (hper : k' ≤ i → u'.ch = chf i ∧ Live sec' u' c' ∧ u'.reg = .registered ∧ (u'.sess = .none ∨ u'.psi = psiOf cfg i)) :
    Glob cfg chf N k' s' (upd uf i u') (upd secf i sec') (upd cf i c') := by
  refine ⟨hclean, hsetup, ?_, ?_, ?_⟩
  · rw [hues]
    exact setUe_range_map s N uf (fun j hj' => (G.idj j hj').1) G.ues i u' hj
  · intro j hjN
    by_cases hji : j = i
    · subst hji; rw [upd_same]; exact ⟨hj, hr⟩
    · rw [upd_other _ _ _ _ hji]; exact G.idj j hjN
  · intro j hkj hjN
    by_cases hji : j = i
    · subst hji; simp only [upd_same]; exact hper hkj
    · simp only [upd_other _ _ _ _ hji]; exact G.per j (by omega) hjN

/-- **one procedure of UE `i` in the population**, judge side: `proc_step` for UE `i`, with the state of the population updated -/
theorem glob_step (P : Prims) (hP : PrimsOk P) (scfg : Spec.Amf.Cfg) (chs : List Spec.Amf.Choice) {cfg : Cfg}
    {E : Model.Convert.Ext} {m : Bytes} {chf : Nat → Spec.Amf.Choice} {N : Nat} {s : Spec.Amf.St}
    {uf : Nat → Spec.Amf.UeSt} {secf : Nat → UeSec} {cf : Nat → Nat} (G : Glob cfg chf N 0 s uf secf cf) (h : PopOK cfg E N m chf)
    (s1 s2 s3 : UInt8) (i : Nat) (hi : i < N) (p : Proc) (se : Spec.Amf.Sess) (hse : sessAfter (uf i).sess p = some se)
    (hc : cf i + p.cost + 1 < 2 ^ 24) (k : Nat) :
    ∃ uls sec', procUls P E (argsOf cfg m chf s1 s2 s3 i) p (secf i) uls sec' ∧ uls.length = p.len ∧
      Glob cfg chf N 0 (stAfter (argsOf cfg m chf s1 s2 s3 i) s (uf i) (cf i) p)
        (upd uf i (ueAfter (argsOf cfg m chf s1 s2 s3 i) (uf i) (cf i) p)) (upd secf i sec') (upd cf i (cf i + p.cost)) ∧
      (ueAfter (argsOf cfg m chf s1 s2 s3 i) (uf i) (cf i) p).sess = se ∧
      ∀ rest, Spec.Amf.run P true scfg chs s k (uls ++ rest) =
        Spec.Amf.run P true scfg chs (stAfter (argsOf cfg m chf s1 s2 s3 i) s (uf i) (cf i) p) (k + uls.length) rest := by
  have hk := G.known h s1 s2 s3 i (Nat.zero_le _) hi
  obtain ⟨uls, sec', hp, hl, hk', hs', hrun⟩ := proc_step P hP true scfg chs E _ (argsOf_ok h s1 s2 s3 i hi) s k (uf i) (secf i) (cf i) hk p
    se hse hc
  obtain ⟨f1, f2, f3, _⟩ := stAfter_facts (argsOf cfg m chf s1 s2 s3 i) s (uf i) (cf i) p
  obtain ⟨g1, g2, g3, _⟩ := ueAfter_facts (argsOf cfg m chf s1 s2 s3 i) (uf i) (cf i) p
  obtain ⟨hch, _⟩ := G.per i (Nat.zero_le _) hi
  refine ⟨uls, sec', hp, hl, ?_, hs', fun rest => by rw [hl]; exact hrun rest⟩
  exact G.update i 0 (Nat.le_refl 0) _ _ sec' _ (by rw [f1]; exact G.clean) (by rw [f2]; exact G.setup) f3
    (by rw [g1]; exact (G.idj i hi).1) (by rw [g2]; exact (G.idj i hi).2)
    (fun _ => ⟨by rw [g3]; exact hch, hk'.live, hk'.reg, hk'.psi⟩)

/-- a loop of test mode over `EstablishPDU` / `ServiceRequest` / `ReleasePDU`, emulator and judge together, through `forUes_sim`:
    `proc_loop` below with the emulator's side of an iteration as a `Runs`, and with the number of uplink messages written -/
theorem proc_loop' (P : Prims) (hP : PrimsOk P) (scfg : Spec.Amf.Cfg) (chs : List Spec.Amf.Choice) {cfg : Cfg}
    {E : Model.Convert.Ext} {m : Bytes} {chf : Nat → Spec.Amf.Choice} {N : Nat} (h : PopOK cfg E N m chf) (s1 s2 s3 : UInt8)
    (mk : Nat → UeSec → Ue) (hmk : ∀ j sec sec', { mk j sec with sec := sec' } = mk j sec')
    (p : Proc) (f : Ue → M UeSec) (nEnd : Nat) (hN : nEnd ≤ N) (dlsOf : Nat → List Bytes) (repOf : Nat → List Report)
    (hemul : ∀ i sec uls sec', i < nEnd → procUls P E (argsOf cfg m chf s1 s2 s3 i) p sec uls sec' →
      Runs (f (mk i sec)) m (dlsOf i) uls (repOf i) sec')
    (S seA : Nat → Spec.Amf.Sess) (hS : ∀ j, j < nEnd → sessAfter (S j) p = some (seA j)) (B : Nat) (hB : B + p.cost + 1 < 2 ^ 24)
    (tail : List Bytes) (wd : World) (secf : Nat → UeSec) (s : Spec.Amf.St) (uf : Nat → Spec.Amf.UeSt) (cf : Nat → Nat)
    (hplmn : wd.plmn = m) (hdls : wd.dls = (List.range nEnd).flatMap dlsOf ++ tail) (hJ : Judged P scfg chs wd s)
    (G : Glob cfg chf N 0 s uf secf cf) (hsess : ∀ j, j < N → (uf j).sess = S j) (hcf : ∀ j, j < N → cf j ≤ B) :
    ∃ wd' secf' s' uf' cf', forUes f nEnd 0 (ueList N mk secf) wd = (wd', .ok (ueList N mk secf')) ∧
      wd'.plmn = m ∧ wd'.dls = tail ∧ Judged P scfg chs wd' s' ∧ Glob cfg chf N 0 s' uf' secf' cf' ∧
      (∀ j, j < N → (uf' j).sess = if j < nEnd then seA j else S j) ∧ (∀ j, j < N → cf' j ≤ B + p.cost) ∧
      s'.established = s.established ++ (if p = .establish then List.range nEnd else []) ∧
      s'.services = s.services + (if p = .service then nEnd else 0) ∧
      s'.releases = s.releases + (if p = .release then nEnd else 0) ∧ s'.deregs = s.deregs ∧
      wd'.reportsRev = ((List.range nEnd).flatMap repOf).reverse ++ wd.reportsRev ∧
      wd'.ulsRev.length = wd.ulsRev.length + nEnd * p.len := by
  have key := forUes_sim P scfg chs N mk hmk f m nEnd hN dlsOf repOf p.len
    (fun i secf s' (y : (Nat → Spec.Amf.UeSt) × (Nat → Nat)) => Glob cfg chf N 0 s' y.1 secf y.2 ∧
      (∀ j, j < N → (y.1 j).sess = if j < i then seA j else S j) ∧ (∀ j, j < N → y.2 j ≤ B + if j < i then p.cost else 0) ∧
      s'.established = s.established ++ (if p = .establish then List.range i else []) ∧
      s'.services = s.services + (if p = .service then i else 0) ∧
      s'.releases = s.releases + (if p = .release then i else 0) ∧ s'.deregs = s.deregs)
    ?body tail wd secf s (uf, cf) hplmn hdls hJ
    ⟨G, fun j hj => by simpa using hsess j hj, fun j hj => by simpa using hcf j hj, by cases p <;> simp, by cases p <;> simp,
      by cases p <;> simp, rfl⟩
  case body =>
    rintro i secf s ⟨uf, cf⟩ k hi ⟨G, hsess, hcf, hE, hV, hR, hD⟩
    simp only at G hsess hcf
    have hiN : i < N := by omega
    have hse : sessAfter (uf i).sess p = some (seA i) := by
      rw [hsess i hiN, if_neg (Nat.lt_irrefl i)]; exact hS i hi
    have hci : cf i ≤ B := by have := hcf i hiN; rwa [if_neg (Nat.lt_irrefl i), Nat.add_zero] at this
    obtain ⟨uls, sec', hp, hl, G', hs', hrun⟩ := glob_step P hP scfg chs G h s1 s2 s3 i hiN p (seA i) hse (by omega) k
    obtain ⟨-, -, -, f4, f5, f6, f7⟩ := stAfter_facts (argsOf cfg m chf s1 s2 s3 i) s (uf i) (cf i) p
    refine ⟨uls, sec', stAfter (argsOf cfg m chf s1 s2 s3 i) s (uf i) (cf i) p,
      (upd uf i (ueAfter (argsOf cfg m chf s1 s2 s3 i) (uf i) (cf i) p), upd cf i (cf i + p.cost)), hl,
      hemul i (secf i) uls sec' hi hp, hrun, G', ?_, ?_, ?_, ?_, ?_, by rw [f7, hD]⟩
    · intro j hj
      by_cases hji : j = i
      · subst hji; simp only [upd_same]; rw [hs', if_pos (Nat.lt_succ_self j)]
      · simp only [upd_other _ _ _ _ hji]
        rw [hsess j hj]
        by_cases hlt : j < i
        · rw [if_pos hlt, if_pos (by omega)]
        · rw [if_neg hlt, if_neg (by omega)]
    · intro j hj
      by_cases hji : j = i
      · subst hji; simp only [upd_same]; rw [if_pos (Nat.lt_succ_self j)]; omega
      · simp only [upd_other _ _ _ _ hji]
        have := hcf j hj
        by_cases hlt : j < i
        · rw [if_pos hlt] at this; rw [if_pos (by omega)]; exact this
        · rw [if_neg hlt] at this; rw [if_neg (by omega)]; exact this
    · rw [f4, hE, (G.idj i hiN).1, List.append_assoc]
      cases p <;> simp [List.range_succ]
    · rw [f5, hV]
      cases p <;> simp
      omega
    · rw [f6, hR]
      cases p <;> simp
      omega
  obtain ⟨wd', secf', s', ⟨uf', cf'⟩, hloop, hplmn', hdls', hJ', hl', hRP', G', hsess', hcf', hE', hV', hR', hD'⟩ := key
  refine ⟨wd', secf', s', uf', cf', hloop, hplmn', hdls', hJ', G', hsess', fun j hj => ?_, hE', hV', hR', hD', hRP', hl'⟩
  have := hcf' j hj
  simp only at this
  by_cases hlt : j < nEnd
  · rwa [if_pos hlt] at this
  · rw [if_neg hlt] at this; omega

/-- **a loop of test mode over `EstablishPDU` / `ServiceRequest` / `ReleasePDU`**, emulator and judge together: given what one
    iteration of the emulator does with the calls `procUls` describes (`hemul`), the loop for UEs `0 … nEnd − 1` completes, reads
    the downlink messages `dlsOf 0, …`, and the judge, from the state after the uplink messages written before, raises no clause on
    the messages written and counts every procedure; every UE's record stays in step with the emulator's security state -/
theorem proc_loop (P : Prims) (hP : PrimsOk P) (scfg : Spec.Amf.Cfg) (chs : List Spec.Amf.Choice) {cfg : Cfg}
    {E : Model.Convert.Ext} {m : Bytes} {chf : Nat → Spec.Amf.Choice} {N : Nat} (h : PopOK cfg E N m chf) (s1 s2 s3 : UInt8)
    (mk : Nat → UeSec → Ue) (hmk : ∀ j sec sec', { mk j sec with sec := sec' } = mk j sec')
    (p : Proc) (f : Ue → M UeSec) (nEnd : Nat) (hN : nEnd ≤ N) (dlsOf : Nat → List Bytes) (repOf : Nat → List Report)
    (hemul : ∀ i sec wd uls sec' rest, i < nEnd → wd.plmn = m → wd.dls = dlsOf i ++ rest →
      procUls P E (argsOf cfg m chf s1 s2 s3 i) p sec uls sec' →
      f (mk i sec) wd = ({ wd with dls := rest, ulsRev := uls.reverse ++ wd.ulsRev,
                                   reportsRev := (repOf i).reverse ++ wd.reportsRev }, .ok sec'))
    (S seA : Nat → Spec.Amf.Sess) (hS : ∀ j, j < nEnd → sessAfter (S j) p = some (seA j)) (B : Nat) (hB : B + p.cost + 1 < 2 ^ 24)
    (tail : List Bytes) (wd : World) (secf : Nat → UeSec) (s : Spec.Amf.St) (uf : Nat → Spec.Amf.UeSt) (cf : Nat → Nat)
    (hplmn : wd.plmn = m) (hdls : wd.dls = (List.range nEnd).flatMap dlsOf ++ tail) (hJ : Judged P scfg chs wd s)
    (G : Glob cfg chf N 0 s uf secf cf) (hsess : ∀ j, j < N → (uf j).sess = S j) (hcf : ∀ j, j < N → cf j ≤ B) :
    ∃ wd' secf' s' uf' cf', forUes f nEnd 0 (ueList N mk secf) wd = (wd', .ok (ueList N mk secf')) ∧
      wd'.plmn = m ∧ wd'.dls = tail ∧ Judged P scfg chs wd' s' ∧ Glob cfg chf N 0 s' uf' secf' cf' ∧
      (∀ j, j < N → (uf' j).sess = if j < nEnd then seA j else S j) ∧ (∀ j, j < N → cf' j ≤ B + p.cost) ∧
      s'.established = s.established ++ (if p = .establish then List.range nEnd else []) ∧
      s'.services = s.services + (if p = .service then nEnd else 0) ∧
      s'.releases = s.releases + (if p = .release then nEnd else 0) ∧ s'.deregs = s.deregs ∧
      wd'.reportsRev = ((List.range nEnd).flatMap repOf).reverse ++ wd.reportsRev := by
  obtain ⟨wd', secf', s', uf', cf', h1, h2, h3, h4, h5, h6, h7, h8, h9, h10, h11, h12, -⟩ := proc_loop' P hP scfg chs h s1 s2 s3 mk hmk p f
    nEnd hN dlsOf repOf (fun i sec uls sec' hi hp wd rest hpl hdl => hemul i sec wd uls sec' rest hi hpl hdl hp) S seA hS B hB tail wd
    secf s uf cf hplmn hdls hJ G hsess hcf
  exact ⟨wd', secf', s', uf', cf', h1, h2, h3, h4, h5, h6, h7, h8, h9, h10, h11, h12⟩

end Stgutg.Proofs.EmulatorLifeN
