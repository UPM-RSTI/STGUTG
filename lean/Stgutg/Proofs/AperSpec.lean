/-
  C03 helper lemmas, part 1: the primitives of the APER encoder model (Model/AperEnc.lean, i.e. marshal.go) against the
  clauses of Spec/X691.lean — constrained whole number (11.5), length determinant (11.9), INTEGER (13), ENUMERATED (14),
  CHOICE index (23.6), BIT STRING (16), OCTET STRING (17).
  Each comparison is a refinement `Ref c m s` of the specification's value `s` by the model's computation `m` (defined below
  with its rules: what the model returns is the specification's, and under `c` conversely), or, where nothing is refused, an
  equation or an equivalence (`…_eq`, `…_iff`: these are `Ref True`, `Ref.of_iff`). By function:
    appendConstraintValue  `constrained_eq` (range 2..65536: both encode), `constraintValue_big` (refused above), `constrained_ref`
    appendLength           `length_unc` / `lengthDeterminant_unc` (general length below 16K), `generalLength_iff`,
                           `lengthDeterminant_con`, `length_con_ref` (constrained)
    appendInteger          `appendInteger_eq` (bounds, then `intTail`), `intTail_unc` / `_con` / `_big`, `integer_ref`
    appendEnumerated       `enumerated_ref`
    appendChoiceIndex      `choice_index_ref`
    fragLoop               `fragLoop_small` (one round below 16K), `fragLoop_con`, `fragLoop_unc` (every length)
    appendBitString / appendOctetString   `bit_string_iff`, `octet_string_iff`: both are `strEnc` (`append…String_eq`)
                           against `strSpec` (`bitString_eq`, `octetString_eq`), compared once in `strEnc_iff`
  The two encoders are not syntactically parallel: the model's loops (`octetCount`, `bitsForRange`, `fragLoop`) are
  characterised first (`octetCount_char`, `octetsFor_eq`, `octetsForSigned_eq`, `bitsFor_eq`, `fragLoop_small`).
-/
import Stgutg.Model.AperEnc
import Stgutg.Spec.X691
import Stgutg.Proofs.Bits

namespace Stgutg.Proofs.AperSpec
open Stgutg Stgutg.Aper Stgutg.Proofs.Bits
open Stgutg.Spec.X691 (bitsFor octetsFor pad constrainedWholeNumber lengthDeterminant lengthAndItems twosComplement octetsForSigned
  integer enumerated sizeConstraint bitString octetString)

/-- the loop `for i = 1; i <= 8; i++ { if 1<<i >= range { break } }`: a width of 1..9 bits, enough for a range of up to 256 -/
theorem bitsForRange_spec (range : Int) :
    1 ≤ bitsForRange range ∧ bitsForRange range ≤ 9 ∧ (range ≤ 256 → range ≤ ((2 ^ bitsForRange range : Nat) : Int)) := by
  unfold bitsForRange
  by_cases h : range ≤ 2; · rw [if_pos h]; omega
  rw [if_neg h]; clear h
  by_cases h : range ≤ 4; · rw [if_pos h]; omega
  rw [if_neg h]; clear h
  by_cases h : range ≤ 8; · rw [if_pos h]; omega
  rw [if_neg h]; clear h
  by_cases h : range ≤ 16; · rw [if_pos h]; omega
  rw [if_neg h]; clear h
  by_cases h : range ≤ 32; · rw [if_pos h]; omega
  rw [if_neg h]; clear h
  by_cases h : range ≤ 64; · rw [if_pos h]; omega
  rw [if_neg h]; clear h
  by_cases h : range ≤ 128; · rw [if_pos h]; omega
  rw [if_neg h]; clear h
  by_cases h : range ≤ 256
  · rw [if_pos h]; omega
  · rw [if_neg h]; omega

theorem bitsForRange_pos (range : Int) : bitsForRange range ≠ 0 ∧ bitsForRange range < 64 := by
  have := bitsForRange_spec range
  omega

theorem lt_pow_bitsForRange (range : Int) (v : Nat) (hv : (v : Int) < range) (h : range ≤ 256) :
    v < 2 ^ bitsForRange range := by
  have := (bitsForRange_spec range).2.2 h
  omega

theorem bind_ok_eq {α β : Type} (x : Res α) (f : α → Res β) (b : β) (h : (x >>= f) = .ok b) :
    ∃ a, x = .ok a ∧ f a = .ok b := by
  cases x with
  | error e => simp [bind, Except.bind] at h
  | ok a => exact ⟨a, rfl, by simpa [bind, Except.bind] using h⟩

theorem map_ok_iff_map_some {α β : Type} {m : Res α} {s : Option α} (f : α → β) (x : β)
    (h : ∀ c, m = .ok c ↔ s = some c) : Except.map f m = .ok x ↔ Option.map f s = some x := by
  cases m with
  | error e =>
    cases s with
    | none => simp [Except.map]
    | some c => exact absurd ((h c).mpr rfl) (by simp)
  | ok c => rw [(h c).mp rfl]; simp [Except.map]

/-! ### refinement

  Every comparison of this development has the same form: a computation `m` of the encoder model against the value `s` the
  specification prescribes. `Ref c m s`: what `m` returns is what `s` prescribes; and, where `c` holds, `m` returns whatever
  `s` prescribes. `c` collects what only the converse needs (`Ref False` is "whatever the model writes is the
  specification's", `Ref True` is "same domain, same bits"). -/

def Ref {α : Type} (c : Prop) (m : Res α) (s : Option α) : Prop :=
  (∀ a, m = .ok a → s = some a) ∧ (c → ∀ a, s = some a → m = .ok a)

namespace Ref
variable {α β : Type} {c : Prop}

theorem ok (a : α) : Ref c (.ok a) (some a) := ⟨fun _ h => by cases h; rfl, fun _ _ h => by cases h; rfl⟩

theorem error (e : Err) {s : Option α} (h : c → s = none) : Ref c (.error e) s :=
  ⟨nofun, fun hc a hs => by rw [h hc] at hs; cases hs⟩

theorem fail (e : Err) : Ref c (.error e : Res α) none := error e fun _ => rfl

theorem fwd {m : Res α} {s : Option α} (h : Ref c m s) {a : α} : m = .ok a → s = some a := h.1 a

theorem iff {m : Res α} {s : Option α} (h : Ref c m s) (hc : c) (a : α) : m = .ok a ↔ s = some a := ⟨h.1 a, h.2 hc a⟩

theorem mono {c' : Prop} {m : Res α} {s : Option α} (hcc : c' → c) (h : Ref c m s) : Ref c' m s :=
  ⟨h.1, fun hc' => h.2 (hcc hc')⟩

theorem of_iff {m : Res α} {s : Option α} (h : ∀ a, m = .ok a ↔ s = some a) : Ref c m s :=
  ⟨fun a => (h a).mp, fun _ a => (h a).mpr⟩

theorem of_eq {m m' : Res α} {s : Option α} (hm : m' = m) (h : Ref c m' s) : Ref c m s := hm ▸ h

/-- the two ways a refinement comes out: both sides have the same value, or the model fails and — under `c` — the
    specification has nothing -/
theorem cases {m : Res α} {s : Option α} (h : Ref c m s) :
    (∃ a, m = .ok a ∧ s = some a) ∨ (∃ e, m = .error e ∧ (c → s = none)) := by
  cases m with
  | ok a => exact .inl ⟨a, rfl, h.1 a rfl⟩
  | error e =>
    refine .inr ⟨e, rfl, fun hc => ?_⟩
    cases hs : s with
    | none => rfl
    | some a => exact absurd (h.2 hc a hs) nofun

theorem of_cases {m : Res α} {s : Option α}
    (h : (∃ a, m = .ok a ∧ s = some a) ∨ ((∀ a, m ≠ .ok a) ∧ (c → s = none))) : Ref c m s := by
  rcases h with ⟨a, hm, hs⟩ | ⟨hm, hs⟩
  · rw [hm, hs]; exact ok a
  · exact ⟨fun a h => absurd h (hm a), fun hc a h => by rw [hs hc] at h; cases h⟩

/-- `cases` as a rule for the places where both encoders sequence their steps (`match m with | .error e => .error e | .ok a => …`
    against `match s with | none => none | some a => …`). Stated as an eliminator so that Lean abstracts `m` and `s` from the
    goal: a congruence lemma written with `match` would not apply, its `match` being another constant than the model's. -/
@[elab_as_elim]
theorem elim {m : Res α} {s : Option α} {P : Res α → Option α → Prop} (h : Ref c m s)
    (ok : ∀ a, m = .ok a → P (.ok a) (some a)) (err : ∀ e s', (c → s' = none) → P (.error e) s') : P m s := by
  rcases h.cases with ⟨a, hm, hs⟩ | ⟨e, hm, hs⟩
  · rw [hm, hs]; exact ok a hm
  · rw [hm]; exact err e s hs

theorem map {m : Res α} {s : Option α} (g : α → β) (h : Ref c m s) : Ref c (m.map g) (s.map g) :=
  h.elim (fun a _ => ok (g a)) fun e _ hs => error e fun hc => by rw [hs hc]; rfl

end Ref

/-- below the fragmentation threshold the loop runs once: length determinant, alignment, content -/
theorem fragLoop_small (unit : Nat) (sr : Int) (lb fuel pos rawLength : Nat) (payload : Bits) (h : rawLength < 16384) :
    fragLoop unit sr lb (fuel + 1) pos rawLength payload =
      match appendLength pos sr rawLength with
      | .error e => .error e
      | .ok lenBits =>
        if rawLength + lb = 0 then .ok lenBits
        else .ok (lenBits ++ alignBits (pos + lenBits.length) ++ payload.take ((rawLength + lb) * unit)) := by
  unfold fragLoop
  have h1 : ¬ rawLength ≥ 65536 := by omega
  have h2 : ¬ rawLength ≥ 16384 := by omega
  simp only [h1, h2, if_false]
  cases appendLength pos sr rawLength with
  | error e => rfl
  | ok lenBits =>
    dsimp only
    split
    · rfl
    · simp

theorem pad_eq (pos : Nat) : pad pos = alignBits pos := rfl

theorem alignBits_length (pos : Nat) : (alignBits pos).length = (8 - pos % 8) % 8 := by
  simp [alignBits, padLen]

theorem bitsFor_fin : ∀ r : Fin 257, 2 ≤ r.val → bitsFor r.val = bitsForRange (r.val : Int) := by decide +kernel

theorem bitsFor_eq (range : Int) (h2 : 2 ≤ range) (h : range ≤ 256) : bitsFor range.toNat = bitsForRange range := by
  have := bitsFor_fin ⟨range.toNat, by omega⟩ (by simp only; omega)
  simp only at this
  rw [this]
  congr 1
  omega

/-- first hit of `find?` on a `range'` -/
theorem find_range' (p : Nat → Bool) : ∀ (len s k : Nat), s ≤ k → k < s + len → p k = true →
    (∀ j, s ≤ j → j < k → p j = false) → (List.range' s len).find? p = some k := by
  intro len
  induction len with
  | zero => intro s k h1 h2; omega
  | succ len ih =>
    intro s k h1 h2 hp hlt
    rw [List.range'_succ, List.find?_cons]
    by_cases hs : s = k
    · subst hs; rw [hp]
    · rw [hlt s (Nat.le_refl _) (by omega)]
      exact ih (s + 1) k (by omega) (by omega) hp (fun j hj1 hj2 => hlt j (by omega) hj2)

theorem find_range (p : Nat → Bool) (n k : Nat) (hk : k < n) (hp : p k = true) (hlt : ∀ j, j < k → p j = false) :
    (List.range n).find? p = some k := by
  rw [List.range_eq_range']
  exact find_range' p n 0 k (by omega) (by omega) hp (fun j _ hj => hlt j hj)

theorem pow256 (a : Nat) : 256 ^ a = 2 ^ (8 * a) := by
  rw [Nat.pow_mul]

theorem octetCount_pos (f x : Nat) : 1 ≤ octetCount f x := by
  cases f with
  | zero => simp [octetCount]
  | succ f => unfold octetCount; split <;> omega

/-- what the `octetCount` loop computes: 1 + the number of octets of `x` (0 for x = 0) -/
theorem octetCount_char : ∀ (f x : Nat), x < 256 ^ f →
    1 ≤ octetCount f x ∧ octetCount f x ≤ f + 1 ∧ x < 256 ^ (octetCount f x - 1) ∧
    (octetCount f x = 1 ∨ 256 ^ (octetCount f x - 2) ≤ x) := by
  intro f
  induction f with
  | zero => intro x hx; simp [octetCount] at *; omega
  | succ f ih =>
    intro x hx
    unfold octetCount
    split
    · rename_i h0; subst h0; simp
    · rename_i h0
      have hdiv : x >>> 8 = x / 256 := by rw [Nat.shiftRight_eq_div_pow]
      rw [hdiv]
      have hm : x / 256 < 256 ^ f := by
        rw [Nat.pow_succ] at hx
        exact Nat.div_lt_of_lt_mul (by rw [Nat.mul_comm]; exact hx)
      obtain ⟨h1, h2, h3, h4⟩ := ih (x / 256) hm
      generalize octetCount f (x / 256) = c at h1 h2 h3 h4
      obtain ⟨c', rfl⟩ : ∃ c', c = c' + 1 := ⟨c - 1, by omega⟩
      refine ⟨by omega, by omega, ?_, Or.inr ?_⟩
      · have e : 1 + (c' + 1) - 1 = c' + 1 := by omega
        rw [e, Nat.pow_succ]
        simp only [Nat.add_sub_cancel] at h3
        generalize 256 ^ c' = K at h3 ⊢
        omega
      · have e : 1 + (c' + 1) - 2 = c' := by omega
        rw [e]
        rcases h4 with h4 | h4
        · have : c' = 0 := by omega
          subst this; simp; omega
        · obtain ⟨c'', rfl⟩ : ∃ c'', c' = c'' + 1 := ⟨c' - 1, by
            cases c' with
            | zero => simp at h4; omega
            | succ n => simp⟩
          have e2 : c'' + 1 + 1 - 2 = c'' := by omega
          rw [e2] at h4
          rw [Nat.pow_succ]
          generalize 256 ^ c'' = K at h4 ⊢
          omega

theorem octetCount_le' (f x j : Nat) (hf : x < 256 ^ f) (hx : x < 256 ^ j) : octetCount f x ≤ j + 1 := by
  obtain ⟨h1, h2, h3, h4⟩ := octetCount_char f x hf
  rcases h4 with h4 | h4
  · omega
  · false_or_by_contra
    rename_i hc
    have : j ≤ octetCount f x - 2 := by omega
    have := Nat.pow_le_pow_right (n := 256) (by decide) this
    omega

/-- the loop of `appendInteger` run on `n / d` (`d` = 256 for a non-negative value, 128 for the magnitude of a signed one):
    `c + 1`, where `c ≤ 8` is the least number of octets with `n < 256 ^ c · d` -/
theorem octetCount_div (n d : Nat) (hd : 0 < d) (hn : n < 256 ^ 8 * d) :
    ∃ c, octetCount 9 (n / d) = c + 1 ∧ c ≤ 8 ∧ n < 256 ^ c * d ∧ (c = 0 ∨ ∃ e, c = e + 1 ∧ 256 ^ e * d ≤ n) := by
  have hx8 : n / d < 256 ^ 8 := (Nat.div_lt_iff_lt_mul hd).mpr hn
  have hx9 : n / d < 256 ^ 9 := Nat.lt_of_lt_of_le hx8 (Nat.pow_le_pow_right (by decide) (by decide))
  obtain ⟨h1, _, h3, h4⟩ := octetCount_char 9 (n / d) hx9
  have h9 := octetCount_le' 9 (n / d) 8 hx9 hx8
  generalize octetCount 9 (n / d) = c at h1 h3 h4 h9
  obtain ⟨c, rfl⟩ : ∃ c', c = c' + 1 := ⟨c - 1, by omega⟩
  simp only [Nat.add_sub_cancel] at h3
  refine ⟨c, rfl, by omega, (Nat.div_lt_iff_lt_mul hd).mp h3, ?_⟩
  cases c with
  | zero => exact Or.inl rfl
  | succ e =>
    have h4 : 256 ^ e ≤ n / d := by
      rcases h4 with h4 | h4
      · omega
      · simpa using h4
    exact Or.inr ⟨e, rfl, (Nat.le_div_iff_mul_le hd).mp h4⟩

/-! ### 11.5 constrained whole number -/

theorem putBits_some (v n : Nat) (hn : n ≠ 0) (hv : v < 2 ^ n) : putBitsValue v n = .ok (natToBits n v) := by
  unfold putBitsValue
  simp only [hn, if_false]
  have : ¬ (n < 64 ∧ v ≥ 2 ^ n) := by omega
  simp [this]

/-- for a range of 2..65536 values and an offset inside the range the two agree, and both encode -/
theorem constrained_eq (pos : Nat) (range : Int) (v : Nat) (h2 : 2 ≤ range) (h64 : range ≤ 65536)
    (hv : (v : Int) < range) :
    ∃ b, appendConstraintValue pos range v = .ok b ∧ constrainedWholeNumber pos v range.toNat = some b := by
  unfold appendConstraintValue constrainedWholeNumber
  have hr0 : ¬ (range.toNat = 0 ∨ v ≥ range.toNat) := by omega
  have hr1 : ¬ range.toNat = 1 := by omega
  simp only [hr0, hr1, if_false]
  by_cases h255 : range ≤ 255
  · have hn : ¬ range < 0 := by omega
    have h255' : range.toNat ≤ 255 := by omega
    simp only [h255, hn, h255', if_true, if_false]
    have ⟨w1, w2⟩ := bitsForRange_pos range
    rw [putBits_some v _ w1 (lt_pow_bitsForRange range v hv (by omega)), bitsFor_eq range h2 (by omega)]
    exact ⟨_, rfl, rfl⟩
  · have h255' : ¬ range.toNat ≤ 255 := by omega
    simp only [h255, h255', if_false]
    by_cases h256 : range = 256
    · have h256' : range.toNat = 256 := by omega
      simp only [h256, if_true]
      rw [putBits_some v 8 (by decide) (by omega)]
      exact ⟨_, rfl, rfl⟩
    · have h256' : ¬ range.toNat = 256 := by omega
      have h64' : range.toNat ≤ 65536 := by omega
      simp only [h256, h256', h64, h64', if_true, if_false]
      rw [putBits_some v 16 (by decide) (by omega)]
      exact ⟨_, rfl, rfl⟩

/-- beyond 64K values the library has no constrained form -/
theorem constraintValue_big (pos : Nat) (range : Int) (v : Nat) (h : 65536 < range) :
    appendConstraintValue pos range v = err := by
  unfold appendConstraintValue
  rw [if_neg (by omega), if_neg (by omega), if_neg (by omega)]

/-- 11.5: the two agree up to 65536 values; beyond, the specification has the indefinite-length form, the library refuses -/
theorem constrained_ref (pos : Nat) (range : Int) (v : Nat) (h2 : 2 ≤ range) (hv : (v : Int) < range) :
    Ref (range ≤ 65536) (appendConstraintValue pos range v) (constrainedWholeNumber pos v range.toNat) := by
  by_cases h64 : range ≤ 65536
  · obtain ⟨b, hm, hs⟩ := constrained_eq pos range v h2 h64 hv
    rw [hm, hs]; exact Ref.ok b
  · rw [constraintValue_big pos range v (by omega)]
    exact Ref.error _ fun h => absurd h h64

theorem putBitsValue_length (v n : Nat) (bits : Bits) (h : putBitsValue v n = .ok bits) : bits.length = n := by
  unfold putBitsValue at h
  split at h
  · rename_i h0; simp only [Except.ok.injEq] at h; rw [← h, h0]; rfl
  · split at h
    · simp [err] at h
    · simp only [Except.ok.injEq] at h; rw [← h, natToBits_length]

/-- an aligned field of `n > 0` bits (the `do` blocks of `appendConstraintValue` and `appendLength`) is not empty -/
theorem aligned_put_nonempty (pos v n : Nat) (b : Bits) (hn : 0 < n)
    (h : (do let x ← putBitsValue v n; pure (alignBits pos ++ x) : Res Bits) = .ok b) : b ≠ [] := by
  obtain ⟨x, hx, hb⟩ := bind_ok_eq _ _ _ h
  simp only [pure, Except.pure, Except.ok.injEq] at hb
  have := putBitsValue_length _ _ _ hx
  apply List.ne_nil_of_length_pos
  rw [← hb, List.length_append]; omega

/-- the model always writes at least one bit for a constrained value -/
theorem constraintValue_nonempty (pos : Nat) (range : Int) (v : Nat) (b : Bits)
    (h : appendConstraintValue pos range v = .ok b) : b ≠ [] := by
  unfold appendConstraintValue at h
  split at h
  · split at h
    · simp [err] at h
    · apply List.ne_nil_of_length_pos
      rw [putBitsValue_length _ _ _ h]
      have := (bitsForRange_spec range).1
      omega
  · split at h
    · exact aligned_put_nonempty _ _ 8 b (by decide) h
    · split at h
      · exact aligned_put_nonempty _ _ 16 b (by decide) h
      · simp [err] at h

/-! ### 11.9 length determinant -/

theorem or8000 (n : Nat) (hn : n < 16384) : n ||| 0x8000 = 32768 + n := by
  have := Nat.two_pow_add_eq_or_of_lt (i := 15) (b := n) (by omega) 1
  rw [Nat.or_comm]
  simpa using this.symm

theorem natToBits16_or (n : Nat) (hn : n < 16384) :
    natToBits 16 (n ||| 0x8000) = [true, false] ++ natToBits 14 n := by
  rw [or8000 n hn]
  have e : natToBits 16 (32768 + n) = (32768 + n).testBit 15 :: (32768 + n).testBit 14 :: natToBits 14 (32768 + n) := rfl
  rw [e]
  have t15 : (32768 + n).testBit 15 = true := by
    rw [Nat.testBit_eq_decide_div_mod_eq]; simp; omega
  have t14 : (32768 + n).testBit 14 = false := by
    rw [Nat.testBit_eq_decide_div_mod_eq]; simp; omega
  have hm : natToBits 14 (32768 + n) = natToBits 14 n := by
    rw [← natToBits_mod 14 14 (32768 + n) (Nat.le_refl _)]
    congr 1
    omega
  rw [t15, t14, hm]; rfl

/-- the general (unconstrained) length determinant of 11.9.3.6/7 as the model writes it -/
theorem length_unc (pos : Nat) (sr : Int) (n : Nat) (hn : n < 16384) (hsr : sr ≤ 0 ∨ 65536 < sr) :
    appendLength pos sr n =
      .ok (if n < 128 then pad pos ++ natToBits 8 n else pad pos ++ [true, false] ++ natToBits 14 n) := by
  unfold appendLength
  have h1 : ¬ (sr ≤ 65536 ∧ sr > 0) := by omega
  simp only [h1, if_false]
  by_cases h127 : n ≤ 127
  · have : n < 128 := by omega
    simp only [h127, this, if_true]
    rw [putBits_some n 8 (by decide) (by omega)]
    rfl
  · have : ¬ n < 128 := by omega
    have h16 : n ≤ 16383 := by omega
    simp only [h127, this, h16, if_true, if_false]
    have hlt : n ||| 0x8000 < 2 ^ 16 := by rw [or8000 n hn]; omega
    rw [putBits_some _ 16 (by decide) hlt, natToBits16_or n hn]
    show Except.ok (alignBits pos ++ ([true, false] ++ natToBits 14 n)) = _
    rw [pad_eq, List.append_assoc]

theorem lengthDeterminant_unc (pos n lb : Nat) (ub : Option Nat) (hn : n < 16384) (hub : ∀ u, ub = some u → 65536 ≤ u) :
    lengthDeterminant pos n lb ub =
      some (if n < 128 then pad pos ++ natToBits 8 n else pad pos ++ [true, false] ++ natToBits 14 n) := by
  unfold lengthDeterminant
  cases ub with
  | none => by_cases h : n < 128 <;> simp [h, hn]
  | some u =>
    have := hub u rfl
    have hu : ¬ u < 65536 := by omega
    by_cases h : n < 128 <;> simp [h, hn, hu]

/-- a general length that is one field (11.9.3.6/7): the model refuses 16K or more, where the specification has no
    single field either -/
theorem generalLength_iff (pos n lb : Nat) (ub : Option Nat) (c : Bits) (hub : ∀ u, ub = some u → 65536 ≤ u) :
    (if n ≥ 16384 then err else appendLength pos (-1) n) = .ok c ↔ lengthDeterminant pos n lb ub = some c := by
  by_cases hn : n < 16384
  · rw [if_neg (by omega), length_unc pos (-1) n hn (by omega), lengthDeterminant_unc pos n lb ub hn hub]
    simp
  · have : lengthDeterminant pos n lb ub = none := by
      unfold lengthDeterminant
      cases ub with
      | none => simp only [show ¬ n < 128 by omega, hn, if_false]
      | some u =>
        have := hub u rfl
        simp only [show ¬ u < 65536 by omega, show ¬ n < 128 by omega, hn, if_false]
    rw [if_pos (by omega), this]
    simp [err]

/-- 11.9.3.3: inside its bounds a length with an upper bound below 64K is a constrained whole number -/
theorem lengthDeterminant_con (pos n lb u : Nat) (hl : lb ≤ n) (hu : n ≤ u) (hu64 : u < 65536) :
    lengthDeterminant pos n lb (some u) = constrainedWholeNumber pos (n - lb) (u - lb + 1) := by
  unfold lengthDeterminant
  have h2 : ¬ (n < lb ∨ n > u) := by omega
  simp only [hu64, h2, if_true, if_false]

/-- 11.9.3.3: a length inside bounds that span at least two and at most 65536 values -/
theorem length_con_ref (pos n lb u : Nat) (hl : lb ≤ n) (hu : n ≤ u) (hlu : lb < u) (hu64 : u < 65536) :
    Ref True (appendLength pos ((u : Int) - lb + 1) (n - lb)) (lengthDeterminant pos n lb (some u)) := by
  rw [lengthDeterminant_con pos n lb u hl hu hu64, show u - lb + 1 = ((u : Int) - lb + 1).toNat by omega]
  unfold appendLength
  rw [if_pos (by omega)]
  exact (constrained_ref pos _ _ (by omega) (by omega)).mono fun _ => by omega

/-! ### 13 INTEGER -/

/-- the magnitude the Go code sizes a two's-complement integer with: `v` or `−v − 1` -/
def absU (v : Int) : Nat := if v < 0 then (-v - 1).toNat else v.toNat

theorem signed_range (v : Int) (m : Nat) : (-(2 ^ m : Int) ≤ v ∧ v < (2 ^ m : Int)) ↔ absU v < 2 ^ m := by
  have e : (2 ^ m : Int) = ((2 ^ m : Nat) : Int) := by simp
  rw [e]
  generalize 2 ^ m = M
  unfold absU
  split <;> omega

/-- 11.3: the minimal octet count of a non-negative value, as the loop of `appendInteger` computes it -/
theorem octetsFor_eq (n : Nat) (hn : n < 256 ^ 9) : octetsFor n = octetCount 9 (n >>> 8) := by
  have hdiv : n >>> 8 = n / 256 := by rw [Nat.shiftRight_eq_div_pow]
  obtain ⟨c, hc, h9, h3, h4⟩ := octetCount_div n 256 (by decide) (by rw [← Nat.pow_succ]; exact hn)
  rw [hdiv, hc]
  unfold octetsFor
  rw [find_range _ 10 (c + 1) (by omega)]
  · rfl
  · simp only [decide_eq_true_eq]
    exact ⟨by omega, by rw [Nat.pow_succ]; exact h3⟩
  · intro j hj
    simp only [decide_eq_false_iff_not]
    intro ⟨hj1, hlt⟩
    rcases h4 with rfl | ⟨e, rfl, h4⟩
    · omega
    · have hle : 256 ^ j ≤ 256 ^ (e + 1) := Nat.pow_le_pow_right (by decide) (by omega)
      rw [Nat.pow_succ] at hle
      omega

theorem bitsFor_small : ∀ m : Fin 18, 3 ≤ m.val →
    bitsFor m.val = bitsForRange (m.val : Int) ∧ m.val ≤ 2 ^ bitsFor m.val ∧ bitsFor m.val ≠ 0 := by decide +kernel

theorem octetCount_zero (f : Nat) : octetCount f 0 = 1 := by cases f <;> simp [octetCount]

/-- with enough fuel the loop's result does not depend on the fuel -/
theorem octetCount_fuel : ∀ (f g x : Nat), x < 256 ^ f → x < 256 ^ g → octetCount f x = octetCount g x := by
  intro f
  induction f with
  | zero => intro g x hf _; simp at hf; subst hf; rw [octetCount_zero, octetCount_zero]
  | succ f ih =>
    intro g x hf hg
    by_cases h0 : x = 0
    · subst h0; rw [octetCount_zero, octetCount_zero]
    · cases g with
      | zero => simp at hg; omega
      | succ g =>
        unfold octetCount
        simp only [h0, if_false]
        have hdiv : x >>> 8 = x / 256 := by rw [Nat.shiftRight_eq_div_pow]
        rw [hdiv]
        congr 1
        apply ih
        · rw [Nat.pow_succ] at hf; exact Nat.div_lt_of_lt_mul (by rw [Nat.mul_comm]; exact hf)
        · rw [Nat.pow_succ] at hg; exact Nat.div_lt_of_lt_mul (by rw [Nat.mul_comm]; exact hg)

theorem octetsFor_char (n : Nat) (hn : n < 256 ^ 9) :
    1 ≤ octetsFor n ∧ octetsFor n ≤ 9 ∧ n < 256 ^ octetsFor n ∧ (octetsFor n = 1 ∨ 256 ^ (octetsFor n - 1) ≤ n) := by
  have hdiv : n >>> 8 = n / 256 := by rw [Nat.shiftRight_eq_div_pow]
  obtain ⟨c, hc, h9, h3, h4⟩ := octetCount_div n 256 (by decide) (by rw [← Nat.pow_succ]; exact hn)
  rw [octetsFor_eq n hn, hdiv, hc, Nat.pow_succ, Nat.add_sub_cancel]
  refine ⟨by omega, by omega, h3, ?_⟩
  rcases h4 with rfl | ⟨e, rfl, h4⟩
  · exact Or.inl rfl
  · exact Or.inr (by rw [Nat.pow_succ]; exact h4)

theorem octetsFor_mono (n m : Nat) (hnm : n ≤ m) (hm : m < 256 ^ 9) : octetsFor n ≤ octetsFor m := by
  obtain ⟨a1, a2, a3, a4⟩ := octetsFor_char n (by omega)
  obtain ⟨b1, b2, b3, b4⟩ := octetsFor_char m hm
  false_or_by_contra
  rename_i hc
  rcases a4 with a4 | a4
  · omega
  · have : octetsFor m ≤ octetsFor n - 1 := by omega
    have := Nat.pow_le_pow_right (n := 256) (by decide) this
    omega

/-- 11.4: the minimal octet count of a two's-complement value, as the loop of `appendInteger` computes it -/
theorem octetsForSigned_eq (v : Int) (hv : absU v < 2 ^ 71) : octetsForSigned v = octetCount 9 (absU v >>> 7) := by
  have hdiv : absU v >>> 7 = absU v / 128 := by rw [Nat.shiftRight_eq_div_pow]
  obtain ⟨c, hc, h9, h3, h4⟩ := octetCount_div (absU v) 128 (by decide) hv
  rw [hdiv, hc]
  unfold octetsForSigned
  rw [find_range _ 10 (c + 1) (by omega)]
  · rfl
  · simp only [decide_eq_true_eq]
    refine ⟨by omega, ?_⟩
    rw [show 8 * (c + 1) - 1 = 8 * c + 7 by omega]
    refine (signed_range v _).mpr ?_
    rw [Nat.pow_add, ← pow256]
    exact h3
  · intro j hj
    simp only [decide_eq_false_iff_not]
    intro ⟨hj1, hr⟩
    have hu := (signed_range v _).mp hr
    rcases h4 with rfl | ⟨e, rfl, h4⟩
    · omega
    · have hle : 2 ^ (8 * j - 1) ≤ 2 ^ (8 * e + 7) := Nat.pow_le_pow_right (by decide) (by omega)
      rw [Nat.pow_add, ← pow256] at hle
      omega

/-- the unconstrained form (11.8 / 13.2.4): aligned length octet and two's complement, as the model writes it -/
theorem unconstrained_tail (v : Int) (hv : absU v < 2 ^ 71) :
    putBitsValue (v % ((2 ^ (8 * octetCount 9 (absU v >>> 7)) : Nat) : Int)).toNat (8 * octetCount 9 (absU v >>> 7)) =
      .ok (twosComplement (octetsForSigned v) v) := by
  rw [octetsForSigned_eq v hv]
  have h1 := octetCount_pos 9 (absU v >>> 7)
  generalize octetCount 9 (absU v >>> 7) = k at h1
  unfold twosComplement
  have e : (2 : Int) ^ (8 * k) = ((2 ^ (8 * k) : Nat) : Int) := by simp
  rw [e]
  apply putBits_some _ _ (by omega)
  have hM : 0 < 2 ^ (8 * k) := Nat.two_pow_pos _
  generalize 2 ^ (8 * k) = M at hM
  have h1 := Int.emod_nonneg v (b := (M : Int)) (by omega)
  have h2 := Int.emod_lt_of_pos v (b := (M : Int)) (by omega)
  omega

def intOK' (lbP ubP : Option Int) : Bool :=
  match lbP, ubP with
  | none, none => true
  | some l, some u => decide (u - l + 1 ≤ 65536) || (l == 0 && decide (u < 2 ^ 63))
  | _, _ => false

theorem absU_int64 (v : Int) (h1 : -(2 ^ 63) ≤ v) (h2 : v < 2 ^ 63) : absU v < 2 ^ 71 := by
  unfold absU
  split <;> omega

/-- the part of `appendInteger` after the bounds have been looked at (same text as in the model) -/
def intTail (pos : Nat) (value : Int) (pre : Bits) (lb range : Int) : Res Bits :=
    let pos1 := pos + pre.length
    if range = 1 then .ok pre
    else
      let unsignedValue : Nat := if value < 0 then (-value - 1).toNat else value.toNat
      if range ≤ 0 then
        let rawLength := octetCount 9 (unsignedValue >>> 7)
        let al := alignBits pos1
        let lenBits := natToBits 8 rawLength
        let body : Nat :=
          if range < 0 then (value % (2 ^ (8 * rawLength) : Nat)).toNat
          else (value - lb).toNat
        match putBitsValue body (8 * rawLength) with
        | .error e => .error e
        | .ok b => .ok (pre ++ al ++ lenBits ++ b)
      else if range ≤ 65536 then
        match appendConstraintValue pos1 range (value - lb).toNat with
        | .error e => .error e
        | .ok b => .ok (pre ++ b)
      else
        let rawLength := octetCount 9 (unsignedValue >>> 8)
        match putBitsValue (rawLength - 1) (bitsForRange (rangeByteLen range)) with
        | .error e => .error e
        | .ok lenBits =>
          let pos2 := pos1 + lenBits.length
          match putBitsValue (value - lb).toNat (8 * rawLength) with
          | .error e => .error e
          | .ok b => .ok (pre ++ lenBits ++ alignBits pos2 ++ b)

theorem appendInteger_eq (pos : Nat) (value : Int) (ext : Bool) (lbP ubP : Option Int) :
    appendInteger pos value ext lbP ubP =
      match (match lbP with
        | none => .ok ([], 0, -1)
        | some l =>
          if value < l then err else
          match ubP with
          | none => .ok ([], l, 0)
          | some u =>
            if value ≤ u then .ok (if ext then [false] else [], l, u - l + 1)
            else if !ext then err
            else .ok ([true], l, -1) : Res (Bits × Int × Int)) with
      | .error e => .error e
      | .ok (pre, lb, range) => intTail pos value pre lb range := rfl

/-- unconstrained form (range −1): aligned length octet and two's complement (11.8) -/
theorem intTail_unc (pos : Nat) (v : Int) (pre : Bits) (lb : Int) (hv : absU v < 2 ^ 71) :
    intTail pos v pre lb (-1) =
      .ok (pre ++ pad (pos + pre.length) ++ natToBits 8 (octetsForSigned v) ++ twosComplement (octetsForSigned v) v) := by
  unfold intTail
  have h1 : ¬ ((-1 : Int) = 1) := by decide
  have h2 : (-1 : Int) ≤ 0 := by decide
  have h3 : (-1 : Int) < 0 := by decide
  simp only [h1, h2, h3, if_true, if_false]
  have := unconstrained_tail v hv
  unfold absU at this
  rw [this]
  have e := octetsForSigned_eq v hv
  unfold absU at e
  rw [← e, pad_eq]

/-- constrained form, range 2..65536 -/
theorem intTail_con (pos : Nat) (v : Int) (pre : Bits) (lb range : Int) (h2 : 2 ≤ range) (h64 : range ≤ 65536)
    (hl : lb ≤ v) (hu : v - lb < range) :
    ∃ c, constrainedWholeNumber (pos + pre.length) (v - lb).toNat range.toNat = some c ∧
      intTail pos v pre lb range = .ok (pre ++ c) := by
  obtain ⟨c, hc, hs⟩ := constrained_eq (pos + pre.length) range (v - lb).toNat h2 h64 (by omega)
  refine ⟨c, hs, ?_⟩
  unfold intTail
  have h1 : ¬ range = 1 := by omega
  have h0 : ¬ range ≤ 0 := by omega
  simp only [h1, h0, h64, if_true, if_false, hc]

/-- range above 64K starting at 0 (11.5.7.4): octet count − 1 as a constrained number, aligned minimal octets -/
theorem intTail_big (pos : Nat) (v : Int) (pre : Bits) (range : Int) (h64 : 65536 < range) (hr : range ≤ 2 ^ 63)
    (hl : 0 ≤ v) (hu : v < range) :
    ∃ c, constrainedWholeNumber (pos + pre.length) v.toNat range.toNat = some c ∧
      intTail pos v pre 0 range = .ok (pre ++ c) := by
  have e72 : (256 : Nat) ^ 9 = 2 ^ 72 := by decide
  have hn9 : v.toNat < 256 ^ 9 := by omega
  have hr9 : range.toNat - 1 < 256 ^ 9 := by omega
  -- the width of the length field: both sides take it from the octet count of `range − 1`, which is 3..9
  have hmax : rangeByteLen range = octetsFor (range.toNat - 1) := by
    unfold rangeByteLen
    have e : (range - 1).toNat = range.toNat - 1 := by omega
    rw [e, octetsFor_eq _ hr9]
    have hx : (range.toNat - 1) >>> 8 < 256 ^ 9 := by rw [Nat.shiftRight_eq_div_pow]; omega
    exact octetCount_fuel 16 9 _ (Nat.lt_of_lt_of_le hx (Nat.pow_le_pow_right (by decide) (by decide))) hx
  obtain ⟨m1, m2, m3, m4⟩ := octetsFor_char (range.toNat - 1) hr9
  have hmax3 : 3 ≤ octetsFor (range.toNat - 1) := by
    false_or_by_contra
    rename_i hc
    have : octetsFor (range.toNat - 1) ≤ 2 := by omega
    have := Nat.pow_le_pow_right (n := 256) (by decide) this
    omega
  obtain ⟨p0, p1, p2⟩ := bitsFor_small ⟨octetsFor (range.toNat - 1), by omega⟩ hmax3
  simp only at p0 p1 p2
  -- the value's own octet count fits the field, the value fits its octets
  obtain ⟨k1, k2, k3, k4⟩ := octetsFor_char v.toNat hn9
  have hmono := octetsFor_mono v.toNat (range.toNat - 1) (by omega) hr9
  have hbody : v.toNat < 2 ^ (8 * octetsFor v.toNat) := by rw [← pow256]; exact k3
  unfold intTail constrainedWholeNumber
  have h1 : ¬ range = 1 := by omega
  have h0 : ¬ range ≤ 0 := by omega
  have h6 : ¬ range ≤ 65536 := by omega
  have hv0 : ¬ v < 0 := by omega
  have g1 : ¬ (range.toNat = 0 ∨ v.toNat ≥ range.toNat) := by omega
  have g2 : ¬ range.toNat = 1 := by omega
  have g3 : ¬ range.toNat ≤ 255 := by omega
  have g4 : ¬ range.toNat = 256 := by omega
  have g5 : ¬ range.toNat ≤ 65536 := by omega
  simp only [h1, h0, h6, hv0, g1, g2, g3, g4, g5, if_false, Int.sub_zero]
  rw [← octetsFor_eq _ hn9, hmax, ← p0, putBits_some _ _ p2 (by omega)]
  dsimp only
  rw [putBits_some _ _ (by omega) hbody]
  exact ⟨_, rfl, by simp only [pad_eq, List.append_assoc]⟩

theorem extPre_length (ext : Bool) : (if ext then [false] else [] : Bits).length = if ext then 1 else 0 := by
  cases ext <;> rfl

/-- **13 INTEGER**, int64 values, bounds both present or both absent, a range above 64K starting at 0 and ending below
    2^63: either the model and the specification produce the same bits, or the model refuses and — the bounds being
    ordered — the specification does not encode the value -/
theorem integer_ref (pos : Nat) (v : Int) (ext : Bool) (lbP ubP : Option Int)
    (hok : intOK' lbP ubP = true) (h1 : -(2 ^ 63) ≤ v) (h2 : v < 2 ^ 63) :
    Ref (∀ l u, lbP = some l → ubP = some u → l ≤ u) (appendInteger pos v ext lbP ubP) (integer pos v ext lbP ubP) := by
  refine Ref.of_cases ?_
  rw [appendInteger_eq]
  have hv := absU_int64 v h1 h2
  unfold integer
  cases lbP with
  | none =>
    cases ubP with
    | some u => simp [intOK'] at hok
    | none =>
      dsimp only
      rw [intTail_unc _ _ _ _ hv]
      exact Or.inl ⟨_, rfl, by simp⟩
  | some l =>
    cases ubP with
    | none => simp [intOK'] at hok
    | some u =>
      dsimp only
      by_cases hvl : v < l
      · -- below the lower bound
        right
        simp only [hvl, if_true]
        refine ⟨by simp [err], fun hlu => ?_⟩
        have := hlu l u rfl rfl
        have c1 : ¬ (l ≤ v ∧ v ≤ u) := by omega
        have c2 : ¬ (ext = true ∧ v > u) := by omega
        simp only [c1, c2, if_false]
      · simp only [hvl, if_false]
        by_cases hvu : v ≤ u
        · -- inside the bounds: a constrained whole number
          left
          have hin : l ≤ v ∧ v ≤ u := ⟨by omega, hvu⟩
          simp only [hvu, hin, and_self, if_true]
          rw [← extPre_length ext]
          by_cases hr1 : u - l + 1 = 1
          · have e : (v - l).toNat = 0 := by omega
            have e1 : (u - l + 1).toNat = 1 := by omega
            refine ⟨if ext = true then [false] else [], by unfold intTail; simp only [hr1, if_true], ?_⟩
            rw [e, e1]; simp [constrainedWholeNumber]
          · by_cases hr64 : u - l + 1 ≤ 65536
            · obtain ⟨c, hc, hm⟩ := intTail_con pos v (if ext = true then [false] else []) l (u - l + 1) (by omega) hr64 (by omega) (by omega)
              exact ⟨_, hm, by rw [hc]; rfl⟩
            · simp only [intOK', decide_eq_true_eq, Bool.or_eq_true, Bool.and_eq_true, beq_iff_eq] at hok
              have hl0 : l = 0 := by omega
              subst hl0
              obtain ⟨c, hc, hm⟩ := intTail_big pos v (if ext = true then [false] else []) (u - 0 + 1) (by omega) (by omega) (by omega) (by omega)
              simp only [Int.sub_zero] at hc hm ⊢
              exact ⟨_, hm, by rw [hc]; rfl⟩
        · -- above the upper bound: only with an extension marker, and then unconstrained
          simp only [hvu, and_false, if_false]
          cases ext with
          | false => exact Or.inr ⟨by simp [err], fun _ => by simp⟩
          | true =>
            left
            simp only [Bool.not_true, Bool.false_eq_true, if_false]
            rw [intTail_unc _ _ _ _ hv]
            have : v > u := by omega
            exact ⟨_, rfl, by simp [this]⟩

/-! ### 14 ENUMERATED, 23.6 choice index -/

def enumOK' (lbP : Option Int) : Bool :=
  match lbP with
  | some l => l == 0
  | none => true

/-- **14 ENUMERATED** (root enumerations numbered from 0): either the model and the specification produce the same bits,
    or the model refuses and — with at most 65536 root enumerations — the specification does not encode the value -/
theorem enumerated_ref (pos n : Nat) (ext : Bool) (lbP ubP : Option Int) (hok : enumOK' lbP = true) :
    Ref (∀ u, ubP = some u → u < 65536) (appendEnumerated pos n ext lbP ubP) (enumerated pos n ext lbP ubP) := by
  refine Ref.of_cases ?_
  unfold appendEnumerated enumerated
  cases lbP with
  | none => exact Or.inr ⟨by simp [err], fun _ => by simp⟩
  | some l =>
    cases ubP with
    | none => exact Or.inr ⟨by simp [err], fun _ => by simp⟩
    | some u =>
      simp only [enumOK', beq_iff_eq] at hok
      subst hok
      simp only
      by_cases hgt : (n : Int) > u
      · exact Or.inr ⟨by simp [hgt, err], fun _ => by simp [show ¬ (n : Int) ≤ u by omega]⟩
      · have hle : (n : Int) ≤ u := by omega
        simp only [hgt, show ¬ (n : Int) < 0 by omega, hle, if_true, if_false]
        rw [← extPre_length ext]
        by_cases hr : u - 0 + 1 > 1
        · simp only [hr, if_true]
          by_cases h64 : u < 65536
          · obtain ⟨c, hc, hs⟩ := constrained_eq (pos + (if ext = true then [false] else [] : Bits).length) (u - 0 + 1) n
              (by omega) (by omega) (by omega)
            simp only [Int.sub_zero] at hc hs ⊢
            exact Or.inl ⟨_, by rw [hc], by rw [hs]; rfl⟩
          · refine Or.inr ⟨fun b h => ?_, fun hub => absurd (hub u rfl) h64⟩
            rw [constraintValue_big _ _ _ (show 65536 < u - 0 + 1 by omega)] at h
            simp [err] at h
        · have hu : u = 0 := by omega
          have hn : n = 0 := by omega
          subst hu hn
          exact Or.inl ⟨if ext = true then [false] else [], by simp, by simp [constrainedWholeNumber]⟩

/-- **23.6** index of the chosen alternative among `nAlt ≥ 2` root alternatives: a constrained whole number -/
theorem choice_index_ref (pos p nAlt : Nat) (ext : Bool) (ub : Int)
    (hub : ub + 1 = (nAlt : Int)) (h2 : 2 ≤ nAlt) (hp1 : 1 ≤ p) (hp : p ≤ nAlt) :
    Ref (nAlt ≤ 65536) (appendChoiceIndex pos p ext (some ub)) (constrainedWholeNumber pos (p - 1) nAlt) := by
  unfold appendChoiceIndex
  dsimp only
  rw [if_neg (by omega), if_neg (by omega), show nAlt = (ub + 1).toNat by omega]
  exact (constrained_ref pos (ub + 1) (p - 1) (by omega) (by omega)).mono fun _ => by omega

/-! ### 11.9.3.8 fragmentation -/

theorem testBit_c000 (i : Nat) : Nat.testBit 0xc000 i = (decide (i = 14) || decide (i = 15)) := by
  by_cases h : i < 16
  · exact (by decide : ∀ j : Fin 16, Nat.testBit 0xc000 j.val = (decide (j.val = 14) || decide (j.val = 15))) ⟨i, h⟩
  · have : Nat.testBit 0xc000 i = false := by
      apply Nat.testBit_lt_two_pow
      have : 2 ^ 16 ≤ 2 ^ i := Nat.pow_le_pow_right (by decide) (by omega)
      omega
    rw [this]
    have h14 : ¬ i = 14 := by omega
    have h15 : ¬ i = 15 := by omega
    simp [h14, h15]

/-- the mask of the fragmentation loop: the largest multiple of 16K below 64K -/
theorem and_c000 (n : Nat) (h : n < 65536) : n &&& 0xc000 = n / 16384 * 16384 := by
  apply Nat.eq_of_testBit_eq
  intro i
  rw [Nat.testBit_and, testBit_c000]
  have e : n / 16384 * 16384 = (n >>> 14) <<< 14 := by
    rw [Nat.shiftRight_eq_div_pow, Nat.shiftLeft_eq]
  rw [e, Nat.testBit_shiftLeft, Nat.testBit_shiftRight]
  by_cases h14 : i = 14
  · subst h14; simp
  · by_cases h15 : i = 15
    · subst h15; simp
    · simp only [h14, h15, decide_false, Bool.or_false, Bool.and_false]
      by_cases hge : i ≥ 14
      · have : n.testBit i = false := by
          apply Nat.testBit_lt_two_pow
          have : 2 ^ 16 ≤ 2 ^ i := Nat.pow_le_pow_right (by decide) (by omega)
          omega
        have e2 : 14 + (i - 14) = i := by omega
        simp [hge, e2, this]
      · simp [hge]

theorem fragOctet : ∀ m : Fin 5, 1 ≤ m.val →
    natToBits 8 (m.val ||| 0xc0) = [true, true] ++ natToBits 6 m.val ∧ (m.val ||| 0xc0) < 2 ^ 8 := by decide

theorem alignBits_aligned (p : Nat) (h : p % 8 = 0) : alignBits p = [] := by
  simp [alignBits, padLen, h]

theorem aligned_after (p : Nat) : (p + (alignBits p).length) % 8 = 0 := by
  rw [alignBits_length]; omega

/-- the part the loop takes from a length of 16K or more: m·16K with m = min(4, n / 16K) -/
theorem frag_part (n : Nat) (h : 16384 ≤ n) :
    (if n ≥ 65536 then 65536 else if n ≥ 16384 then n &&& 0xc000 else n) = min 4 (n / 16384) * 16384 := by
  by_cases h64 : n ≥ 65536
  · simp only [h64, if_true]
    have : min 4 (n / 16384) = 4 := by omega
    rw [this]
  · simp only [h64, h, if_true, if_false]
    rw [and_c000 n (by omega)]
    have : min 4 (n / 16384) = n / 16384 := by omega
    rw [this]

/-- **11.9.3.5–8**: with a general (unconstrained) length the repaired fragmentation loop writes exactly the
    fragments, lengths and final length the Recommendation prescribes, for every length -/
theorem fragLoop_unc (unit : Nat) (hunit : (16384 * unit) % 8 = 0) :
    ∀ (f pos n : Nat) (payload : Bits), payload.length = n * unit → n / 16384 + 1 ≤ f →
      fragLoop unit (-1) 0 (f + 1) pos n payload = .ok (lengthAndItems unit f pos n payload) := by
  intro f
  induction f with
  | zero => intro pos n payload _ h; omega
  | succ f ih =>
    intro pos n payload hpl hf
    by_cases hn : n < 16384
    · -- a single length and the items
      rw [fragLoop_small unit (-1) 0 (f + 1) pos n payload hn, length_unc pos (-1) n hn (by omega)]
      unfold lengthAndItems
      simp only [hn, if_true, Nat.add_zero]
      by_cases h0 : n = 0
      · simp [h0]
      · simp only [h0, if_false]
        have htake : payload.take (n * unit) = payload := by
          rw [List.take_of_length_le]; omega
        rw [htake, pad_eq]
        by_cases h128 : n < 128 <;> simp [h128, pad_eq]
    · -- a fragment of m·16K items, then the rest
      have hge : 16384 ≤ n := by omega
      unfold fragLoop lengthAndItems
      simp only [hn, if_false]
      rw [frag_part n hge]
      have hm1 : 1 ≤ min 4 (n / 16384) := by omega
      have hm4 : min 4 (n / 16384) ≤ 4 := by omega
      generalize hm : min 4 (n / 16384) = m at hm1 hm4
      have hmn : m * 16384 ≤ n := by omega
      -- the length octet 11mmmmmm
      have hal : appendLength pos (-1) (m * 16384) = .ok (pad pos ++ [true, true] ++ natToBits 6 m) := by
        unfold appendLength
        have c1 : ¬ ((-1 : Int) ≤ 65536 ∧ (-1 : Int) > 0) := by decide
        have c2 : ¬ m * 16384 ≤ 127 := by omega
        have c3 : ¬ m * 16384 ≤ 16383 := by omega
        simp only [c1, c2, c3, if_false]
        have hsh : (m * 16384) >>> 14 = m := by
          rw [Nat.shiftRight_eq_div_pow]; omega
        rw [hsh]
        obtain ⟨f1, f2⟩ := fragOctet ⟨m, by omega⟩ hm1
        simp only at f1 f2
        rw [putBits_some _ 8 (by decide) f2, f1]
        show Except.ok (alignBits pos ++ ([true, true] ++ natToBits 6 m)) = _
        rw [pad_eq, List.append_assoc]
      rw [hal]
      dsimp only
      -- the fragment is whole octets
      have hclen : (payload.take (m * 16384 * unit)).length = m * 16384 * unit := by
        rw [List.length_take, hpl]
        have : m * 16384 * unit ≤ n * unit := Nat.mul_le_mul_right _ hmn
        omega
      have hc8 : (m * 16384 * unit) % 8 = 0 := by
        have : m * 16384 * unit = m * (16384 * unit) := by rw [Nat.mul_assoc]
        rw [this, Nat.mul_mod, hunit]; simp
      have hdl : (payload.drop (m * 16384 * unit)).length = (n - m * 16384) * unit := by
        rw [List.length_drop, hpl, Nat.sub_mul]
      have hf' : (n - m * 16384) / 16384 + 1 ≤ f := by omega
      split
      · omega
      · split
        · rename_i hcont
          simp only [Nat.add_zero]
          have hround : ((payload.take (m * 16384 * unit)).length + 7) / 8 * 8 = (payload.take (m * 16384 * unit)).length := by
            rw [hclen]; omega
          rw [hround, ← pad_eq (pos + (pad pos ++ [true, true] ++ natToBits 6 m).length)]
          rw [ih _ (n - m * 16384) (payload.drop (m * 16384 * unit)) hdl hf']
          dsimp only
          have hal0 : alignBits (pos + (pad pos ++ [true, true] ++ natToBits 6 m).length +
              (pad (pos + (pad pos ++ [true, true] ++ natToBits 6 m).length)).length +
              (payload.take (m * 16384 * unit)).length) = [] := by
            apply alignBits_aligned
            rw [hclen]
            simp only [pad_eq]
            have := aligned_after (pos + (alignBits pos ++ [true, true] ++ natToBits 6 m).length)
            omega
          rw [hal0]
          simp only [List.append_nil, List.append_assoc]
        · rename_i hcont
          exfalso
          apply hcont
          right
          omega

/-! ### 16 BIT STRING, 17 OCTET STRING -/

/-- size bounds the proof can handle: 0 ≤ lb ≤ ub, not SIZE(0) (the library's `putBitString(bytes, 0)` indexes `bytes[0]` of an
    empty slice when the writer is not octet aligned: a trap where X.691 encodes nothing — found by the synthetic-schema
    correspondence run, harness/cmd/corr/apersyn.go); SIZE(lb..MAX) only with lb = 0 (the library writes length − lb there);
    a constrained length (ub < 64K) spans fewer than 16K values (the library's loop would fragment a constrained
    length of 16K or more, X.691 does not) -/
def strOK' (lbP ubP : Option Int) : Bool :=
  match lbP, ubP with
  | none, _ => true
  | some l, none => l == 0
  | some l, some u => decide (0 < u) && decide (0 ≤ l) && decide (l ≤ u) && (decide (65535 < u) || decide (u - l < 16384))

/-- the length is a constrained whole number (11.9.3.3) rather than a general length -/
def isCon (ub : Option Nat) : Bool := match ub with | some u => decide (u < 65536) | none => false

/-- a constrained length (11.9.3.3) spanning fewer than 16K values, then the items: the loop runs once -/
theorem fragLoop_con (unit : Nat) (sr : Int) (lb fuel pos n : Nat) (payload : Bits) (h2 : 2 ≤ sr) (h64 : sr ≤ 65536)
    (hn : (n : Int) < sr) (hsmall : n < 16384) :
    ∃ c, constrainedWholeNumber pos n sr.toNat = some c ∧
      fragLoop unit sr lb (fuel + 1) pos n payload =
        .ok (if n + lb = 0 then c else c ++ alignBits (pos + c.length) ++ payload.take ((n + lb) * unit)) := by
  obtain ⟨c, hc, hs⟩ := constrained_eq pos sr n h2 h64 hn
  refine ⟨c, hs, ?_⟩
  rw [fragLoop_small _ _ _ _ _ _ _ hsmall]
  unfold appendLength
  rw [if_pos ⟨h64, by omega⟩, hc]
  dsimp only
  split <;> rfl

/-- `appendBitString` (`unit` 1: lengths count bits) and `appendOctetString` (`unit` 8) are one function of the length
    `len` in units, the length `octs` in octets and the content bits (the text of the model) -/
def strEnc (unit pos len octs : Nat) (content : Bits) (ext : Bool) (lbP ubP : Option Int) : Res Bits :=
  match sizePreamble len ext lbP ubP with
  | .error e => .error e
  | .ok (pre, lb, ub, sizeRange) =>
    let pos1 := pos + pre.length
    if sizeRange = 1 then
      if (len : Int) ≠ ub then err
      else if octs > 2 then .ok (pre ++ alignBits pos1 ++ content)
      else if len = 0 ∧ pos1 % 8 ≠ 0 then panic
      else .ok (pre ++ content)
    else if (len : Int) < lb then (if sizeRange = -1 then panic else err)
    else
      match fragLoop unit sizeRange lb.toNat (len / 16384 + 2) pos1 (len - lb.toNat) content with
      | .error e => .error e
      | .ok b => .ok (pre ++ b)

theorem appendOctetString_eq (pos : Nat) (bytes : Bytes) (ext : Bool) (lbP ubP : Option Int) :
    appendOctetString pos bytes ext lbP ubP =
      strEnc 8 pos bytes.length bytes.length (bytesToBits bytes) ext lbP ubP := rfl

theorem appendBitString_eq (pos : Nat) (bytes : Bytes) (len : Nat) (ext : Bool) (lbP ubP : Option Int) :
    appendBitString pos bytes len ext lbP ubP =
      if bytes.length < (len + 7) / 8 then Aper.panic
      else strEnc 1 pos len ((len + 7) / 8) ((bytesToBits bytes).take len) ext lbP ubP := rfl

/-- 16 BIT STRING and 17 OCTET STRING likewise: the clauses differ in where a fixed size stops being written
    unaligned (16.9: 16 bits, 17.6: 2 octets) -/
def strSpec (unit pos len octs : Nat) (content : Bits) (ext : Bool) (lbP ubP : Option Int) : Option Bits :=
  match sizeConstraint len ext lbP ubP with
  | none => none
  | some (pre, lb, ub) =>
    let pos1 := pos + pre.length
    if ub = some lb ∧ lb < 65536 then
      if octs ≤ 2 then some (pre ++ content) else some (pre ++ pad pos1 ++ content)
    else if isCon ub then
      match lengthDeterminant pos1 len lb ub with
      | none => none
      | some l => if len = 0 then some (pre ++ l) else some (pre ++ l ++ pad (pos1 + l.length) ++ content)
    else some (pre ++ lengthAndItems unit (len / 16384 + 1) pos1 len content)

/-- a fixed size is the size -/
theorem sizeConstraint_fixed (len : Nat) (ext : Bool) (lbP ubP : Option Int) (pre : Bits) (lb : Nat)
    (h : sizeConstraint len ext lbP ubP = some (pre, lb, some lb)) : len = lb := by
  unfold sizeConstraint at h
  split at h
  · split at h
    · cases h
    · split at h
      · simp only [Option.some.injEq, Prod.mk.injEq] at h; omega
      · split at h
        · simp at h
        · cases h
  · split at h
    · cases h
    · simp at h
  · simp at h

theorem octetString_eq (pos : Nat) (octets : Bytes) (ext : Bool) (lbP ubP : Option Int) :
    octetString pos octets ext lbP ubP =
      strSpec 8 pos octets.length octets.length (bytesToBits octets) ext lbP ubP := by
  unfold octetString strSpec
  cases hsc : sizeConstraint octets.length ext lbP ubP with
  | none => rfl
  | some t =>
    obtain ⟨pre, lb, ub⟩ := t
    dsimp only
    by_cases hfix : ub = some lb ∧ lb < 65536
    · rw [if_pos hfix, if_pos hfix]
      rw [hfix.1] at hsc
      have := sizeConstraint_fixed _ _ _ _ _ _ hsc
      subst this
      cases octets with
      | nil => simp [bytesToBits]
      | cons x xs => simp
    · rw [if_neg hfix, if_neg hfix]
      simp only [isCon, List.isEmpty_iff_length_eq_zero]
      rfl

theorem bitString_eq (pos : Nat) (content : Bits) (ext : Bool) (lbP ubP : Option Int) :
    bitString pos content ext lbP ubP =
      strSpec 1 pos content.length ((content.length + 7) / 8) content ext lbP ubP := by
  unfold bitString strSpec
  cases hsc : sizeConstraint content.length ext lbP ubP with
  | none => rfl
  | some t =>
    obtain ⟨pre, lb, ub⟩ := t
    dsimp only
    by_cases hfix : ub = some lb ∧ lb < 65536
    · rw [if_pos hfix, if_pos hfix]
      rw [hfix.1] at hsc
      have := sizeConstraint_fixed _ _ _ _ _ _ hsc
      by_cases h16 : lb ≤ 16
      · rw [if_pos h16, if_pos (by omega)]
      · rw [if_neg h16, if_neg (by omega)]
    · rw [if_neg hfix, if_neg hfix]
      simp only [isCon, List.isEmpty_iff_length_eq_zero]
      rfl

theorem strEnc_iff (unit : Nat) (hunit : (16384 * unit) % 8 = 0) (pos len octs : Nat) (content : Bits) (ext : Bool)
    (lbP ubP : Option Int) (b : Bits) (hok : strOK' lbP ubP = true) (hlen : content.length = len * unit) :
    strEnc unit pos len octs content ext lbP ubP = .ok b ↔ strSpec unit pos len octs content ext lbP ubP = some b := by
  have hgen : ∀ p, fragLoop unit (-1) 0 (len / 16384 + 2) p len content =
      .ok (lengthAndItems unit (len / 16384 + 1) p len content) :=
    fun p => fragLoop_unc unit hunit _ p len content hlen (Nat.le_refl _)
  have h0 : ¬ (len : Int) < 0 := by omega
  unfold strEnc strSpec sizePreamble sizeConstraint
  cases lbP with
  | none => simp [hgen, isCon, h0]
  | some l =>
    cases ubP with
    | none =>
      have hl : l = 0 := by simpa [strOK'] using hok
      subst hl
      simp [hgen, isCon, h0]
    | some u =>
      simp only [strOK', Bool.and_eq_true, Bool.or_eq_true, decide_eq_true_eq] at hok
      obtain ⟨⟨⟨hu0, hl0⟩, hlu⟩, hspan⟩ := hok
      have hbad : ¬ (l < 0 ∨ u < l) := by omega
      dsimp only
      rw [if_neg hbad]
      by_cases hle : (len : Int) ≤ u
      · rw [if_pos hle]
        by_cases hll : (len : Int) < l
        · have c1 : ¬ ((len : Int) ≥ l ∧ (len : Int) ≤ u) := by omega
          have c2 : ¬ (ext = true ∧ (len : Int) > u) := by omega
          rw [if_neg c1, if_neg c2]
          by_cases hbig : u > 65535
          · simp [hbig, hll, err]
          · have hne : (len : Int) ≠ u := by omega
            simp only [hbig, false_and, if_false, hne, hll, if_true, ne_eq, not_false_eq_true]
            split <;> [skip; split] <;> simp [err, Aper.panic]
        · have c1 : (len : Int) ≥ l ∧ (len : Int) ≤ u := by omega
          rw [if_pos c1]
          dsimp only
          by_cases hbig : u > 65535
          · -- an upper bound of 64K or more: general length
            have hnf : ¬ (some u.toNat = some l.toNat ∧ l.toNat < 65536) := by
              rw [Option.some.injEq]; omega
            have hcon : isCon (some u.toNat) = false := by simp only [isCon, decide_eq_false_iff_not]; omega
            rw [if_neg hnf, hcon]
            simp [hbig, hll, h0, hgen]
          · by_cases hfix : u = l
            · -- fixed size: no length
              subst hfix
              have hnf : some u.toNat = some u.toNat ∧ u.toNat < 65536 := ⟨rfl, by omega⟩
              have hlen0 : ¬ len = 0 := by omega
              have hlu' : (len : Int) = u := by omega
              rw [if_pos hnf]
              by_cases ho : octs ≤ 2
              · have : ¬ octs > 2 := by omega
                simp [hbig, hlu', this, ho, hlen0]
              · have : octs > 2 := by omega
                simp [hbig, hlu', this, ho, pad_eq]
            · -- constrained length
              have hnf : ¬ (some u.toNat = some l.toNat ∧ l.toNat < 65536) := by
                rw [Option.some.injEq]; omega
              have hcon : isCon (some u.toNat) = true := by simp only [isCon, decide_eq_true_eq]; omega
              rw [if_neg hnf, hcon, if_pos rfl]
              obtain ⟨c, hc, hf⟩ := fragLoop_con unit (u - l + 1) l.toNat (len / 16384 + 1) (pos + (if ext = true then [false] else [] : Bits).length)
                (len - l.toNat) content (by omega) (by omega) (by omega) (by omega)
              rw [lengthDeterminant_con _ _ _ _ (by omega) (by omega) (by omega)]
              have e : (u - l + 1).toNat = u.toNat - l.toNat + 1 := by omega
              rw [e] at hc
              rw [hc]
              have hsr : ¬ u - l + 1 = 1 := by omega
              have e2 : len - l.toNat + l.toNat = len := by omega
              have ht : content.take (len * unit) = content := List.take_of_length_le (by omega)
              rw [e2, ht] at hf
              simp only [hbig, false_and, if_false, hsr, hll, hf, pad_eq]
              by_cases hz : len = 0 <;> simp [hz]
      · rw [if_neg hle]
        have c1 : ¬ ((len : Int) ≥ l ∧ (len : Int) ≤ u) := by omega
        rw [if_neg c1]
        cases ext with
        | false => simp [err]
        | true =>
          have c2 : (len : Int) > u := by omega
          simp [c2, hgen, isCon, h0]

/-- **17 OCTET STRING** (also the form the library gives PrintableString), every length: same domain, same bits; a
    general length of 16K octets or more is fragmented (11.9.3.8) -/
theorem octet_string_iff (pos : Nat) (bytes : Bytes) (ext : Bool) (lbP ubP : Option Int) (b : Bits)
    (hok : strOK' lbP ubP = true) :
    appendOctetString pos bytes ext lbP ubP = .ok b ↔ octetString pos bytes ext lbP ubP = some b := by
  rw [appendOctetString_eq, octetString_eq]
  exact strEnc_iff 8 (by decide) _ _ _ _ _ _ _ b hok (by rw [bytesToBits_length]; omega)

/-- **16 BIT STRING**, every length; the content is the first `len` bits of the value's octets, of which there are
    exactly as many as needed -/
theorem bit_string_iff (pos : Nat) (bytes : Bytes) (len : Nat) (ext : Bool) (lbP ubP : Option Int) (b : Bits)
    (hok : strOK' lbP ubP = true) (hbytes : bytes.length = (len + 7) / 8) :
    appendBitString pos bytes len ext lbP ubP = .ok b ↔
      bitString pos ((bytesToBits bytes).take len) ext lbP ubP = some b := by
  have hclen : ((bytesToBits bytes).take len).length = len := by
    rw [List.length_take, bytesToBits_length]; omega
  rw [appendBitString_eq, if_neg (by omega), bitString_eq, hclen]
  exact strEnc_iff 1 (by decide) _ _ _ _ _ _ _ b hok (by omega)

end Stgutg.Proofs.AperSpec
