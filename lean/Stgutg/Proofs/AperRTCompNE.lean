/-
  C04, composite round trip — "never empty": soundness of `neF` / `exIds` (every successful encoding of a
  component that passes the static test has at least one bit). By the kind of the encoder's step (`AperEnc.encField_step`),
  each case is what `Proofs/AperEnc.lean` says an empty result forces on the parameters, against the clause of the test.
-/
import Stgutg.Proofs.AperRTCompEnc
import Stgutg.Proofs.AperSpecComp

namespace Stgutg.Proofs.AperRTComp
open Stgutg Stgutg.Aper Stgutg.Proofs.Bits Stgutg.Proofs.AperRT

/-- every successful encoding of `(ty, p)` has at least one bit -/
def NEt (env : Env) (ty : Ty) (p : Params) : Prop :=
  ∀ fuel pos v bits, encField env fuel pos ty p v = .ok bits → bits ≠ []

/-- the struct ids below `bound` that are not listed in `ex` never encode to nothing -/
def NEinv (env : Env) (ex : List Nat) (bound : Nat) : Prop :=
  ∀ j, j < bound → ex.contains j = false → ∀ p, NEt env (.struct j) p

theorem neF_refValue (ex : List Nat) (bound : Nat) (x : Option Int) : ∀ (ty : Ty) (p : Params),
    neF ex bound ty { p with refValue := x } = neF ex bound ty p := by
  intro ty
  induction ty with
  | ptr t ih => intro p; simp only [neF]; exact ih p
  | _ => intro p; rfl

theorem neF_fieldParams {ex : List Nat} {bound : Nat} {fd : Field} {fp : Params} (h : AperEnc.FieldParams fd fp) :
    neF ex bound fd.ty fp = neF ex bound fd.ty fd.params := by
  rcases h with rfl | ⟨x, rfl⟩
  · rfl
  · exact neF_refValue ex bound _ fd.ty fd.params

theorem extBit_nil {p : Params} (h : AperEnc.extBit p = []) : p.valueExt = false := by
  cases hve : p.valueExt
  · rfl
  · rw [AperEnc.extBit, hve] at h; cases h

theorem neF_sound (env : Env) (ex : List Nat) (bound : Nat) (hinv : NEinv env ex bound) :
    ∀ (fuel : Nat) (ty : Ty) (p : Params) (pos : Nat) (v : Val) (b : Bits), neF ex bound ty p = true →
      encField env fuel pos ty p v = .ok b → b ≠ [] := by
  intro fuel
  induction fuel with
  | zero => intro ty p pos v b _ h; exact absurd h AperEnc.encField_zero
  | succ fuel ih =>
    intro ty p pos v b hne h hb
    -- `sizedOK` excludes SIZE(0)
    have hstr : sizedOK p = true → p.sizeLB = some 0 → p.sizeUB = some 0 → False := fun hs hl hu => by
      have := (sizedOK_spec p hs).1.2.2.2 0 hu
      simp [hl] at this
    cases AperEnc.encField_step h with
    | ptr h' => exact ih _ _ _ _ _ (by simpa [neF] using hne) h' hb
    | bits h' =>
      subst hb
      rw [AperSpec.appendBitString_eq] at h'
      split at h'
      · cases h'
      · obtain ⟨_, hl, hu⟩ := AperEnc.strEnc_nil (by decide) (by rw [List.length_take, bytesToBits_length]; omega) h'
        exact hstr (by simpa [neF] using hne) hl hu
    | octs h' =>
      subst hb
      obtain ⟨_, hl, hu⟩ := AperEnc.strEnc_nil (by decide) (by rw [bytesToBits_length]; omega)
        ((AperSpec.appendOctetString_eq ..).symm.trans h')
      exact hstr (by simpa [neF] using hne) hl hu
    | str h' =>
      subst hb
      obtain ⟨_, hl, hu⟩ := AperEnc.strEnc_nil (by decide) (by rw [bytesToBits_length]; omega)
        ((AperSpec.appendOctetString_eq ..).symm.trans h')
      exact hstr (by simpa [neF] using hne) hl hu
    | enum h' =>
      subst hb
      obtain ⟨he, l, hl, hu⟩ := AperEnc.appendEnumerated_nil h'
      simp [neF, he, hl, hu] at hne
    | bool => cases hb
    | int h' =>
      subst hb
      obtain ⟨he, l, hl, hu⟩ := AperEnc.appendInteger_nil h'
      simp [neF, he, hl, hu] at hne
    | slice h' =>
      subst hb
      obtain ⟨he, hu, h64⟩ := AperEnc.encSlice_nil h'
      simp [neF, he, hu, h64] at hne
    | seq _ _ _ =>
      simp only [neF, extBit_nil (List.append_eq_nil_iff.mp hb).1, Bool.false_or, Bool.and_eq_true, decide_eq_true_eq,
        Bool.not_eq_true'] at hne
      exact hinv _ hne.1 hne.2 p _ pos _ _ h hb
    | choice _ _ hs => exact AperSpec.encChoice_nonempty _ _ _ _ _ _ hs (List.append_eq_nil_iff.mp hb).2

/-- a struct type that passes `selfNE` never encodes to nothing (with or without an extension bit): a CHOICE writes an
    index or a length, a SEQUENCE its OPTIONAL bitmap or its first component -/
theorem struct_ne (env : Env) (ex : List Nat) (id : Nat) (sd : StructDef) (hsd : env[id]? = some sd)
    (hself : selfNE ex id sd = true) (hinv : NEinv env ex id) : ∀ p, NEt env (.struct id) p := by
  intro p fuel pos v bits h hb
  cases fuel with
  | zero => exact AperEnc.encField_zero h
  | succ fuel =>
    cases AperEnc.encField_step h with
    | choice _ _ hs => exact AperSpec.encChoice_nonempty _ _ _ _ _ _ hs (List.append_eq_nil_iff.mp hb).2
    | seq hsd' hch hs =>
      rw [hsd] at hsd'; cases hsd'
      obtain ⟨_, rfl⟩ := List.append_eq_nil_iff.mp hb
      have hall := AperEnc.encSeq_nil hs
      have hany : sd.fields.any (fun f => f.params.optional) = false := by
        rw [List.any_eq_false]; intro fd hfd; rw [(hall fd hfd).1]; simp
      simp only [selfNE, hch, hany, Bool.false_or] at hself
      cases hf : sd.fields with
      | nil => rw [hf] at hself; cases hself
      | cons f0 rest =>
        rw [hf] at hself
        obtain ⟨_, i, pos', fp, v', hr, hnil⟩ := hall f0 (by rw [hf]; exact List.mem_cons_self)
        exact neF_sound env ex id hinv fuel f0.ty fp pos' v' []
          (by rw [neF_fieldParams (AperTotal.resolveRef_shape _ _ _ _ _ _ hr)]; exact hself) hnil rfl

theorem exIdsFrom_sound (env : Env) : ∀ (rest : List StructDef) (id : Nat) (acc : List Nat),
    (∀ k sd, rest[k]? = some sd → env[id + k]? = some sd) → id + rest.length = env.length →
    NEinv env acc id → NEinv env (exIdsFrom id rest acc) env.length := by
  intro rest
  induction rest with
  | nil =>
    intro id acc _ hlen hinv
    simp only [List.length_nil, Nat.add_zero] at hlen
    rw [← hlen]
    exact hinv
  | cons sd rest ih =>
    intro id acc hget hlen hinv
    have hsd : env[id]? = some sd := by simpa using hget 0 sd (by simp)
    have hget' : ∀ k sd', rest[k]? = some sd' → env[id + 1 + k]? = some sd' := by
      intro k sd' hk
      have := hget (k + 1) sd' (by simpa using hk)
      rw [show id + 1 + k = id + (k + 1) by omega]; exact this
    have hlen' : id + 1 + rest.length = env.length := by simp only [List.length_cons] at hlen; omega
    unfold exIdsFrom
    by_cases hself : selfNE acc id sd = true
    · simp only [hself, if_true]
      refine ih (id + 1) acc hget' hlen' ?_
      intro j hj hex
      by_cases hji : j = id
      · subst hji; exact struct_ne env acc j sd hsd hself hinv
      · exact hinv j (by omega) hex
    · simp only [hself]
      refine ih (id + 1) (id :: acc) hget' hlen' ?_
      intro j hj hex
      simp only [List.contains_cons, Bool.or_eq_false_iff, beq_eq_false_iff_ne, ne_eq] at hex
      exact hinv j (by omega) hex.2

theorem exIds_sound (env : Env) : NEinv env (exIds env) env.length := by
  unfold exIds
  refine exIdsFrom_sound env env 0 [] ?_ (by simp) ?_
  · intro k sd h; simpa using h
  · intro j hj; omega

/-- a component that passes `neTy` never encodes to zero bits -/
theorem neTy_sound (env : Env) (ty : Ty) (p : Params) (h : neTy env ty p = true) : NEt env ty p :=
  fun fuel pos v bits => neF_sound env (exIds env) env.length (exIds_sound env) fuel ty p pos v bits h

theorem neTy_refValue (env : Env) (ty : Ty) (p : Params) (x : Option Int) :
    neTy env ty { p with refValue := x } = neTy env ty p := neF_refValue _ _ x ty p

end Stgutg.Proofs.AperRTComp
