/-
  C13 helper, part 7: refusal on skeletons. `reaches env leaf … tm`: the encoder's path through the evaluated skeleton reaches
  a position at which `leaf` holds; sound (`reaches_sound`) for every `leaf` that makes the value at its position `badV`.
  `tmReach env h lb ub`: the leaf is the hole `h` at an INTEGER constrained to `lb..ub` without extension marker;
  `tmReachList env i lb ub`: a list built by ranging over argument `i` whose item template reaches the loop variable so.
  When the hole (an element of the list) is an integer outside `lb..ub` the evaluated skeleton is `badV`, so `ngap.Encoder`
  (model) refuses it.
-/
import Stgutg.Proofs.Builders
import Stgutg.Proofs.BuildersRefuse

namespace Stgutg.Proofs.BuildersRefuse
open Stgutg Stgutg.Aper Stgutg.Builders Stgutg.Model.Convert Stgutg.Proofs.Builders

def reachFields (r : Ty → Params → Tm → Bool) : List Field → List Tm → Bool
  | fd :: frest, t :: trest => r fd.ty fd.params t || reachFields r frest trest
  | _, _ => false

/-- the encoder's path through the evaluated skeleton (pointers, list elements, the present alternative of a CHOICE, the
    components of a SEQUENCE) reaches a hole or a list built by ranging over an argument at which `leaf` holds; `leaf` is
    asked with the remaining depth and fuel, the type and the constraints of the position -/
def reaches (env : Env) (leaf : Nat → Nat → Ty → Params → Tm → Bool) : Nat → Nat → Ty → Params → Tm → Bool
  | 0, _, _, _, _ => false
  | _ + 1, 0, _, _, _ => false
  | g + 1, f + 1, ty, p, tm =>
    match tm with
    | .ptr t =>
      (match ty with
       | .ptr ty' => reaches env leaf g f ty' p t
       | _ => false)
    | .slice l =>
      (match ty with
       | .slice t => l.any (fun x => reaches env leaf g f t (stripSizeE p) x)
       | _ => false)
    | .struct fs =>
      (match ty with
       | .struct id =>
         (match env[id]? with
          | none => false
          | some sd =>
            if isChoice sd then
              (match fs with
               | .int pv :: _ =>
                 (match sd.fields[pv.toNat]?, fs[pv.toNat]? with
                  | some fd, some alt => reaches env leaf g f fd.ty fd.params alt
                  | _, _ => false)
               | _ => false)
            else reachFields (reaches env leaf g f) sd.fields fs)
       | _ => false)
    | .hole h => leaf g f ty p (.hole h)
    | .mapInts i item => leaf g f ty p (.mapInts i item)
    | _ => false

/-- the hole `h` at an INTEGER position constrained to `lb..ub` without extension marker -/
def holeAt (h : Hole) (lb ub : Int) (_ _ : Nat) (ty : Ty) (p : Params) : Tm → Bool
  | .hole h' => h' == h && ty == .int && p.valueLB == some lb && p.valueUB == some ub && !p.valueExt
  | _ => false

def tmReach (env : Env) (h : Hole) (lb ub : Int) : Nat → Nat → Ty → Params → Tm → Bool :=
  reaches env (holeAt h lb ub)

/-- a list built by ranging over argument `i` (`mapInts`) whose per-item template reaches the loop variable at an INTEGER
    constrained to `lb..ub` without extension marker -/
def listAt (env : Env) (i : Nat) (lb ub : Int) (g f : Nat) (ty : Ty) (p : Params) : Tm → Bool
  | .mapInts i' item =>
    (match ty with
     | .slice t => i' == i && tmReach env .elem lb ub g f t (stripSizeE p) item
     | _ => false)
  | _ => false

def tmReachList (env : Env) (i : Nat) (lb ub : Int) : Nat → Nat → Ty → Params → Tm → Bool :=
  reaches env (listAt env i lb ub)

theorem badV_nil (env : Env) (fuel : Nat) (ty : Ty) (p : Params) : badV env fuel ty p .nil = false := by
  cases fuel with
  | zero => rfl
  | succ f => cases ty <;> rfl

variable (E : Ext) (e : BEnv)

theorem reachFields_sound (cur : Val) (r : Ty → Params → Tm → Bool) (bad : Ty → Params → Val → Bool)
    (hnil : ∀ ty p, bad ty p .nil = false)
    (H : ∀ ty p t, r ty p t = true → bad ty p (eval E e cur t) = true) :
    ∀ (fields : List Field) (ts : List Tm), reachFields r fields ts = true →
      badFields bad fields (ts.map (eval E e cur)) = true := by
  intro fields
  induction fields with
  | nil => intro ts h; simp [reachFields] at h
  | cons fd frest ih =>
    intro ts h
    cases ts with
    | nil => simp [reachFields] at h
    | cons t trest =>
      simp only [reachFields, Bool.or_eq_true] at h
      simp only [List.map_cons, badFields, Bool.or_eq_true, Bool.and_eq_true, Bool.not_eq_true']
      rcases h with h | h
      · left
        have hb := H _ _ _ h
        refine ⟨?_, hb⟩
        cases hn : isNil (eval E e cur t) with
        | false => simp
        | true => rw [(AperSpec.isNil_iff _).mp hn, hnil] at hb; cases hb
      · exact .inr (ih trest h)

theorem reaches_sound (env : Env) (leaf : Nat → Nat → Ty → Params → Tm → Bool) (cur : Val)
    (hleaf : ∀ g f ty p tm, leaf g f ty p tm = true → badV env (f + 1) ty p (eval E e cur tm) = true) :
    ∀ (g f : Nat) (ty : Ty) (p : Params) (tm : Tm),
      reaches env leaf g f ty p tm = true → badV env f ty p (eval E e cur tm) = true := by
  intro g
  induction g with
  | zero => intro f ty p tm hr; simp only [reaches, Bool.false_eq_true] at hr
  | succ g ih =>
    intro f ty p tm hr
    cases f with
    | zero => simp only [reaches, Bool.false_eq_true] at hr
    | succ f =>
      cases tm <;> try (simp only [reaches, Bool.false_eq_true] at hr; done)
      · -- ptr
        rename_i t
        cases ty <;> try (simp only [reaches, Bool.false_eq_true] at hr; done)
        simp only [reaches] at hr
        simp only [eval, badV]
        exact ih f _ p t hr
      · -- struct
        rename_i fs
        cases ty <;> try (simp only [reaches, Bool.false_eq_true] at hr; done)
        rename_i id
        simp only [reaches] at hr
        simp only [eval, evalL_eq, badV]
        cases hsd : env[id]? with
        | none => simp only [hsd, Bool.false_eq_true] at hr
        | some sd =>
          simp only [hsd] at hr ⊢
          by_cases hch : isChoice sd = true
          · simp only [hch, if_true] at hr ⊢
            cases fs with
            | nil => simp only [Bool.false_eq_true] at hr
            | cons f0 rest =>
              cases f0 <;> try (simp only [Bool.false_eq_true] at hr; done)
              rename_i pv
              simp only at hr
              cases hfd : sd.fields[pv.toNat]? with
              | none => simp only [hfd, Bool.false_eq_true] at hr
              | some fd =>
                cases halt : (Tm.int pv :: rest)[pv.toNat]? with
                | none => simp only [hfd, halt, Bool.false_eq_true] at hr
                | some alt =>
                  simp only [hfd, halt] at hr
                  have hev' : eval E e cur (.int pv) = .int pv := by simp [eval]
                  simp only [List.map_cons, hev', hfd, getElem?_eval_choice E e cur pv rest _ alt halt]
                  exact ih f fd.ty fd.params alt hr
          · simp only [hch, if_false, Bool.false_eq_true] at hr ⊢
            exact reachFields_sound E e cur _ _ (fun ty q => badV_nil env f ty q) (fun ty q t ht => ih f ty q t ht) _ _ hr
      · -- slice
        rename_i l
        cases ty <;> try (simp only [reaches, Bool.false_eq_true] at hr; done)
        rename_i t
        simp only [reaches, List.any_eq_true] at hr
        obtain ⟨x, hx, hrx⟩ := hr
        simp only [eval, evalL_eq, badV, List.any_eq_true, List.mem_map]
        exact ⟨eval E e cur x, ⟨x, hx, rfl⟩, ih f t _ x hrx⟩
      · -- hole
        simp only [reaches] at hr
        exact hleaf g f ty p _ hr
      · -- mapInts
        simp only [reaches] at hr
        exact hleaf g f ty p _ hr

/-- **the out-of-range identifier makes the PDU un-encodable** -/
theorem tmReach_sound (env : Env) (h : Hole) (lb ub n : Int) (hout : n < lb ∨ ub < n) :
    ∀ (g f : Nat) (ty : Ty) (p : Params) (tm : Tm) (cur : Val), evalHole E e cur h = .int n →
      tmReach env h lb ub g f ty p tm = true → badV env f ty p (eval E e cur tm) = true := by
  intro g f ty p tm cur hev
  refine reaches_sound E e env _ cur (fun g f ty p tm hl => ?_) g f ty p tm
  cases tm <;> try (simp [holeAt] at hl; done)
  simp only [holeAt, Bool.and_eq_true, beq_iff_eq, Bool.not_eq_true'] at hl
  obtain ⟨⟨⟨⟨rfl, hty⟩, hl⟩, hu⟩, hext⟩ := hl
  subst hty
  simp only [eval, hev, badV, hl, hu, hext, Bool.not_false, Bool.and_true, Bool.or_eq_true, decide_eq_true_eq]
  exact hout

/-- **an out-of-range element of the list makes the PDU un-encodable** -/
theorem tmReachList_sound (env : Env) (i : Nat) (lb ub n : Int) (hout : n < lb ∨ ub < n) (xs : List Val)
    (hx : e.arg i = .slice xs) (hmem : Val.int n ∈ xs) :
    ∀ (g f : Nat) (ty : Ty) (p : Params) (tm : Tm) (cur : Val),
      tmReachList env i lb ub g f ty p tm = true → badV env f ty p (eval E e cur tm) = true := by
  intro g f ty p tm cur
  refine reaches_sound E e env _ cur (fun g f ty p tm hl => ?_) g f ty p tm
  cases tm <;> try (simp [listAt] at hl; done)
  rename_i i' item
  cases ty <;> try (simp [listAt] at hl; done)
  rename_i t
  simp only [listAt, Bool.and_eq_true, beq_iff_eq] at hl
  obtain ⟨rfl, hritem⟩ := hl
  simp only [eval, hx, badV, List.any_eq_true, List.mem_map]
  exact ⟨eval E e (.int n) item, ⟨.int n, hmem, rfl⟩,
    tmReach_sound E e env .elem lb ub n hout g f t _ item (.int n) (by simp [evalHole]) hritem⟩

/-- `ngap.Encoder` (model) returns no octets for a `badV` PDU -/
theorem badV_pdu_refused (pdu : Val)
    (h : badV Gen.Ngap.schema Builders.fuel (.struct Gen.Ngap.pduId) Gen.Ngap.encoderParams pdu = true) :
    ∀ bs, encodePdu pdu ≠ .ok bs := by
  intro bs hbs
  unfold encodePdu marshal at hbs
  cases henc : encField Gen.Ngap.schema Builders.fuel 0 (.struct Gen.Ngap.pduId) Gen.Ngap.encoderParams pdu with
  | error x => rw [henc] at hbs; cases hbs
  | ok bits => exact badV_refused Gen.Ngap.schema _ _ _ _ h 0 bits henc

end Stgutg.Proofs.BuildersRefuse
