/-
  C14 (cost): soundness of the cost table — every entry bounds the cost of decoding its struct type, for every fuel,
  every parameter string and every reader state; hence the bound for `UnmarshalWithParams` on every byte string.
-/
import Stgutg.Proofs.AperCostLeaf
import Stgutg.Proofs.AperCostSlice
import Stgutg.Proofs.AperCostStruct

namespace Stgutg.Proofs.AperCost
open Stgutg Stgutg.Aper

/-! ### the table -/

theorem lookupE_cons_self (j : Nat) (e : CEntry) (rest : List (Nat × CEntry)) : lookupE j ((j, e) :: rest) = some e := by
  simp [lookupE]

theorem lookupE_cons_ne {k j : Nat} (h : k ≠ j) (e : CEntry) (rest : List (Nat × CEntry)) :
    lookupE j ((k, e) :: rest) = lookupE j rest := by
  simp [lookupE, h]

/-- what an entry of the table says about its struct type -/
def SInv (env : Env) (ws wa : Nat) (j : Nat) (e : CEntry) : Prop :=
  ∀ (fuel : Nat) (p : Params),
    Bnd ws wa (ws + e.q) (if p.openType then e.p + wa else e.p) e.s (decFieldC env fuel (.struct j) p) ∧
    ((p.valueExt || (!p.openType && e.d)) = true → Strict (decFieldC env fuel (.struct j) p))

def TabInv (env : Env) (ws wa : Nat) (tab : List (Nat × CEntry)) : Prop :=
  ∀ j e, lookupE j tab = some e → SInv env ws wa j e

theorem tyCost_refValue (ws wa : Nat) (tab : List (Nat × CEntry)) (x : Option Int) : ∀ (ty : Ty) (p : Params),
    tyCost ws wa tab ty { p with refValue := x } = tyCost ws wa tab ty p := by
  intro ty
  induction ty with
  | ptr t ih => intro p; simp only [tyCost]; rw [ih p]
  | slice t ih =>
    intro p
    simp only [tyCost]
    have : stripSizeE { p with refValue := x } = { stripSizeE p with refValue := x } := rfl
    rw [this, ih (stripSizeE p)]
    rfl
  | _ => intro p; rfl

theorem tyCost_leaf (ws wa : Nat) (tab : List (Nat × CEntry)) (ty : Ty) (p : Params) (e : CEntry)
    (hl : AperTotal.isLeaf ty = true) (he : tyCost ws wa tab ty p = some e) : e.q = ws ∧ e.p = wa := by
  cases ty <;> simp only [tyCost, Option.some.injEq] at he <;> first | (subst he; exact ⟨rfl, rfl⟩) | cases hl

/-- without fuel `parseField` fails at no cost -/
theorem sound_zero (env : Env) (ws wa q p s : Nat) (ty : Ty) (pr : Params) (d : Prop) :
    Bnd ws wa q p s (decFieldC env 0 ty pr) ∧ (d → Strict (decFieldC env 0 ty pr)) :=
  ⟨Bnd_fail _, fun _ => Strict_fail _⟩

/-- soundness of `tyCost` relative to a sound table -/
theorem tyCost_sound (env : Env) (ws wa : Nat) (tab : List (Nat × CEntry)) (hinv : TabInv env ws wa tab) :
    ∀ (ty : Ty) (p : Params) (e : CEntry), tyCost ws wa tab ty p = some e → ∀ fuel,
      Bnd ws wa e.q e.p e.s (decFieldC env fuel ty p) ∧ (e.d = true → Strict (decFieldC env fuel ty p)) := by
  have leaf : ∀ (ty : Ty) (p : Params) (e : CEntry), AperTotal.isLeaf ty = true →
      tyCost ws wa tab ty p = some e → ∀ fuel,
      Bnd ws wa e.q e.p e.s (decFieldC env fuel ty p) ∧ (e.d = true → Strict (decFieldC env fuel ty p)) := by
    intro ty p e hl he fuel
    cases fuel with
    | zero => exact sound_zero ..
    | succ fuel =>
      rw [decFieldC_leaf env fuel ty p hl]
      refine ⟨?_, fun hd => Strict_entry (leaf_strict ws wa tab ty p e hl he hd)⟩
      obtain ⟨hq, hp⟩ := tyCost_leaf ws wa tab ty p e hl he
      rw [hq, hp]
      exact Bnd_mono (Nat.le_refl _) (Nat.le_refl _) (Nat.zero_le _) (Bnd_entry (Bnd_leafBody ws wa ty p))
  intro ty
  induction ty with
  | ptr t ih =>
    intro p e he fuel
    simp only [tyCost] at he
    cases ht : tyCost ws wa tab t p with
    | none => rw [ht] at he; cases he
    | some et =>
      rw [ht] at he
      simp only [Option.some.injEq] at he
      rw [← he]
      dsimp only
      cases fuel with
      | zero => exact sound_zero ..
      | succ fuel =>
        obtain ⟨hb, hs⟩ := ih p et ht fuel
        rw [decFieldC_ptr]
        exact ⟨Bnd_entry (Bnd_map Val.ptr hb), fun hd => Strict_entry (Strict_map Val.ptr (hs hd))⟩
  | slice t ih =>
    intro p e he fuel
    simp only [tyCost] at he
    cases ht : tyCost ws wa tab t (stripSizeE p) with
    | none => rw [ht] at he; cases he
    | some et =>
      rw [ht] at he
      dsimp only at he
      cases hd : et.d with
      | false => rw [hd] at he; simp at he
      | true =>
        rw [hd] at he
        simp only [if_true, Option.some.injEq] at he
        rw [← he]
        dsimp only
        cases fuel with
        | zero => exact sound_zero ..
        | succ fuel =>
          obtain ⟨hb, hs⟩ := ih (stripSizeE p) et ht fuel
          rw [decFieldC_slice]
          refine ⟨Bnd_entry (Bnd_sliceBody ws wa et.q et.p et.s _ p hb (hs hd)), fun hse => ?_⟩
          exact Strict_entry (Strict_sliceBody _ p (Bnd_toMono hb) hse)
  | struct j =>
    intro p e he fuel
    simp only [tyCost] at he
    cases hl : lookupE j tab with
    | none => rw [hl] at he; cases he
    | some ej =>
      rw [hl] at he
      simp only [Option.some.injEq] at he
      rw [← he]
      dsimp only
      exact hinv j ej hl fuel p
  | _ => intro p e he; exact leaf _ p e rfl he

/-- facts about the field entries that `fieldsCost` combined -/
theorem fieldsCost_spec (ws wa : Nat) (tab : List (Nat × CEntry)) (choice : Bool) : ∀ (fields : List Field) (q p s : Nat),
    fieldsCost ws wa tab choice fields = some (q, p, s) →
    (∀ fd ∈ fields, ∃ ef, tyCost ws wa tab fd.ty fd.params = some ef ∧ ef.p ≤ p ∧ ef.s ≤ s ∧ (choice = true → ef.q ≤ q)) ∧
    (choice = false → (fields.map fun fd => ((tyCost ws wa tab fd.ty fd.params).map (·.q)).getD 0).sum = q) := by
  intro fields
  induction fields with
  | nil =>
    intro q p s h
    simp only [fieldsCost, Option.some.injEq, Prod.mk.injEq] at h
    exact ⟨(by intro fd hfd; cases hfd), (by intro _; simp [h.1])⟩
  | cons f rest ih =>
    intro q p s h
    unfold fieldsCost at h
    cases hf : tyCost ws wa tab f.ty f.params with
    | none => rw [hf] at h; simp at h
    | some e =>
      cases hr : fieldsCost ws wa tab choice rest with
      | none => rw [hf, hr] at h; simp at h
      | some t =>
        obtain ⟨q', p', s'⟩ := t
        rw [hf, hr] at h
        simp only [Option.some.injEq, Prod.mk.injEq] at h
        obtain ⟨hq, hp, hs⟩ := h
        obtain ⟨ih1, ih2⟩ := ih q' p' s' hr
        refine ⟨?_, ?_⟩
        · intro fd hfd
          rcases List.mem_cons.mp hfd with h1 | h1
          · subst h1
            refine ⟨e, hf, by omega, by omega, ?_⟩
            intro hc; rw [hc] at hq; simp only [if_true] at hq; omega
          · obtain ⟨ef, he1, he2, he3, he4⟩ := ih1 fd h1
            refine ⟨ef, he1, by omega, by omega, ?_⟩
            intro hc
            have := he4 hc
            rw [hc] at hq; simp only [if_true] at hq; omega
        · intro hc
          rw [List.map_cons, List.sum_cons, ih2 hc, hf]
          rw [hc] at hq
          simpa using hq

/-- one struct type: from a sound table for the earlier types to the entry of this one -/
theorem struct_sound (env : Env) (ws wa : Nat) (tab : List (Nat × CEntry)) (hinv : TabInv env ws wa tab)
    (id : Nat) (sd : StructDef) (hsd : env[id]? = some sd) (e : CEntry) (he : structCost ws wa tab sd = some e) :
    SInv env ws wa id e := by
  intro fuel p
  cases fuel with
  | zero => exact sound_zero ..
  | succ fuel =>
    rw [decFieldC_struct env fuel id sd p hsd]
    unfold structCost at he
    cases hfc : fieldsCost ws wa tab (isChoice sd) sd.fields with
    | none => rw [hfc] at he; cases he
    | some t =>
      obtain ⟨q, pp, s⟩ := t
      rw [hfc] at he
      simp only [Option.some.injEq] at he
      obtain ⟨hspec1, hspec2⟩ := fieldsCost_spec ws wa tab (isChoice sd) sd.fields q pp s hfc
      -- the bound and strictness of every component, under the parameters the loop passes
      have hcomp : ∀ fd ∈ sd.fields, ∀ fp, FieldParams fd fp →
          ∃ ef, tyCost ws wa tab fd.ty fd.params = some ef ∧
            Bnd ws wa ef.q pp s (decFieldC env fuel fd.ty fp) ∧ (ef.d = true → Strict (decFieldC env fuel fd.ty fp)) := by
        intro fd hfd fp hfp
        obtain ⟨ef, h1, h2, h3, _⟩ := hspec1 fd hfd
        have h1' : tyCost ws wa tab fd.ty fp = some ef := by
          rcases hfp with e' | ⟨x, e'⟩
          · rw [e']; exact h1
          · rw [e', tyCost_refValue]; exact h1
        obtain ⟨hb, hs⟩ := tyCost_sound env ws wa tab hinv fd.ty fp ef h1' fuel
        exact ⟨ef, h1, Bnd_mono (Nat.le_refl _) h2 h3 hb, hs⟩
      let qf : Field → Nat := fun fd => ((tyCost ws wa tab fd.ty fd.params).map (·.q)).getD 0
      have hf : ∀ fd ∈ sd.fields, ∀ fp, FieldParams fd fp →
          Bnd ws wa (qf fd) pp s (decFieldC env fuel fd.ty fp) := by
        intro fd hfd fp hfp
        obtain ⟨ef, h1, hb, _⟩ := hcomp fd hfd fp hfp
        have : qf fd = ef.q := by simp [qf, h1]
        rw [this]; exact hb
      have hQ : if isChoice sd then ∀ fd ∈ sd.fields, qf fd ≤ q else (sd.fields.map qf).sum ≤ q := by
        cases hc : isChoice sd with
        | true =>
          simp only [if_true]
          intro fd hfd
          obtain ⟨ef, h1, _, _, h4⟩ := hspec1 fd hfd
          have : qf fd = ef.q := by simp [qf, h1]
          rw [this]; exact h4 hc
        | false =>
          simp only [Bool.false_eq_true, if_false]
          exact Nat.le_of_eq (hspec2 hc)
      have hbody : ∀ ve, Bnd ws wa q (if p.openType then pp + wa else pp) s
          (decStructC (decFieldC env fuel) (refFieldValue env fuel) (zeroVal env fuel) sd p ve) :=
        fun ve => Bnd_decStruct ws wa q pp s _ _ _ sd p ve qf hf hQ
      rw [← he]
      dsimp only
      refine ⟨?_, ?_⟩
      · refine Bnd_entry ?_
        unfold structBodyC
        exact Bnd_bind0 (Bnd_lift (MonoD_extBits _ _)) (fun x => hbody x.2)
      · intro hd
        refine Strict_entry ?_
        unfold structBodyC
        simp only [Bool.or_eq_true, Bool.and_eq_true, Bool.not_eq_true'] at hd
        rcases hd with hve | ⟨hot, hdd⟩
        · refine Strict_bind_l (Strict_lift (StrictD_extBits p false (Or.inr (by simp [hve])))) (fun x => Bnd_toMono (hbody x.2))
        · refine Strict_bind_r (MonoC_lift (MonoD_extBits _ _)) (fun x => ?_)
          refine Strict_decStruct ws wa q pp s _ _ _ sd p x.2 qf hf hQ ?_
          rcases hdd with (hc | hany) | hfirst
          · exact Or.inr (Or.inl ⟨hc, hot⟩)
          · exact Or.inl hany
          · by_cases hc : isChoice sd = true
            · exact Or.inr (Or.inl ⟨hc, hot⟩)
            by_cases hany : sd.fields.any (fun f => f.params.optional) = true
            · exact Or.inl hany
            refine Or.inr (Or.inr ⟨by simpa using hc, ?_⟩)
            cases hfl : sd.fields with
            | nil => rw [hfl] at hfirst; cases hfirst
            | cons f0 rest =>
              rw [hfl] at hfirst hany
              dsimp only at hfirst
              refine ⟨f0, rest, rfl, ?_, fun fp hfp => ?_⟩
              · simp only [List.any_cons, Bool.or_eq_true, not_or] at hany
                simpa using hany.1
              · obtain ⟨ef, h1, _, hs⟩ := hcomp f0 (by rw [hfl]; exact List.mem_cons_self) fp hfp
                rw [h1] at hfirst
                exact hs hfirst

/-- the one-pass computation of the table is sound -/
theorem costTabFrom_sound (env : Env) (ws wa : Nat) : ∀ (rest : List StructDef) (id : Nat) (acc tab : List (Nat × CEntry)),
    (∀ k sd, rest[k]? = some sd → env[id + k]? = some sd) → TabInv env ws wa acc →
    costTabFrom ws wa id rest acc = some tab → TabInv env ws wa tab := by
  intro rest
  induction rest with
  | nil =>
    intro id acc tab _ hinv h
    simp only [costTabFrom, Option.some.injEq] at h
    rw [← h]; exact hinv
  | cons sd rest ih =>
    intro id acc tab hget hinv h
    have hsd : env[id]? = some sd := by simpa using hget 0 sd (by simp)
    have hget' : ∀ k sd', rest[k]? = some sd' → env[id + 1 + k]? = some sd' := by
      intro k sd' hk
      have := hget (k + 1) sd' (by simpa using hk)
      rw [show id + 1 + k = id + (k + 1) by omega]; exact this
    unfold costTabFrom at h
    cases hs : structCost ws wa acc sd with
    | none => rw [hs] at h; cases h
    | some e =>
      rw [hs] at h
      dsimp only at h
      refine ih (id + 1) ((id, e) :: acc) tab hget' ?_ h
      intro j ej hl
      by_cases hj : id = j
      · subst hj
        rw [lookupE_cons_self] at hl
        cases hl
        exact struct_sound env ws wa acc hinv id sd hsd e hs
      · rw [lookupE_cons_ne hj] at hl
        exact hinv j ej hl

theorem costTab_sound (env : Env) (ws wa : Nat) (tab : List (Nat × CEntry)) (h : costTab ws wa env = some tab) :
    TabInv env ws wa tab := by
  unfold costTab at h
  refine costTabFrom_sound env ws wa env 0 [] tab ?_ ?_ h
  · intro k sd hk; simpa using hk
  · intro j e hl; simp [lookupE] at hl

/-- a bound for `parseField` on every reader is a bound for the entry point on every byte string -/
theorem Bnd_unmarshal {env : Env} {ws wa q p s fuel : Nat} {ty : Ty} {pr : Params}
    (h : Bnd ws wa q p s (decFieldC env fuel ty pr)) (bs : Bytes) :
    cst ws wa (unmarshalCost env fuel ty pr bs).2 ≤ q + p * (8 * bs.length) + s := by
  have hb := (h (Rd.ofBytes bs)).2
  have hlen : (Rd.ofBytes bs).len = 8 * bs.length := rfl
  rw [hlen] at hb
  unfold unmarshalCost
  rcases hd : decFieldC env fuel ty pr (Rd.ofBytes bs) with ⟨res, c⟩
  rw [hd] at hb
  cases res with
  | error err => exact hb
  | ok x => exact hb

/-- **the cost bound**: over a schema whose table is accepted, decoding ANY byte string as a value of a covered type
    costs at most `q + p·(8·|bs|) + s`, whatever the fuel -/
theorem unmarshalCost_bound (env : Env) (ws wa : Nat) (ty : Ty) (p : Params) (e : CEntry)
    (h : topCost ws wa env ty p = some e) (fuel : Nat) (bs : Bytes) :
    cst ws wa (unmarshalCost env fuel ty p bs).2 ≤ e.q + e.p * (8 * bs.length) + e.s := by
  unfold topCost at h
  cases ht : costTab ws wa env with
  | none => rw [ht] at h; cases h
  | some tab =>
    rw [ht] at h
    dsimp only at h
    exact Bnd_unmarshal (tyCost_sound env ws wa tab (costTab_sound env ws wa tab ht) ty p e h fuel).1 bs

/-! ### every struct type of the schema on its own (transfer containers) -/

theorem lookup_le_max : ∀ (tab : List (Nat × CEntry)) (j : Nat) (e : CEntry), lookupE j tab = some e →
    e.q ≤ (tabMax tab).1 ∧ e.p ≤ (tabMax tab).2.1 ∧ e.s ≤ (tabMax tab).2.2 := by
  intro tab
  induction tab with
  | nil => intro j e h; simp [lookupE] at h
  | cons x rest ih =>
    intro j e h
    obtain ⟨k, ek⟩ := x
    unfold tabMax
    dsimp only
    by_cases hk : k = j
    · subst hk
      rw [lookupE_cons_self] at h
      cases h
      exact ⟨Nat.le_max_left _ _, Nat.le_max_left _ _, Nat.le_max_left _ _⟩
    · rw [lookupE_cons_ne hk] at h
      obtain ⟨h1, h2, h3⟩ := ih j e h
      exact ⟨Nat.le_trans h1 (Nat.le_max_right _ _), Nat.le_trans h2 (Nat.le_max_right _ _),
        Nat.le_trans h3 (Nat.le_max_right _ _)⟩

theorem costTabFrom_ids (ws wa : Nat) : ∀ (rest : List StructDef) (id : Nat) (acc tab : List (Nat × CEntry)),
    costTabFrom ws wa id rest acc = some tab → (∀ j, j < id → (lookupE j acc).isSome = true) →
    ∀ j, j < id + rest.length → (lookupE j tab).isSome = true := by
  intro rest
  induction rest with
  | nil =>
    intro id acc tab h hacc j hj
    simp only [costTabFrom, Option.some.injEq] at h
    rw [← h]; exact hacc j (by simpa using hj)
  | cons sd rest ih =>
    intro id acc tab h hacc j hj
    unfold costTabFrom at h
    cases hs : structCost ws wa acc sd with
    | none => rw [hs] at h; cases h
    | some e =>
      rw [hs] at h
      dsimp only at h
      refine ih (id + 1) ((id, e) :: acc) tab h ?_ j (by simp only [List.length_cons] at hj; omega)
      intro j' hj'
      by_cases hk : id = j'
      · subst hk; rw [lookupE_cons_self]; rfl
      · rw [lookupE_cons_ne hk]; exact hacc j' (by omega)

/-- decoding ANY byte string as ANY struct type of the schema (not as an open type) stays below the maxima of the table -/
theorem unmarshalCost_bound_any (env : Env) (ws wa : Nat) (tab : List (Nat × CEntry)) (ht : costTab ws wa env = some tab)
    (id : Nat) (p : Params) (hot : p.openType = false) (fuel : Nat) (bs : Bytes) :
    cst ws wa (unmarshalCost env fuel (.struct id) p bs).2 ≤
      (ws + (tabMax tab).1) + (tabMax tab).2.1 * (8 * bs.length) + (tabMax tab).2.2 := by
  have hbnd : Bnd ws wa (ws + (tabMax tab).1) (tabMax tab).2.1 (tabMax tab).2.2 (decFieldC env fuel (.struct id) p) := by
    by_cases hid : id < env.length
    · have hsome := costTabFrom_ids ws wa env 0 [] tab ht (by intro j hj; omega) id (by omega)
      cases hl : lookupE id tab with
      | none => rw [hl] at hsome; cases hsome
      | some e =>
        obtain ⟨h1, h2, h3⟩ := lookup_le_max tab id e hl
        have := (costTab_sound env ws wa tab ht id e hl fuel p).1
        rw [hot] at this
        simp only [Bool.false_eq_true, if_false] at this
        exact Bnd_mono (by omega) h2 h3 this
    · have hnone : env[id]? = none := List.getElem?_eq_none (by omega)
      cases fuel with
      | zero => exact Bnd_fail _
      | succ fuel =>
        rw [decFieldC_struct_none env fuel id p hnone]
        exact Bnd_mono (by omega) (Nat.zero_le _) (Nat.zero_le _) (Bnd_entry (q := 0) (Bnd_fail _))
  exact Bnd_unmarshal hbnd bs

/-- an evaluated summary holds the entry of the top-level type and the maxima of the table -/
theorem costSummary_spec (env : Env) (ws wa : Nat) (ty : Ty) (p : Params) (e : CEntry) (Q P S : Nat)
    (h : costSummary ws wa env ty p = some (e, Q, P, S)) :
    topCost ws wa env ty p = some e ∧ ∃ tab, costTab ws wa env = some tab ∧ tabMax tab = (Q, P, S) := by
  unfold costSummary at h
  unfold topCost
  cases ht : costTab ws wa env with
  | none => rw [ht] at h; cases h
  | some tab =>
    rw [ht] at h
    dsimp only at h ⊢
    cases hty : tyCost ws wa tab ty p with
    | none => rw [hty] at h; cases h
    | some e' =>
      rw [hty] at h
      simp only [Option.some.injEq, Prod.mk.injEq] at h
      exact ⟨by rw [h.1], tab, rfl, h.2⟩

/-- both bounds from one evaluated summary of the table: for the top-level type its own entry, for every struct type
    of the schema decoded on its own the maxima -/
theorem costSummary_bounds (env : Env) (ws wa : Nat) (ty : Ty) (p : Params) (e : CEntry) (Q P S : Nat)
    (h : costSummary ws wa env ty p = some (e, Q, P, S)) :
    (∀ fuel bs, cst ws wa (unmarshalCost env fuel ty p bs).2 ≤ e.q + e.p * (8 * bs.length) + e.s) ∧
    (∀ fuel id (pr : Params), pr.openType = false → ∀ bs,
      cst ws wa (unmarshalCost env fuel (.struct id) pr bs).2 ≤ (ws + Q) + P * (8 * bs.length) + S) := by
  obtain ⟨htop, tab, ht, hm⟩ := costSummary_spec env ws wa ty p e Q P S h
  refine ⟨unmarshalCost_bound env ws wa ty p e htop, fun fuel id pr hot bs => ?_⟩
  have := unmarshalCost_bound_any env ws wa tab ht id pr hot fuel bs
  rw [hm] at this
  exact this

end Stgutg.Proofs.AperCost
