import Stgutg.Proofs.GenTieSuci
import Stgutg.Proofs.GenTieMin
import Stgutg.Proofs.GenTieUe
import Stgutg.Proofs.GenTieCount
import Stgutg.Proofs.GenTieKdf
import Stgutg.Proofs.GenTieConvert
import Stgutg.Proofs.GenTieNas
import Stgutg.Proofs.GenTieKeys
import Stgutg.Proofs.GenTieExtract
import Stgutg.Proofs.GenTieMilenage
import Stgutg.Proofs.GenTieSecNas
/-!
  The ties by translation, all groups (see DESIGN 2.2, 11.2, 11.7): for each Go function that a `gen pure-*` translator
  (harness/cmd/gen/pure*.go) reads, the definition regenerated from the source text on every run (Gen/Pure*.lean) is
  proved equal to the hand model the property theorems speak about. One module per group so that a change of one
  function breaks only the properties that depend on it:
    GenTieSuci (C11)  GenTieMin (C02, C18)  GenTieUe (C16)  GenTieCount (C06)  GenTieKdf (C05)  GenTieConvert (C17, C11)
    GenTieNas (C06, C10: NASEncode, NASDecode, EncodeNasPduWithSecurity, GetNasPdu — the extended grammar of pure_nas.go)
    GenTieKeys (C05: DerivateKamf, DerivateAlgKey)
    GenTieExtract (C12, C02: the two `Decode…` extractors of pdu.go — the slice-walker grammar of pure_extract.go)
    GenTieMilenage (C15: the nine functions of milenage.go — the buffer grammar of pure_milenage.go)
    GenTieSecAlg, GenTieSecNas (C07: snow3g.go, NEA1, NIA1 — the word-machine grammar of pure_secalg.go)
  What they share about the translators' runtime is in GenTieBase; GenTieExtractBase and GenTieMilenageBase hold what one
  group needs of its own runtime (Gen/PureRtSl.lean, Gen/PureRtBuf.lean).
-/
