import Stgutg.Gen.PureCount
import Stgutg.Model.NasProtect
/-!
  Tie by translation (C06, C10): `Gen/PureCount.lean` is regenerated from src/free5gclib/nas/security/counter.go on
  every run by `gen pure-count`. The hand model `Model.NasProtect.Count` carries the struct `Count{count uint32}` as
  its one field; each translated method is the hand model's function on that field.
-/
namespace Stgutg.Proofs.GenTie.Count
open Stgutg
open Stgutg.Gen.Pure.Count

theorem maskTo24Bits_eq (c : UInt32) : Count.maskTo24Bits ⟨c⟩ = ⟨Model.NasProtect.Count.maskTo24Bits c⟩ := rfl
/-- `Get()` returns the masked word and leaves the masked word stored -/
theorem Get_eq (c : UInt32) : Count.Get ⟨c⟩ = (⟨(Model.NasProtect.Count.get c).1⟩, (Model.NasProtect.Count.get c).2) := rfl
theorem AddOne_eq (c : UInt32) : Count.AddOne ⟨c⟩ = ⟨Model.NasProtect.Count.addOne c⟩ := rfl
theorem SQN_eq (c : UInt32) : Count.SQN ⟨c⟩ = Model.NasProtect.Count.sqn c := rfl
theorem SetSQN_eq (c : UInt32) (s : UInt8) : Count.SetSQN ⟨c⟩ s = ⟨Model.NasProtect.Count.setSQN c s⟩ := rfl
theorem Overflow_eq (c : UInt32) : Count.Overflow ⟨c⟩ = Model.NasProtect.Count.overflow c := rfl
theorem SetOverflow_eq (c : UInt32) (o : UInt16) : Count.SetOverflow ⟨c⟩ o = ⟨Model.NasProtect.Count.setOverflow c o⟩ := rfl
theorem Set_eq (c : UInt32) (o : UInt16) (s : UInt8) : Count.Set ⟨c⟩ o s = ⟨Model.NasProtect.Count.set c o s⟩ := rfl

/-- **Tie.** All eight methods of `security.Count` at once. -/
theorem Count_methods_eq :
    (∀ c, Count.maskTo24Bits ⟨c⟩ = ⟨Model.NasProtect.Count.maskTo24Bits c⟩) ∧
    (∀ c, Count.Get ⟨c⟩ = (⟨(Model.NasProtect.Count.get c).1⟩, (Model.NasProtect.Count.get c).2)) ∧
    (∀ c, Count.AddOne ⟨c⟩ = ⟨Model.NasProtect.Count.addOne c⟩) ∧
    (∀ c, Count.SQN ⟨c⟩ = Model.NasProtect.Count.sqn c) ∧
    (∀ c s, Count.SetSQN ⟨c⟩ s = ⟨Model.NasProtect.Count.setSQN c s⟩) ∧
    (∀ c, Count.Overflow ⟨c⟩ = Model.NasProtect.Count.overflow c) ∧
    (∀ c o, Count.SetOverflow ⟨c⟩ o = ⟨Model.NasProtect.Count.setOverflow c o⟩) ∧
    (∀ c o s, Count.Set ⟨c⟩ o s = ⟨Model.NasProtect.Count.set c o s⟩) :=
  ⟨maskTo24Bits_eq, Get_eq, AddOne_eq, SQN_eq, SetSQN_eq, Overflow_eq, SetOverflow_eq, Set_eq⟩

end Stgutg.Proofs.GenTie.Count
