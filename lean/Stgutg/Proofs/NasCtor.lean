/-
  The messages the constructors of Model/NasCtor.lean build, in closed form: by kernel evaluation over all values of the
  small arguments (registration type, access type, key set identifier, request type), and, where an argument is a whole octet
  (the PDU session identity) or a byte string, by computing the closed statements and rewriting through the one setter that
  sees the argument; and two facts about the intended messages of Spec/NasCtorIntended.lean.  Core Lean only.
-/
import Stgutg.Model.NasCtor
import Stgutg.Proofs.NasCodec
import Stgutg.Spec.NasCtorIntended
namespace Stgutg.Nas.Ctor
open Stgutg Stgutg.Nas

theorem copyInto_replicate (c : Bytes) : copyInto (List.replicate c.length 0) c = c := by
  simp [copyInto]

/-- `NewX(iei); SetLen(uintN(len(c))); SetContents(c)` on a `Buffer` shape is the IE (iei, len c, c) -/
theorem bufIE_eq (s : Shape) (iei w : Nat) (c : Bytes) (cp : CopySet) (h1 : s.hasIei = true) (h2 : s.newSetsIei = true)
    (hi : iei < 256) (hw : c.length < w) :
    bufIE s iei w c cp = { iei := iei, len := c.length, data := c } := by
  simp [bufIE, setContents, setLenBuf, newVal, h1, h2, Nat.mod_eq_of_lt hw, copyInto_replicate,
    Shape.zero, UInt8.toNat_ofNat_of_lt' hi]

end Stgutg.Nas.Ctor

namespace Stgutg.Props.C09
open Stgutg Stgutg.Nas Stgutg.Spec.Ts24501 Stgutg.Gen.Nas Stgutg.Gen

theorem deregBase_eval : ∀ acc < 4, ∀ sw < 2, ∀ k < 4,
    Ctor.deregistrationRequestBase (UInt8.ofNat acc) (UInt8.ofNat sw) (UInt8.ofNat (2 * k)) =
      .ok [some ⟨0, 0, [0x7E]⟩, some ⟨0, 0, [0x00]⟩, some ⟨0, 0, [0x45]⟩,
           some ⟨0, 0, Intended.halves (Intended.deregType sw 0 acc) (Intended.ngKSI 0 (2 * k))⟩, some ⟨0, 0, []⟩] := by
  decide +kernel

def regBaseMsg (rt : Nat) : Msg :=
  [some ⟨0, 0, [0x7E]⟩, some ⟨0, 0, [0x00]⟩, some ⟨0, 0, [0x41]⟩,
   some ⟨0, 0, Intended.halves (Intended.regType 1 rt) (Intended.ngKSI 0 7)⟩, some ⟨0, 0, []⟩] ++ List.replicate 20 none

theorem regReqBase_eval : ∀ rt < 8, Ctor.registrationRequestBase (UInt8.ofNat rt) = .ok (regBaseMsg rt) := by
  decide +kernel

theorem u8_and_255 (x : UInt8) : x &&& (255 : UInt8) = x := by
  rw [show (255 : UInt8) = -1 by decide, UInt8.and_neg_one]

/-- a setter that replaces the whole octet -/
theorem bits_whole (x o : UInt8) (i l : Nat) :
    Ctor.bits ⟨.octet, 0, 0, 255, 0⟩ x ⟨i, l, [o]⟩ = .ok ⟨i, l, [x]⟩ := by
  simp [Ctor.bits, u8_and_255]

def gsmHeaderMsg (psi ty : UInt8) (n : Nat) : Msg :=
  some ⟨0, 0, [0x2E]⟩ :: some ⟨0, 0, [psi]⟩ :: some ⟨0, 0, [1]⟩ :: some ⟨0, 0, [ty]⟩ :: List.replicate n none

theorem gsmHeader_eval (rest : Msg) (psi pti ty : UInt8) :
    Ctor.gsmHeader (some ⟨0, 0, [0]⟩ :: some ⟨0, 0, [0]⟩ :: some ⟨0, 0, [0]⟩ :: some ⟨0, 0, [0]⟩ :: rest) 0 1 2 3 psi pti ty =
      .ok (some ⟨0, 0, [0x2E]⟩ :: some ⟨0, 0, [psi]⟩ :: some ⟨0, 0, [pti]⟩ :: some ⟨0, 0, [ty]⟩ :: rest) := by
  simp [Ctor.gsmHeader, Ctor.updF, Ctor.octet, NasSet.ExtendedProtocolDiscriminator.SetExtendedProtocolDiscriminator,
    NasSet.PDUSessionID.SetPDUSessionID, NasSet.PTI.SetPTI, bits_whole, bind, Except.bind]

theorem modReq_eval (x : UInt8) : Ctor.pduSessionModificationRequest x = .ok (gsmHeaderMsg x 0xC9 9) :=
  gsmHeader_eval (List.replicate 9 none) x 1 0xC9

theorem relReq_eval (x : UInt8) : Ctor.pduSessionReleaseRequest x = .ok (gsmHeaderMsg x 0xD1 2) :=
  gsmHeader_eval (List.replicate 2 none) x 1 0xD1

theorem relCompl_eval (x : UInt8) : Ctor.pduSessionReleaseComplete x = .ok (gsmHeaderMsg x 0xD4 2) :=
  gsmHeader_eval (List.replicate 2 none) x 1 0xD4

def estReqMsg (psi : UInt8) : Msg :=
  [some ⟨0, 0, [0x2E]⟩, some ⟨0, 0, [psi]⟩, some ⟨0, 0, [1]⟩, some ⟨0, 0, [0xC1]⟩, some ⟨0, 0, [0xFF, 0xFF]⟩,
   some ⟨0, 0, [0x91]⟩, none, none, none, none, none, some ⟨0x7B, 10, Ctor.pcoContents⟩]

/-- only the 5GSM header depends on the PDU session identity; what follows it are closed statements -/
theorem estReq_eval (psi : UInt8) : Ctor.pduSessionEstablishmentRequest psi = .ok (estReqMsg psi) := by
  have h : Ctor.gsmHeader (initMsg layout_PDUSessionEstablishmentRequest) idx_PDUSessionEstablishmentRequest_ExtendedProtocolDiscriminator
      idx_PDUSessionEstablishmentRequest_PDUSessionID idx_PDUSessionEstablishmentRequest_PTI
      idx_PDUSessionEstablishmentRequest_PDUSESSIONESTABLISHMENTREQUESTMessageIdentity psi 1 0xC1 = _ :=
    gsmHeader_eval _ psi 1 0xC1
  simp only [Ctor.pduSessionEstablishmentRequest, h]
  rfl

/-- the statements before the PDU session ID IE are closed; its setter replaces the whole octet -/
theorem ulHead_eval (psi : UInt8) : Ctor.ulHead psi =
    .ok [some ⟨0, 0, [0x7E]⟩, some ⟨0, 0, [0x00]⟩, some ⟨0, 0, [0x67]⟩, some ⟨0, 0, [0x00]⟩, some ⟨0, 0, []⟩,
         some ⟨0x12, 0, [psi]⟩, none, none, none, none, none] := by
  have h : Ctor.ulHead psi = (match Ctor.bits NasSet.PduSessionID2Value.SetPduSessionID2Value psi
        { sh_PduSessionID2Value.zero with iei := 0x12 } with
      | .ok p => .ok [some ⟨0, 0, [0x7E]⟩, some ⟨0, 0, [0x00]⟩, some ⟨0, 0, [0x67]⟩, some ⟨0, 0, [0x00]⟩, some ⟨0, 0, []⟩,
          some p, none, none, none, none, none]
      | .error e => .error e) := rfl
  rw [h, show Ctor.bits NasSet.PduSessionID2Value.SetPduSessionID2Value psi { sh_PduSessionID2Value.zero with iei := 0x12 }
    = .ok ⟨0x12, 0, [psi]⟩ from bits_whole psi 0 0x12 0]

theorem ulRequestType_eval : ∀ rt < 8, Ctor.ulRequestTypeIE (UInt8.ofNat rt) = .ok ⟨0, 0, [UInt8.ofNat (0x80 + rt)]⟩ := by
  decide +kernel

theorem ulSnssai_eval (sst : UInt8) (a b c : UInt8) :
    Ctor.ulSnssaiIE ⟨sst, [a, b, c]⟩ = .ok ⟨0x22, 4, [sst, a, b, c, 0, 0, 0, 0]⟩ := by
  simp [Ctor.ulSnssaiIE, Ctor.bits, NasSet.SNSSAI.SetSST, Ctor.setLen, newVal, sh_SNSSAI, Shape.zero, Body.size,
    List.replicate, u8_and_255, Ctor.copyAt, Ctor.copyInto]

theorem ulTail_eval (m : Msg) (payload : Bytes) (h3 : m[3]? = some (some ⟨0, 0, [0x00]⟩)) (h4 : m[4]? = some (some ⟨0, 0, []⟩))
    (hp : payload.length < 65536) :
    Ctor.ulTail m payload = .ok ((m.set 3 (some ⟨0, 0, [0x01]⟩)).set 4 (some ⟨0, payload.length, payload⟩)) := by
  have hb : Ctor.bits NasSet.SpareHalfOctetAndPayloadContainerType.SetPayloadContainerType 1 ⟨0, 0, [0x00]⟩ = .ok ⟨0, 0, [0x01]⟩ := by
    decide +kernel
  have h4' : (m.set 3 (some ⟨0, 0, [0x01]⟩))[4]? = some (some ⟨0, 0, []⟩) := by
    rw [List.getElem?_set_ne (by decide)]; exact h4
  simp [Ctor.ulTail, Ctor.updF, idx_ULNASTransport_SpareHalfOctetAndPayloadContainerType, idx_ULNASTransport_PayloadContainer,
    h3, hb, h4', Ctor.ok1, Ctor.setContents, Ctor.setLenBuf, Nat.mod_eq_of_lt hp, Ctor.copyInto_replicate]

/-- the message the UL NAS TRANSPORT wrapper builds in the variant with request type, DNN and S-NSSAI -/
def ulFullMsg (payload : Bytes) (psi rt : Nat) (dnn : Bytes) (sn : Option (Nat × UInt8 × UInt8 × UInt8)) : Msg :=
  [some ⟨0, 0, [0x7E]⟩, some ⟨0, 0, [0x00]⟩, some ⟨0, 0, [0x67]⟩, some ⟨0, 0, [0x01]⟩, some ⟨0, payload.length, payload⟩,
   some ⟨0x12, 0, [UInt8.ofNat psi]⟩, none, some ⟨0, 0, [UInt8.ofNat (0x80 + rt)]⟩,
   sn.map fun x => ⟨0x22, 4, [UInt8.ofNat x.1, x.2.1, x.2.2.1, x.2.2.2, 0, 0, 0, 0]⟩,
   if dnn.isEmpty then none else some (Ctor.ulDnnIE dnn), none]

theorem ulNasTransport_eval (payload : Bytes) (psi rt : Nat) (dnn : Bytes) (sn : Option (Nat × UInt8 × UInt8 × UInt8))
    (hrt : rt < 8) (hp : payload.length < 65536) :
    Ctor.ulNasTransport payload (UInt8.ofNat psi) true (UInt8.ofNat rt) dnn
      (sn.map fun x => ⟨UInt8.ofNat x.1, [x.2.1, x.2.2.1, x.2.2.2]⟩) = .ok (ulFullMsg payload psi rt dnn sn) := by
  simp only [Ctor.ulNasTransport, ulHead_eval, ulRequestType_eval rt hrt, if_true]
  cases sn <;> by_cases hde : dnn.isEmpty = true <;>
    simp [hde, Ctor.setP, idx_ULNASTransport_RequestType, idx_ULNASTransport_DNN, ulSnssai_eval, idx_ULNASTransport_SNSSAI] <;>
    rw [ulTail_eval _ payload (by rfl) (by rfl) hp] <;>
    simp [ulFullMsg, hde]

theorem present_eq (o : Option Bytes) (iei : Nat) : Intended.present o iei = (o.map fun v => (iei, v)).toList := by
  cases o <;> rfl

theorem dnnLabels_go_nodot (cur s : Bytes) (h : ∀ c ∈ s, c ≠ 0x2E) :
    Intended.dnnLabels.go cur s = Intended.u8 (cur ++ s).length :: (cur ++ s) := by
  induction s generalizing cur with
  | nil => simp [Intended.dnnLabels.go]
  | cons c rest ih =>
    have hc : c ≠ 0x2E := h c (by simp)
    simp only [Intended.dnnLabels.go, hc, if_false]
    rw [ih (cur ++ [c]) (fun x hx => h x (by simp [hx]))]
    simp

theorem dnnLabels_nodot (s : Bytes) (h : ∀ c ∈ s, c ≠ 0x2E) : Intended.dnnLabels s = Intended.u8 s.length :: s := by
  have := dnnLabels_go_nodot [] s h
  simp at this
  simpa [Intended.dnnLabels] using this

end Stgutg.Props.C09
