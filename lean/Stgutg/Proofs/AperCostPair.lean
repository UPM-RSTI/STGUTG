/-
  C14 (cost): the cost tables of one schema for two pairs of weights in one pass.

  Most of what `costTab` costs the kernel is finding earlier entries (`lookupE` walks the table once per field). The
  entries for two weightings sit at the same places, so `costTabFrom2` keeps them side by side, finds both with one walk,
  and hands `structCost` itself a table of just the entries the fields of the struct refer to (`structCost_congr`: it sees no others).
  The maxima over each table are taken with evaluated accumulators (`tabMaxAcc`, equal to `tabMax`). `costSummary2_sound`:
  what it returns is what `costSummary` returns for each weighting.
-/
import Stgutg.Proofs.AperCostDefs

namespace Stgutg.Proofs.AperCost
open Stgutg Stgutg.Aper

/-- the struct type whose entry `tyCost` looks up -/
def sid : Ty → Option Nat
  | .struct j => some j
  | .ptr t => sid t
  | .slice t => sid t
  | _ => none

/-- `lookupE` for both entries; keys are compared with `Nat.beq`, which the kernel evaluates on literals in one step -/
def lookup2 (j : Nat) : List (Nat × CEntry × CEntry) → Option (CEntry × CEntry)
  | [] => none
  | (k, e) :: rest => bif Nat.beq k j then some e else lookup2 j rest

def tabA (t : List (Nat × CEntry × CEntry)) : List (Nat × CEntry) := t.map fun x => (x.1, x.2.1)
def tabB (t : List (Nat × CEntry × CEntry)) : List (Nat × CEntry) := t.map fun x => (x.1, x.2.2)

/-- the entries of both tables that a field list refers to (`none`: an entry is missing) -/
def localTabs (t : List (Nat × CEntry × CEntry)) : List Field → Option (List (Nat × CEntry) × List (Nat × CEntry))
  | [] => some ([], [])
  | f :: rest =>
    match localTabs t rest with
    | none => none
    | some l =>
      match sid f.ty with
      | none => some l
      | some j =>
        match lookup2 j t with
        | none => none
        | some e => some ((j, e.1) :: l.1, (j, e.2) :: l.2)

def costTabFrom2 (ws1 wa1 ws2 wa2 : Nat) :
    Nat → List StructDef → List (Nat × CEntry × CEntry) → Option (List (Nat × CEntry × CEntry))
  | _, [], acc => some acc
  | id, sd :: rest, acc =>
    match localTabs acc sd.fields with
    | none => none
    | some l =>
      match structCost ws1 wa1 l.1 sd, structCost ws2 wa2 l.2 sd with
      | some a, some b => costTabFrom2 ws1 wa1 ws2 wa2 (id + 1) rest ((id, a, b) :: acc)
      | _, _ => none

/-- `k n`, with `n` evaluated first. The kernel evaluates lazily and does not share what it has evaluated: `max a b` returns
    the operand as it was written, so a maximum carried along a list as an unevaluated accumulator is evaluated again at
    every later comparison (the 1 431 maxima of a table as a chain, each level re-evaluating all below it). Matching on
    the number makes the kernel evaluate it once, and what is passed on is the numeral. -/
def forceN {α : Type} (n : Nat) (k : Nat → α) : α :=
  match n with
  | 0 => k 0
  | m + 1 => k (Nat.succ m)

theorem forceN_eq {α : Type} (n : Nat) (k : Nat → α) : forceN n k = k n := by
  cases n <;> rfl

/-- `tabMax` with the maxima so far as evaluated accumulators -/
def tabMaxAcc : List (Nat × CEntry) → Nat → Nat → Nat → Nat × Nat × Nat
  | [], q, p, s => (q, p, s)
  | (_, e) :: rest, q, p, s =>
    forceN (max e.q q) fun q => forceN (max e.p p) fun p => forceN (max e.s s) fun s => tabMaxAcc rest q p s

theorem tabMaxAcc_eq : ∀ (tab : List (Nat × CEntry)) (q p s : Nat),
    tabMaxAcc tab q p s = (max (tabMax tab).1 q, max (tabMax tab).2.1 p, max (tabMax tab).2.2 s)
  | [], q, p, s => by simp [tabMaxAcc, tabMax]
  | (_, e) :: rest, q, p, s => by
    simp only [tabMaxAcc, forceN_eq, tabMaxAcc_eq rest, tabMax, Prod.mk.injEq]
    omega

theorem tabMaxAcc_zero (tab : List (Nat × CEntry)) : tabMaxAcc tab 0 0 0 = tabMax tab := by
  rw [tabMaxAcc_eq]
  simp

/-- `costSummary` for both weightings -/
def costSummary2 (ws1 wa1 ws2 wa2 : Nat) (env : Env) (ty : Ty) (p : Params) :
    Option ((CEntry × Nat × Nat × Nat) × (CEntry × Nat × Nat × Nat)) :=
  match costTabFrom2 ws1 wa1 ws2 wa2 0 env [] with
  | none => none
  | some t =>
    match tyCost ws1 wa1 (tabA t) ty p, tyCost ws2 wa2 (tabB t) ty p with
    | some a, some b => some ((a, tabMaxAcc (tabA t) 0 0 0), (b, tabMaxAcc (tabB t) 0 0 0))
    | _, _ => none

/-! ### `tyCost` and `structCost` see a table only through the entries of the struct types they meet -/

theorem tyCost_congr (ws wa : Nat) (tab tab' : List (Nat × CEntry)) : ∀ (ty : Ty) (p : Params),
    (∀ j, sid ty = some j → lookupE j tab = lookupE j tab') → tyCost ws wa tab ty p = tyCost ws wa tab' ty p := by
  intro ty
  induction ty with
  | ptr t ih => intro p h; simp only [tyCost]; rw [ih p h]
  | slice t ih => intro p h; simp only [tyCost]; rw [ih _ h]
  | struct j => intro p h; simp only [tyCost]; rw [h j rfl]
  | _ => intro p _; rfl

theorem fieldsCost_congr (ws wa : Nat) (tab tab' : List (Nat × CEntry)) (choice : Bool) : ∀ (fields : List Field),
    (∀ f ∈ fields, ∀ j, sid f.ty = some j → lookupE j tab = lookupE j tab') →
    fieldsCost ws wa tab choice fields = fieldsCost ws wa tab' choice fields := by
  intro fields
  induction fields with
  | nil => intro _; rfl
  | cons f rest ih =>
    intro h
    simp only [fieldsCost]
    rw [tyCost_congr ws wa tab tab' f.ty f.params (h f List.mem_cons_self),
      ih fun f' hf' => h f' (List.mem_cons_of_mem _ hf')]

theorem structCost_congr (ws wa : Nat) (tab tab' : List (Nat × CEntry)) (sd : StructDef)
    (h : ∀ f ∈ sd.fields, ∀ j, sid f.ty = some j → lookupE j tab = lookupE j tab') :
    structCost ws wa tab sd = structCost ws wa tab' sd := by
  unfold structCost
  rw [fieldsCost_congr ws wa tab tab' _ sd.fields h]
  cases hf : sd.fields with
  | nil => rfl
  | cons f0 rest => simp only [tyCost_congr ws wa tab tab' f0.ty f0.params (h f0 (hf ▸ List.mem_cons_self))]

/-! ### the side-by-side table -/

theorem lookup2_spec (j : Nat) : ∀ (t : List (Nat × CEntry × CEntry)),
    lookupE j (tabA t) = (lookup2 j t).map (·.1) ∧ lookupE j (tabB t) = (lookup2 j t).map (·.2) := by
  intro t
  induction t with
  | nil => exact ⟨rfl, rfl⟩
  | cons x rest ih =>
    obtain ⟨k, e⟩ := x
    simp only [tabA, tabB, List.map_cons, lookupE, lookup2] at ih ⊢
    cases hb : Nat.beq k j with
    | true =>
      have : k = j := Nat.eq_of_beq_eq_true hb
      simp [this]
    | false =>
      have : k ≠ j := Nat.ne_of_beq_eq_false hb
      simpa [this] using ih

theorem localTabs_spec (t : List (Nat × CEntry × CEntry)) : ∀ (fields : List Field) (l : _),
    localTabs t fields = some l → ∀ f ∈ fields, ∀ j, sid f.ty = some j →
      lookupE j (tabA t) = lookupE j l.1 ∧ lookupE j (tabB t) = lookupE j l.2 := by
  intro fields
  induction fields with
  | nil => intro l _ f hf; cases hf
  | cons f0 rest ih =>
    intro l hl f hf j hj
    unfold localTabs at hl
    cases hr : localTabs t rest with
    | none => rw [hr] at hl; cases hl
    | some l' =>
      rw [hr] at hl
      dsimp only at hl
      have ihr := ih l' hr
      cases hs : sid f0.ty with
      | none =>
        rw [hs] at hl
        cases hl
        rcases List.mem_cons.mp hf with h | h
        · rw [h, hs] at hj; cases hj
        · exact ihr f h j hj
      | some j0 =>
        rw [hs] at hl
        dsimp only at hl
        cases h2 : lookup2 j0 t with
        | none => rw [h2] at hl; cases hl
        | some e =>
          rw [h2] at hl
          cases hl
          by_cases hjj : j0 = j
          · subst hjj
            have := lookup2_spec j0 t
            rw [h2] at this
            simp only [lookupE, beq_self_eq_true, if_true]
            exact this
          · have hne : (j0 == j) = false := by simpa using hjj
            simp only [lookupE, hne, Bool.false_eq_true, if_false]
            rcases List.mem_cons.mp hf with h | h
            · rw [h, hs] at hj; cases hj; exact absurd rfl hjj
            · exact ihr f h j hj

theorem costTabFrom2_sound (ws1 wa1 ws2 wa2 : Nat) : ∀ (rest : List StructDef) (id : Nat) (acc t : _),
    costTabFrom2 ws1 wa1 ws2 wa2 id rest acc = some t →
      costTabFrom ws1 wa1 id rest (tabA acc) = some (tabA t) ∧ costTabFrom ws2 wa2 id rest (tabB acc) = some (tabB t) := by
  intro rest
  induction rest with
  | nil => intro id acc t h; cases h; exact ⟨rfl, rfl⟩
  | cons sd rest ih =>
    intro id acc t h
    unfold costTabFrom2 at h
    cases hl : localTabs acc sd.fields with
    | none => rw [hl] at h; cases h
    | some l =>
      rw [hl] at h
      dsimp only at h
      have hloc := localTabs_spec acc sd.fields l hl
      have ha := structCost_congr ws1 wa1 (tabA acc) l.1 sd fun f hf j hj => (hloc f hf j hj).1
      have hb := structCost_congr ws2 wa2 (tabB acc) l.2 sd fun f hf j hj => (hloc f hf j hj).2
      cases h1 : structCost ws1 wa1 l.1 sd with
      | none => rw [h1] at h; cases h
      | some a =>
        cases h2 : structCost ws2 wa2 l.2 sd with
        | none => rw [h1, h2] at h; cases h
        | some b =>
          rw [h1, h2] at h
          unfold costTabFrom
          rw [ha, hb, h1, h2]
          exact ih (id + 1) ((id, a, b) :: acc) t h

/-- one evaluation of `costSummary2` gives both summaries, for every schema -/
theorem costSummary2_sound (ws1 wa1 ws2 wa2 : Nat) (env : Env) (ty : Ty) (p : Params)
    (x y : CEntry × Nat × Nat × Nat) (h : costSummary2 ws1 wa1 ws2 wa2 env ty p = some (x, y)) :
    costSummary ws1 wa1 env ty p = some x ∧ costSummary ws2 wa2 env ty p = some y := by
  unfold costSummary2 at h
  cases ht : costTabFrom2 ws1 wa1 ws2 wa2 0 env [] with
  | none => rw [ht] at h; cases h
  | some t =>
    rw [ht] at h
    dsimp only at h
    have ⟨(ha : costTabFrom ws1 wa1 0 env [] = _), (hb : costTabFrom ws2 wa2 0 env [] = _)⟩ :=
      costTabFrom2_sound ws1 wa1 ws2 wa2 env 0 [] t ht
    unfold costSummary costTab
    rw [ha, hb]
    dsimp only
    cases h1 : tyCost ws1 wa1 (tabA t) ty p with
    | none => rw [h1] at h; cases h
    | some a =>
      cases h2 : tyCost ws2 wa2 (tabB t) ty p with
      | none => rw [h1, h2] at h; cases h
      | some b =>
        rw [h1, h2, tabMaxAcc_zero, tabMaxAcc_zero] at h
        cases h
        exact ⟨rfl, rfl⟩

end Stgutg.Proofs.AperCost
