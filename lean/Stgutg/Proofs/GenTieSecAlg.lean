import Stgutg.Gen.PureSecAlg
import Stgutg.Model.Snow3g
import Stgutg.Proofs.GenTieBase
/-!
  Tie by translation (C07): `Gen/PureSecAlg.lean` is regenerated from src/free5gclib/nas/security/snow3g/snow3g.go on every run
  by `gen pure-secalg` (harness/cmd/gen/pure_secalg*.go, the word-machine grammar). This file proves, function by function and for
  ALL arguments, that the generated definitions are the hand model `Model/Snow3g.lean` that the C07 theorems are about:
  `mulx`, `mulxPow` (the recursion on fuel never runs out), `s1`, `s2` (the two package-level tables, read from the same source,
  are the regenerated `Gen.Snow3g.sr/sq`; no look-up is out of range), `mulAlpha`, `divAlpha`, `lfsrInitialisationMode`,
  `lfsrKeystreamMode`, `clockFsm`, `InitSnow3g`, `GenerateKeystream` (every count and every output slice: the words written, the
  rest of the slice untouched, a panic when the slice is too short, nothing written for a count ≤ 0).

  The Go state `State{lfsr Lfsr{s [16]uint32}, fsm Fsm{r [3]uint32}}` is carried by the translator as lists; `toGen` maps the
  hand model's 19 words to it and `toGen_surj` shows that every value of the Go type (lists of 16 and 3 words) is reached.

  A loop is translated as a recursion on fuel that tests the counter first, and each loop lemma speaks of the call entered at
  an arbitrary counter: `initLoop_eq` and `genLoop_eq` by `forLt_ind` (Proofs/GenTieBase.lean), `shiftLoop` by induction on the
  words behind the counter. `GenerateKeystream_run` says what `GenerateKeystream` does for every count and slice at once;
  `GenerateKeystream_eq`, `_nonpos` and `_short` are its three cases.
-/
namespace Stgutg.Proofs.GenTie.SecAlg
open Stgutg Stgutg.Gen Stgutg.Gen.Pure.SecAlg Stgutg.Proofs.GenTie

theorem mulx_eq (v c : UInt8) : mulx v c = Model.Snow3g.mulx v c := by
  unfold mulx Model.Snow3g.mulx
  by_cases h : v &&& 128 = 0 <;> simp [h]

theorem mulxPow_rec (fuel : Nat) : ∀ (v i c : UInt8), i.toNat < fuel →
    mulxPow.rec_ fuel v i c = .ok (Model.Snow3g.mulxPow v i.toNat c) := by
  induction fuel with
  | zero => intro v i c h; omega
  | succ n ih =>
    intro v i c h
    unfold mulxPow.rec_
    by_cases hi : i = 0
    · subst hi; simp [Model.Snow3g.mulxPow]
    · have hne : i.toNat ≠ 0 := by
        intro h0; apply hi; exact UInt8.toNat_inj.mp (by simpa using h0)
      have hsub : (i - 1).toNat = i.toNat - 1 := by
        have : (1 : UInt8) ≤ i := by
          rw [UInt8.le_iff_toNat_le]; simp; omega
        rw [UInt8.toNat_sub_of_le _ _ this]; simp
      simp only [hi, decide_false, Bool.false_eq_true, if_false]
      rw [ih v (i - 1) c (by omega), ok_bind, hsub, mulx_eq]
      obtain ⟨m, hm⟩ := Nat.exists_eq_succ_of_ne_zero hne
      rw [hm]; simp [Model.Snow3g.mulxPow]

theorem mulxPow_eq (v i c : UInt8) : mulxPow v i c = .ok (Model.Snow3g.mulxPow v i.toNat c) :=
  mulxPow_rec _ v i c (by omega)

theorem sr_eq : sr = Gen.Snow3g.sr.map UInt8.ofNat := by decide +kernel
theorem sq_eq : sq = Gen.Snow3g.sq.map UInt8.ofNat := by decide +kernel
theorem sr_len : Gen.Snow3g.sr.length = 256 := by decide +kernel
theorem sq_len : Gen.Snow3g.sq.length = 256 := by decide +kernel

theorem idx_map_ofNat (tbl : List Nat) (x : UInt32) (h : x.toNat < tbl.length) :
    Go.idx (tbl.map UInt8.ofNat) (x.toNat : Int) = .ok (Model.Snow3g.look tbl x) := by
  unfold Go.idx Model.Snow3g.look
  simp [h, List.getD_eq_getElem?_getD]

theorem and255_lt (x : UInt32) : (x &&& 255).toNat < 256 := by
  rw [UInt32.toNat_and]
  exact Nat.lt_of_le_of_lt Nat.and_le_right (by decide)

theorem idx_sr (x : UInt32) : Go.idx sr ((x &&& 255).toNat : Int) = .ok (Model.Snow3g.look Gen.Snow3g.sr (x &&& 255)) := by
  rw [sr_eq]; exact idx_map_ofNat _ _ (by rw [sr_len]; exact and255_lt x)
theorem idx_sq (x : UInt32) : Go.idx sq ((x &&& 255).toNat : Int) = .ok (Model.Snow3g.look Gen.Snow3g.sq (x &&& 255)) := by
  rw [sq_eq]; exact idx_map_ofNat _ _ (by rw [sq_len]; exact and255_lt x)

theorem s1_eq (w : UInt32) : s1 w = .ok (Model.Snow3g.s1 w) := by
  unfold s1 Model.Snow3g.s1 Model.Snow3g.sbox Model.Snow3g.pack4
  simp only [idx_sr, ok_bind, mulx_eq]

theorem s2_eq (w : UInt32) : s2 w = .ok (Model.Snow3g.s2 w) := by
  unfold s2 Model.Snow3g.s2 Model.Snow3g.sbox Model.Snow3g.pack4
  simp only [idx_sq, ok_bind, mulx_eq]

theorem mulAlpha_eq (c : UInt8) : mulAlpha c = .ok (Model.Snow3g.mulAlpha c) := by
  unfold mulAlpha
  simp only [mulxPow_eq, ok_bind]
  rfl

theorem divAlpha_eq (c : UInt8) : divAlpha c = .ok (Model.Snow3g.divAlpha c) := by
  unfold divAlpha
  simp only [mulxPow_eq, ok_bind]
  rfl

/-- the Go value `State{lfsr: Lfsr{s [16]uint32}, fsm: Fsm{r [3]uint32}}` that the hand model's 19 words stand for -/
def toGen (st : Model.Snow3g.State) : State :=
  { lfsr := { s := [st.s0, st.s1, st.s2, st.s3, st.s4, st.s5, st.s6, st.s7, st.s8, st.s9, st.s10, st.s11, st.s12,
                    st.s13, st.s14, st.s15] },
    fsm := { r := [st.r0, st.r1, st.r2] } }

/-- every value of the Go type (arrays of 16 and 3 words) is `toGen` of a model state -/
theorem toGen_surj (g : State) (h16 : g.lfsr.s.length = 16) (h3 : g.fsm.r.length = 3) : ∃ st, toGen st = g := by
  obtain ⟨⟨s⟩, ⟨r⟩⟩ := g
  obtain ⟨a0, a1, a2, a3, a4, a5, a6, a7, a8, a9, a10, a11, a12, a13, a14, a15, rfl⟩ := Hex.len16 h16
  match r, h3 with
  | [b0, b1, b2], _ => exact ⟨⟨a0, a1, a2, a3, a4, a5, a6, a7, a8, a9, a10, a11, a12, a13, a14, a15, b0, b1, b2⟩, rfl⟩

/-- the hypotheses of `toGen_surj` are satisfiable -/
example : ∃ g : State, g.lfsr.s.length = 16 ∧ g.fsm.r.length = 3 :=
  ⟨{ lfsr := { s := List.replicate 16 7 }, fsm := { r := [1, 2, 3] } }, by decide⟩

theorem clockFsm_eq (st : Model.Snow3g.State) :
    State.clockFsm (toGen st) st.s15 st.s5 = .ok (toGen (Model.Snow3g.clockFsm st).2, (Model.Snow3g.clockFsm st).1) := by
  unfold State.clockFsm toGen
  simp [Go.idx, Go.set, ok_bind, s1_eq, s2_eq, Model.Snow3g.clockFsm]

theorem u8_and255 (x : UInt8) : x &&& 255 = x := by
  apply UInt8.toNat_inj.mp
  rw [UInt8.toNat_and]
  exact Nat.and_two_pow_sub_one_of_lt_two_pow (n := 8) x.toNat_lt

theorem toGen_s (st : Model.Snow3g.State) : (toGen st).lfsr.s = [st.s0, st.s1, st.s2, st.s3, st.s4, st.s5, st.s6, st.s7, st.s8, st.s9, st.s10, st.s11, st.s12,
                    st.s13, st.s14, st.s15] := rfl

theorem idx15 (st : Model.Snow3g.State) : Go.idx (toGen st).lfsr.s 15 = .ok st.s15 := rfl
theorem idx11 (st : Model.Snow3g.State) : Go.idx (toGen st).lfsr.s 11 = .ok st.s11 := rfl
theorem idx5 (st : Model.Snow3g.State) : Go.idx (toGen st).lfsr.s 5 = .ok st.s5 := rfl
theorem idx2 (st : Model.Snow3g.State) : Go.idx (toGen st).lfsr.s 2 = .ok st.s2 := rfl
theorem idx0 (st : Model.Snow3g.State) : Go.idx (toGen st).lfsr.s 0 = .ok st.s0 := rfl

/-- `for i := 0; i < 15; i++ { s[i] = s[i+1] }`, entered at `i = len(pre)`: what lies behind the counter moves down one place
    and the last word stays -/
theorem shiftLoop (r : Fsm) (rest : List UInt32) : ∀ (pre : List UInt32) (a : UInt32) (fuel : Nat),
    pre.length + rest.length = 15 → rest.length < fuel →
    State.lfsrKeystreamMode.loop1 fuel (pre.length : Int) ⟨⟨pre ++ a :: rest⟩, r⟩
      = .ok ⟨⟨pre ++ rest ++ [(a :: rest).getLast (List.cons_ne_nil _ _)]⟩, r⟩ := by
  induction rest with
  | nil =>
    intro pre a fuel h hf
    obtain ⟨f, rfl⟩ := Nat.exists_eq_succ_of_ne_zero (by omega : fuel ≠ 0)
    have : ¬ ((pre.length : Int) < 15) := by simp at h; omega
    simp [State.lfsrKeystreamMode.loop1, this]
  | cons b rest ih =>
    intro pre a fuel h hf
    obtain ⟨f, rfl⟩ := Nat.exists_eq_succ_of_ne_zero (by omega : fuel ≠ 0)
    have hc : (pre.length : Int) < 15 := by simp at h; omega
    have h1 : Go.idx (pre ++ a :: b :: rest) ((pre.length + 1 : Nat) : Int) = .ok b := idx_some _ _ _ (by simp)
    have h2 := ih (pre ++ [b]) b f (by simp at h ⊢; omega) (by simp at hf; omega)
    simp only [List.length_append, List.length_singleton, List.append_assoc, List.singleton_append] at h2
    simp only [State.lfsrKeystreamMode.loop1, hc, decide_true, if_true, iadd_one _ (by omega : pre.length + 1 < 2 ^ 63), h1, ok_bind,
      set_nat, (by simp : pre.length < (pre ++ a :: b :: rest).length), List.set_append_right _ _ (Nat.le_refl _),
      Nat.sub_self, List.set_cons_zero, h2]
    simp

theorem shift16 (st : Model.Snow3g.State) :
    State.lfsrKeystreamMode.loop1 16 0 (toGen st) = .ok ⟨⟨(toGen st).lfsr.s.tail ++ [st.s15]⟩, (toGen st).fsm⟩ :=
  shiftLoop _ _ [] _ 16 rfl (Nat.lt_succ_self 15)

/-- the two modes of the LFSR share the text of their loop -/
theorem initShift_eq : State.lfsrInitialisationMode.loop1 = State.lfsrKeystreamMode.loop1 := by
  funext fuel
  induction fuel with
  | zero => rfl
  | succ n ih => funext i st; simp only [State.lfsrInitialisationMode.loop1, State.lfsrKeystreamMode.loop1, ih]

theorem lfsrKeystreamMode_eq (st : Model.Snow3g.State) :
    State.lfsrKeystreamMode (toGen st) = .ok (toGen (Model.Snow3g.lfsrKeystreamMode st)) := by
  unfold State.lfsrKeystreamMode
  simp only [idx0, idx2, idx11, ok_bind, u8_and255, mulAlpha_eq, divAlpha_eq, shift16]
  rfl

theorem lfsrInitialisationMode_eq (st : Model.Snow3g.State) (f : UInt32) :
    State.lfsrInitialisationMode (toGen st) f = .ok (toGen (Model.Snow3g.lfsrInitialisationMode st f)) := by
  unfold State.lfsrInitialisationMode
  simp only [idx0, idx2, idx11, ok_bind, u8_and255, mulAlpha_eq, divAlpha_eq, initShift_eq, shift16]
  rfl

theorem initLoop_eq : ∀ fuel k : Nat, k ≤ 32 → 32 - k < fuel → ∀ st : Model.Snow3g.State,
    InitSnow3g.loop2 fuel (k : Int) (toGen st) = .ok (toGen (Model.Snow3g.iter Model.Snow3g.initRound (32 - k) st)) := by
  refine forLt_ind (fun fuel st => ?_) (fun fuel k hk ih st => ?_)
  · simp [InitSnow3g.loop2, Model.Snow3g.iter]
  · have hc : (k : Int) < 32 := by omega
    unfold InitSnow3g.loop2
    dsimp only
    rw [if_pos (decide_eq_true hc), idx15, ok_bind, idx5, ok_bind, clockFsm_eq, ok_bind, lfsrInitialisationMode_eq, ok_bind,
      iadd_one _ (by omega : k + 1 < 2 ^ 63), ih, show 32 - k = (32 - (k + 1)) + 1 by omega]
    rfl

theorem set16_0 (a0 a1 a2 a3 a4 a5 a6 a7 a8 a9 a10 a11 a12 a13 a14 a15 v : UInt32) : Go.set [a0, a1, a2, a3, a4, a5, a6, a7, a8, a9, a10, a11, a12, a13, a14, a15] 0 v = .ok [v, a1, a2, a3, a4, a5, a6, a7, a8, a9, a10, a11, a12, a13, a14, a15] := rfl
theorem set16_1 (a0 a1 a2 a3 a4 a5 a6 a7 a8 a9 a10 a11 a12 a13 a14 a15 v : UInt32) : Go.set [a0, a1, a2, a3, a4, a5, a6, a7, a8, a9, a10, a11, a12, a13, a14, a15] 1 v = .ok [a0, v, a2, a3, a4, a5, a6, a7, a8, a9, a10, a11, a12, a13, a14, a15] := rfl
theorem set16_2 (a0 a1 a2 a3 a4 a5 a6 a7 a8 a9 a10 a11 a12 a13 a14 a15 v : UInt32) : Go.set [a0, a1, a2, a3, a4, a5, a6, a7, a8, a9, a10, a11, a12, a13, a14, a15] 2 v = .ok [a0, a1, v, a3, a4, a5, a6, a7, a8, a9, a10, a11, a12, a13, a14, a15] := rfl
theorem set16_3 (a0 a1 a2 a3 a4 a5 a6 a7 a8 a9 a10 a11 a12 a13 a14 a15 v : UInt32) : Go.set [a0, a1, a2, a3, a4, a5, a6, a7, a8, a9, a10, a11, a12, a13, a14, a15] 3 v = .ok [a0, a1, a2, v, a4, a5, a6, a7, a8, a9, a10, a11, a12, a13, a14, a15] := rfl
theorem set16_4 (a0 a1 a2 a3 a4 a5 a6 a7 a8 a9 a10 a11 a12 a13 a14 a15 v : UInt32) : Go.set [a0, a1, a2, a3, a4, a5, a6, a7, a8, a9, a10, a11, a12, a13, a14, a15] 4 v = .ok [a0, a1, a2, a3, v, a5, a6, a7, a8, a9, a10, a11, a12, a13, a14, a15] := rfl
theorem set16_5 (a0 a1 a2 a3 a4 a5 a6 a7 a8 a9 a10 a11 a12 a13 a14 a15 v : UInt32) : Go.set [a0, a1, a2, a3, a4, a5, a6, a7, a8, a9, a10, a11, a12, a13, a14, a15] 5 v = .ok [a0, a1, a2, a3, a4, v, a6, a7, a8, a9, a10, a11, a12, a13, a14, a15] := rfl
theorem set16_6 (a0 a1 a2 a3 a4 a5 a6 a7 a8 a9 a10 a11 a12 a13 a14 a15 v : UInt32) : Go.set [a0, a1, a2, a3, a4, a5, a6, a7, a8, a9, a10, a11, a12, a13, a14, a15] 6 v = .ok [a0, a1, a2, a3, a4, a5, v, a7, a8, a9, a10, a11, a12, a13, a14, a15] := rfl
theorem set16_7 (a0 a1 a2 a3 a4 a5 a6 a7 a8 a9 a10 a11 a12 a13 a14 a15 v : UInt32) : Go.set [a0, a1, a2, a3, a4, a5, a6, a7, a8, a9, a10, a11, a12, a13, a14, a15] 7 v = .ok [a0, a1, a2, a3, a4, a5, a6, v, a8, a9, a10, a11, a12, a13, a14, a15] := rfl
theorem set16_8 (a0 a1 a2 a3 a4 a5 a6 a7 a8 a9 a10 a11 a12 a13 a14 a15 v : UInt32) : Go.set [a0, a1, a2, a3, a4, a5, a6, a7, a8, a9, a10, a11, a12, a13, a14, a15] 8 v = .ok [a0, a1, a2, a3, a4, a5, a6, a7, v, a9, a10, a11, a12, a13, a14, a15] := rfl
theorem set16_9 (a0 a1 a2 a3 a4 a5 a6 a7 a8 a9 a10 a11 a12 a13 a14 a15 v : UInt32) : Go.set [a0, a1, a2, a3, a4, a5, a6, a7, a8, a9, a10, a11, a12, a13, a14, a15] 9 v = .ok [a0, a1, a2, a3, a4, a5, a6, a7, a8, v, a10, a11, a12, a13, a14, a15] := rfl
theorem set16_10 (a0 a1 a2 a3 a4 a5 a6 a7 a8 a9 a10 a11 a12 a13 a14 a15 v : UInt32) : Go.set [a0, a1, a2, a3, a4, a5, a6, a7, a8, a9, a10, a11, a12, a13, a14, a15] 10 v = .ok [a0, a1, a2, a3, a4, a5, a6, a7, a8, a9, v, a11, a12, a13, a14, a15] := rfl
theorem set16_11 (a0 a1 a2 a3 a4 a5 a6 a7 a8 a9 a10 a11 a12 a13 a14 a15 v : UInt32) : Go.set [a0, a1, a2, a3, a4, a5, a6, a7, a8, a9, a10, a11, a12, a13, a14, a15] 11 v = .ok [a0, a1, a2, a3, a4, a5, a6, a7, a8, a9, a10, v, a12, a13, a14, a15] := rfl
theorem set16_12 (a0 a1 a2 a3 a4 a5 a6 a7 a8 a9 a10 a11 a12 a13 a14 a15 v : UInt32) : Go.set [a0, a1, a2, a3, a4, a5, a6, a7, a8, a9, a10, a11, a12, a13, a14, a15] 12 v = .ok [a0, a1, a2, a3, a4, a5, a6, a7, a8, a9, a10, a11, v, a13, a14, a15] := rfl
theorem set16_13 (a0 a1 a2 a3 a4 a5 a6 a7 a8 a9 a10 a11 a12 a13 a14 a15 v : UInt32) : Go.set [a0, a1, a2, a3, a4, a5, a6, a7, a8, a9, a10, a11, a12, a13, a14, a15] 13 v = .ok [a0, a1, a2, a3, a4, a5, a6, a7, a8, a9, a10, a11, a12, v, a14, a15] := rfl
theorem set16_14 (a0 a1 a2 a3 a4 a5 a6 a7 a8 a9 a10 a11 a12 a13 a14 a15 v : UInt32) : Go.set [a0, a1, a2, a3, a4, a5, a6, a7, a8, a9, a10, a11, a12, a13, a14, a15] 14 v = .ok [a0, a1, a2, a3, a4, a5, a6, a7, a8, a9, a10, a11, a12, a13, v, a15] := rfl
theorem set16_15 (a0 a1 a2 a3 a4 a5 a6 a7 a8 a9 a10 a11 a12 a13 a14 a15 v : UInt32) : Go.set [a0, a1, a2, a3, a4, a5, a6, a7, a8, a9, a10, a11, a12, a13, a14, a15] 15 v = .ok [a0, a1, a2, a3, a4, a5, a6, a7, a8, a9, a10, a11, a12, a13, a14, v] := rfl
theorem idx4_0 (a0 a1 a2 a3 : UInt32) : Go.idx [a0, a1, a2, a3] 0 = .ok a0 := rfl
theorem idx4_1 (a0 a1 a2 a3 : UInt32) : Go.idx [a0, a1, a2, a3] 1 = .ok a1 := rfl
theorem idx4_2 (a0 a1 a2 a3 : UInt32) : Go.idx [a0, a1, a2, a3] 2 = .ok a2 := rfl
theorem idx4_3 (a0 a1 a2 a3 : UInt32) : Go.idx [a0, a1, a2, a3] 3 = .ok a3 := rfl
theorem set3_0 (b0 b1 b2 v : UInt32) : Go.set [b0, b1, b2] 0 v = .ok [v, b1, b2] := rfl
theorem set3_1 (b0 b1 b2 v : UInt32) : Go.set [b0, b1, b2] 1 v = .ok [b0, v, b2] := rfl
theorem set3_2 (b0 b1 b2 v : UInt32) : Go.set [b0, b1, b2] 2 v = .ok [b0, b1, v] := rfl
theorem rep16 : List.replicate 16 (0 : UInt32) = [0, 0, 0, 0, 0, 0, 0, 0, 0, 0, 0, 0, 0, 0, 0, 0] := rfl
theorem rep3 : List.replicate 3 (0 : UInt32) = [0, 0, 0] := rfl

theorem iadd_small (i : Int) (h0 : 0 ≤ i) (h : i < 2 ^ 62) : Go.iadd i 1 = i + 1 := by unfold Go.iadd Go.wrapInt; omega

/-- the state the sixteen assignments and the `fsm.r` loop of `InitSnow3g` build -/
def init0 (k0 k1 k2 k3 iv0 iv1 iv2 iv3 : UInt32) : Model.Snow3g.State :=
  let ff : UInt32 := 0xffffffff
  { s0 := k0 ^^^ ff, s1 := k1 ^^^ ff, s2 := k2 ^^^ ff, s3 := k3 ^^^ ff,
    s4 := k0, s5 := k1, s6 := k2, s7 := k3,
    s8 := k0 ^^^ ff, s9 := k1 ^^^ ff ^^^ iv3, s10 := k2 ^^^ ff ^^^ iv2, s11 := k3 ^^^ ff,
    s12 := k0 ^^^ iv1, s13 := k1, s14 := k2, s15 := k3 ^^^ iv0,
    r0 := 0, r1 := 0, r2 := 0 }

theorem InitSnow3g_eq (k0 k1 k2 k3 iv0 iv1 iv2 iv3 : UInt32) :
    InitSnow3g [k0, k1, k2, k3] [iv0, iv1, iv2, iv3]
      = .ok (toGen (Model.Snow3g.initSnow3g k0 k1 k2 k3 iv0 iv1 iv2 iv3)) := by
  unfold InitSnow3g
  simp only [set16_0, set16_1, set16_2, set16_3, set16_4, set16_5, set16_6, set16_7, set16_8, set16_9, set16_10, set16_11,
    set16_12, set16_13, set16_14, set16_15, idx4_0, idx4_1, idx4_2, idx4_3, rep16, rep3, ok_bind]
  have h1 : Go.iadd 0 1 = 1 := by decide
  have h2 : Go.iadd 1 1 = 2 := by decide
  have h3 : Go.iadd 2 1 = 3 := by decide
  simp only [InitSnow3g.loop1, set3_0, set3_1, set3_2, ok_bind, h1, h2, h3, Int.reduceLT, decide_true, decide_false, if_true,
    Bool.false_eq_true, if_false]
  show (InitSnow3g.loop2 33 ((0 : Nat) : Int) (toGen (init0 k0 k1 k2 k3 iv0 iv1 iv2 iv3)) >>= fun t => .ok t) = _
  rw [initLoop_eq 33 0 (by omega) (by omega)]
  rfl

theorem bind_ok_pair {α β : Type} (x : Res (α × β)) : (x >>= fun t => .ok (t.1, t.2)) = x := by
  cases x <;> rfl

theorem take_set_succ {α : Type} (l : List α) (j : Nat) (v : α) (h : j < l.length) :
    (l.set j v).take (j + 1) = l.take j ++ [v] := by
  rw [List.take_add_one]
  simp [List.take_set, h]
  exact List.set_eq_of_length_le (by simp; omega)

/-- the loop of `GenerateKeystream` entered at `i = j` with `ks` of `len` words: it writes the model's words into
    `ks[j:n]`, or panics at `ks[len]` when `len < n` -/
theorem genLoop_eq (n : Int) (len : Nat) (h63 : n < 2 ^ 63) :
    ∀ fuel j : Nat, j ≤ min n.toNat len → min n.toNat len - j < fuel → ∀ (st : Model.Snow3g.State) (ks : List UInt32),
    ks.length = len →
    State.GenerateKeystream.loop1 n fuel (j : Int) (toGen st) ks
      = if n.toNat ≤ len then
          .ok (toGen (Model.Snow3g.genWords (n.toNat - j) st).2,
            ks.take j ++ (Model.Snow3g.genWords (n.toNat - j) st).1 ++ ks.drop n.toNat)
        else .error .panic := by
  refine forLt_ind (fun fuel st ks hl => ?_) (fun fuel j hj ih st ks hl => ?_)
  · subst hl
    unfold State.GenerateKeystream.loop1
    by_cases h : n.toNat ≤ ks.length
    · have hc : ¬ ((n.toNat : Int) < n) := by omega
      rw [Nat.min_eq_left h]
      simp only [hc, decide_false, Bool.false_eq_true, if_false, if_pos h, Nat.sub_self, Model.Snow3g.genWords,
        List.append_nil, List.take_append_drop]
    · have hc : (ks.length : Int) < n := by omega
      rw [Nat.min_eq_right (by omega)]
      dsimp only
      rw [if_pos (decide_eq_true hc), idx15, ok_bind, idx5, ok_bind, clockFsm_eq, ok_bind, idx0, ok_bind, set_nat, if_neg (Nat.lt_irrefl _), if_neg h]
      rfl
  · have hc : (j : Int) < n := by omega
    have hjl : j < ks.length := by omega
    unfold State.GenerateKeystream.loop1
    dsimp only
    rw [if_pos (decide_eq_true hc), idx15, ok_bind, idx5, ok_bind, clockFsm_eq, ok_bind, idx0, ok_bind, set_nat, if_pos hjl, ok_bind, lfsrKeystreamMode_eq,
      ok_bind, iadd_one _ (by omega : j + 1 < 2 ^ 63), ih _ _ (by simpa using hl)]
    split
    · rw [show n.toNat - j = (n.toNat - (j + 1)) + 1 by omega]
      simp only [Model.Snow3g.genWords]
      rw [take_set_succ _ _ _ hjl, List.drop_set_of_lt (by omega)]
      simp
    · rfl

/-- `GenerateKeystream(n, ks)` for every count and every slice: the discarded clock, then `n` words of the model written to
    the front of `ks` and the rest of `ks` untouched; nothing written for `n ≤ 0`; a panic when `ks` is shorter than `n` -/
theorem GenerateKeystream_run (st : Model.Snow3g.State) (n : Int) (ks : List UInt32) (h63 : n < 2 ^ 63) :
    State.GenerateKeystream (toGen st) n ks
      = if n.toNat ≤ ks.length then
          .ok (toGen (Model.Snow3g.generateKeystream n.toNat st).2,
            (Model.Snow3g.generateKeystream n.toNat st).1 ++ ks.drop n.toNat)
        else .error .panic := by
  unfold State.GenerateKeystream
  dsimp only
  rw [idx15, ok_bind, idx5, ok_bind, clockFsm_eq, ok_bind, lfsrKeystreamMode_eq, ok_bind, bind_ok_pair]
  exact genLoop_eq n ks.length h63 _ 0 (by omega) (by unfold Go.isub Go.wrapInt; omega) _ ks rfl

theorem GenerateKeystream_eq (st : Model.Snow3g.State) (m : Nat) (ks : List UInt32) (hm : m ≤ ks.length)
    (hl : ks.length < 2 ^ 62) :
    State.GenerateKeystream (toGen st) (m : Int) ks
      = .ok (toGen (Model.Snow3g.generateKeystream m st).2, (Model.Snow3g.generateKeystream m st).1 ++ ks.drop m) := by
  rw [GenerateKeystream_run st m ks (by omega), Int.toNat_natCast, if_pos hm]

/-- the hypotheses of `GenerateKeystream_eq` are satisfiable (3 words into a slice of 4) -/
example : (3 : Nat) ≤ ([9, 9, 9, 9] : List UInt32).length ∧ ([9, 9, 9, 9] : List UInt32).length < 2 ^ 62 := by decide

/-- a count that is not positive: the discarded clock only, `ks` untouched -/
theorem GenerateKeystream_nonpos (st : Model.Snow3g.State) (n : Int) (ks : List UInt32) (hn : n ≤ 0) :
    State.GenerateKeystream (toGen st) n ks
      = .ok (toGen (Model.Snow3g.generateKeystream 0 st).2, ks) := by
  rw [GenerateKeystream_run st n ks (by omega), Int.toNat_of_nonpos hn, if_pos (Nat.zero_le _)]
  rfl

/-- the hypotheses of `GenerateKeystream_short` are satisfiable (5 words into a slice of 4) -/
example : (([9, 9, 9, 9] : List UInt32).length : Int) < 5 ∧ ([9, 9, 9, 9] : List UInt32).length < 2 ^ 62 ∧ (5 : Int) < 2 ^ 63 := by
  decide

/-- the panic half: a slice shorter than the count -/
theorem GenerateKeystream_short (st : Model.Snow3g.State) (n : Int) (ks : List UInt32) (hn : (ks.length : Int) < n)
    (hl : ks.length < 2 ^ 62) (h63 : n < 2 ^ 63) :
    State.GenerateKeystream (toGen st) n ks = .error .panic := by
  rw [GenerateKeystream_run st n ks h63, if_neg (by omega)]

end Stgutg.Proofs.GenTie.SecAlg
