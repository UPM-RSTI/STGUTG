/-
  The executable AES-128 CTR / CMAC of the comparator (Crypto/Aes.lean) satisfies the hypotheses C06/C10 put on the
  external primitives (`PrimsOk`): the hypotheses are not only satisfiable by a toy instance.
-/
import Stgutg.Proofs.NasProtect
import Stgutg.Crypto.Prims
namespace Stgutg.Proofs.NasProtect
open Stgutg Stgutg.Crypto

theorem nextKey_length (k : Bytes) (rc : UInt8) : (nextKey k rc).length = 16 := rfl

/-- the key schedule appends one 16-octet round key per round constant -/
theorem roundKeys_fold (rcs : List UInt8) (acc : List Bytes) (k : Bytes) :
    ∃ ks, (rcs.foldl (fun (acc : List Bytes × Bytes) rc => let nk := nextKey acc.2 rc; (nk :: acc.1, nk)) (acc, k)).1.reverse
        = acc.reverse ++ ks ∧ ks.length = rcs.length ∧ ∀ x ∈ ks, x.length = 16 := by
  induction rcs generalizing acc k with
  | nil => exact ⟨[], by simp⟩
  | cons rc rcs ih =>
    obtain ⟨ks, h1, h2, h3⟩ := ih (nextKey k rc :: acc) (nextKey k rc)
    refine ⟨nextKey k rc :: ks, by simpa using h1, by simp [h2], ?_⟩
    intro x hx
    rcases List.mem_cons.mp hx with rfl | hx
    · exact nextKey_length k rc
    · exact h3 x hx

/-- The output is `SubBytes/ShiftRows` of the state (16 octets whatever the state was) xor the last of the ten
    round keys, so its length needs nothing of `key` or `blk`. -/
theorem aes128_length (key blk : Bytes) : (aes128 key blk).length = 16 := by
  obtain ⟨ks, h1, h2, h3⟩ := roundKeys_fold rcon [key] key
  have hne : ks ≠ [] := by intro h; rw [h] at h2; exact absurd h2 (by decide)
  have hlast : ks.drop 9 = [ks.getLast hne] :=
    calc ks.drop 9 = (ks.dropLast ++ [ks.getLast hne]).drop 9 := by rw [List.dropLast_concat_getLast hne]
      _ = _ := List.drop_left' (by rw [List.length_dropLast, h2]; rfl)
  have h : roundKeys key = key :: ks := h1
  simp only [aes128, h, hlast, xorBytes, List.length_zipWith, h3 _ (List.getLast_mem hne)]
  rfl

theorem ctrStream_length (aes : Bytes → Bytes → Bytes) (haes : ∀ k b, (aes k b).length = 16)
    (key : Bytes) (fuel : Nat) (ctr : Bytes) (n : Nat) (h : n ≤ 16 * fuel) :
    (ctrStream aes key fuel ctr n).length = n := by
  induction fuel generalizing ctr n with
  | zero => have : n = 0 := by omega
            subst this; rfl
  | succ f ih =>
    unfold ctrStream
    by_cases hn : n = 0
    · simp [hn]
    · simp only [hn, if_false, List.length_append, List.length_take, haes]
      rw [ih _ (n - 16) (by omega)]; omega

/-- the executable primitives of the comparator satisfy `PrimsOk`: SP 800-38A CTR is a keystream cipher and
    the AES-CMAC tag has 16 octets -/
theorem cryptoPrims_ok : PrimsOk Crypto.prims :=
  ⟨⟨fun k iv n => ctrStream aes128 k (n / 16 + 1) iv n,
    fun k iv n => ctrStream_length aes128 aes128_length k _ iv n (by omega),
    fun _ _ _ => rfl⟩,
   fun k m => by
     show 4 ≤ (cmacMode aes128 k m).length
     unfold cmacMode
     simp only [aes128_length]
     omega⟩

end Stgutg.Proofs.NasProtect
