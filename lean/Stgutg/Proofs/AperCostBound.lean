/-
  C14 (cost): the calculus of the bound predicates (`MonoC`, `Strict`, `Bnd`) through bind, lifted steps, charges and
  the entry of `parseField`, and what the steps of the plain decoder consume.
-/
import Stgutg.Proofs.AperCostDefs
import Stgutg.Proofs.AperCostErase
import Stgutg.Proofs.AperTotal

namespace Stgutg.Proofs.AperCost
open Stgutg Stgutg.Aper

theorem cst_zero (ws wa : Nat) : cst ws wa Cost.zero = 0 := by simp [cst, Cost.zero]

theorem cst_add (ws wa : Nat) (a b : Cost) : cst ws wa (a.add b) = cst ws wa a + cst ws wa b := by
  simp only [cst, Cost.add, Nat.mul_add]; omega

theorem DC_pure_apply {α : Type} (a : α) (r : Rd) : (pure a : DC α) r = (.ok (a, r), Cost.zero) := rfl

theorem DC_bind_ok {α β : Type} {m : DC α} {f : α → DC β} {r : Rd} {b : β} {r' : Rd}
    (h : ((m >>= f) r).1 = .ok (b, r')) : ∃ a r1, (m r).1 = .ok (a, r1) ∧ (f a r1).1 = .ok (b, r') := by
  rw [DC_bind_apply] at h
  rcases hm : m r with ⟨res, c⟩
  rw [hm] at h
  cases res with
  | error e => cases h
  | ok x => obtain ⟨a, r1⟩ := x; exact ⟨a, r1, rfl, h⟩

/-! ### what a successful run consumes

  `MonoC m` is `MonoD (DC.erase m)` and `Strict m` is `StrictD (DC.erase m)` by definition; the facts about the plain
  decoder come from `AperTotal.Eats`. -/

theorem MonoD_of_eats {α : Type} {m : D α} (h : ∀ r, AperTotal.Eats 0 m r) : MonoD m :=
  fun r a r' hr => (h r).2 a r' hr

theorem StrictD_of_eats {α : Type} {m : D α} (h : ∀ r, AperTotal.Eats 1 m r) : StrictD m :=
  fun r a r' hr => (h r).2 a r' hr

theorem MonoC_lift {α : Type} {m : D α} (h : MonoD m) : MonoC (DC.lift m) := h
theorem Strict_lift {α : Type} {m : D α} (h : StrictD m) : Strict (DC.lift m) := h

theorem Strict_of_erase {α : Type} {m : DC α} {d : D α} (e : DC.erase m = d) (h : StrictD d) : Strict m := by
  subst e; exact h

theorem MonoC_pure {α : Type} (a : α) : MonoC (pure a : DC α) := by
  intro r b r' h
  have h : (Except.ok (a, r) : Res (α × Rd)) = .ok (b, r') := h
  cases h; exact Nat.le_refl _

theorem MonoC_get : MonoC DC.get := fun _ _ _ h => by cases h; exact Nat.le_refl _

theorem MonoC_fail {α : Type} (e : Err) : MonoC (DC.fail e : DC α) := fun _ _ _ h => nomatch h

theorem Strict_fail {α : Type} (e : Err) : Strict (DC.fail e : DC α) := fun _ _ _ h => nomatch h

theorem MonoC_bind {α β : Type} {m : DC α} {f : α → DC β} (hm : MonoC m) (hf : ∀ a, MonoC (f a)) : MonoC (m >>= f) := by
  intro r b r' h
  obtain ⟨a, r1, h1, h2⟩ := DC_bind_ok h
  exact Nat.le_trans (hf a r1 b r' h2) (hm r a r1 h1)

theorem Strict_bind_l {α β : Type} {m : DC α} {f : α → DC β} (hm : Strict m) (hf : ∀ a, MonoC (f a)) :
    Strict (m >>= f) := by
  intro r b r' h
  obtain ⟨a, r1, h1, h2⟩ := DC_bind_ok h
  exact Nat.lt_of_le_of_lt (hf a r1 b r' h2) (hm r a r1 h1)

theorem Strict_bind_r {α β : Type} {m : DC α} {f : α → DC β} (hm : MonoC m) (hf : ∀ a, Strict (f a)) :
    Strict (m >>= f) := by
  intro r b r' h
  obtain ⟨a, r1, h1, h2⟩ := DC_bind_ok h
  exact Nat.lt_of_lt_of_le (hf a r1 b r' h2) (hm r a r1 h1)

theorem Strict_map {α β : Type} {m : DC α} (g : α → β) (h : Strict m) :
    Strict (m >>= fun x => (pure (g x) : DC β)) := Strict_bind_l h (fun _ => MonoC_pure _)

theorem Strict_ite {α : Type} (c : Prop) [Decidable c] {a b : DC α} (ha : Strict a) (hb : Strict b) :
    Strict (if c then a else b) := by
  split <;> assumption

/-! ### the cost bound -/

section
variable {α β : Type} {ws wa q p s : Nat}

theorem Bnd_mono {q' p' s' : Nat} {m : DC α} (hq : q ≤ q') (hp : p ≤ p') (hs : s ≤ s')
    (h : Bnd ws wa q p s m) : Bnd ws wa q' p' s' m := by
  intro r
  obtain ⟨h1, h2⟩ := h r
  refine ⟨?_, ?_⟩
  · intro a r' hr
    obtain ⟨c, hc, hb⟩ := h1 a r' hr
    refine ⟨c, hc, ?_⟩
    have := Nat.mul_le_mul_right c hp
    omega
  · have := Nat.mul_le_mul_right r.len hp
    omega

theorem Bnd_toMono {m : DC α} (h : Bnd ws wa q p s m) : MonoC m := by
  intro r a r' hr
  obtain ⟨c, hc, _⟩ := (h r).1 a r' hr
  omega

/-- a step that charges nothing and does not un-read satisfies every bound -/
theorem Bnd_free {m : DC α} (hm : MonoC m) (hc : ∀ r, (m r).2 = Cost.zero) : Bnd ws wa q p s m := by
  intro r
  rw [hc, cst_zero]
  exact ⟨fun a r' h => ⟨r.len - r'.len, by have := hm r a r' h; omega, Nat.zero_le _⟩, Nat.zero_le _⟩

theorem Bnd_pure (a : α) : Bnd ws wa q p s (pure a : DC α) := Bnd_free (MonoC_pure a) fun _ => rfl
theorem Bnd_fail (e : Err) : Bnd ws wa q p s (DC.fail e : DC α) := Bnd_free (MonoC_fail e) fun _ => rfl
theorem Bnd_lift {m : D α} (hm : MonoD m) : Bnd ws wa q p s (DC.lift m) := Bnd_free (MonoC_lift hm) fun _ => rfl
theorem Bnd_get : Bnd ws wa q p s DC.get := Bnd_free MonoC_get fun _ => rfl

/-- `Bnd` at one reader state -/
def BndAt (ws wa q p s : Nat) (m : DC α) (r : Rd) : Prop :=
  (∀ a r', (m r).1 = .ok (a, r') → ∃ c, r.len = r'.len + c ∧ cst ws wa (m r).2 ≤ q + p * c) ∧
    cst ws wa (m r).2 ≤ q + p * r.len + s

/-- sequencing: the additive parts add up, the slopes and the over-claim budget are shared; what follows only has to
    be bounded on the results of the first part -/
theorem BndAt_bind {q1 q2 : Nat} {m : DC α} {f : α → DC β} {r : Rd} (hm : BndAt ws wa q1 p s m r)
    (hf : ∀ a r1, (m r).1 = .ok (a, r1) → BndAt ws wa q2 p s (f a) r1) : BndAt ws wa (q1 + q2) p s (m >>= f) r := by
  obtain ⟨h1, h2⟩ := hm
  unfold BndAt
  rw [DC_bind_apply]
  rcases hmr : m r with ⟨res, c⟩
  rw [hmr] at h1 h2 hf
  cases res with
  | error e =>
    dsimp only at h2 ⊢
    exact ⟨(by intro a r' h; cases h), by omega⟩
  | ok x =>
    obtain ⟨a, r1⟩ := x
    dsimp only at h1 h2 ⊢
    obtain ⟨c1, hc1, hb1⟩ := h1 a r1 rfl
    obtain ⟨g1, g2⟩ := hf a r1 rfl
    rw [cst_add]
    refine ⟨?_, ?_⟩
    · intro b r' h
      obtain ⟨c2, hc2, hb2⟩ := g1 b r' h
      refine ⟨c2 + c1, by omega, ?_⟩
      rw [Nat.mul_add]; omega
    · rw [hc1, Nat.mul_add]; omega

theorem Bnd_bind {q1 q2 : Nat} {m : DC α} {f : α → DC β}
    (hm : Bnd ws wa q1 p s m) (hf : ∀ a, Bnd ws wa q2 p s (f a)) : Bnd ws wa (q1 + q2) p s (m >>= f) :=
  fun r => BndAt_bind (hm r) fun a r1 _ => hf a r1

/-- a free step of the plain decoder followed by a continuation that is bounded on the results of that step -/
theorem Bnd_lift_bind (m : D α) (hm : MonoD m) (f : α → DC β)
    (hf : ∀ r a r', m r = .ok (a, r') → BndAt ws wa q p s (f a) r') : Bnd ws wa q p s (DC.lift m >>= f) :=
  fun r => Nat.zero_add q ▸ BndAt_bind (Bnd_lift hm r) (hf r)

/-- sequencing where the first part has no additive cost -/
theorem Bnd_bind0 {m : DC α} {f : α → DC β} (hm : Bnd ws wa 0 p s m) (hf : ∀ a, Bnd ws wa q p s (f a)) :
    Bnd ws wa q p s (m >>= f) :=
  Nat.zero_add q ▸ Bnd_bind hm hf

/-- sequencing where what follows has no additive cost -/
theorem Bnd_bind_l {m : DC α} {f : α → DC β} (hm : Bnd ws wa q p s m) (hf : ∀ a, Bnd ws wa 0 p s (f a)) :
    Bnd ws wa q p s (m >>= f) :=
  Bnd_bind hm hf

theorem Bnd_ite (c : Prop) [Decidable c] {a b : DC α}
    (ha : Bnd ws wa q p s a) (hb : Bnd ws wa q p s b) : Bnd ws wa q p s (if c then a else b) := by
  split <;> assumption

theorem Bnd_map {m : DC α} (g : α → β) (h : Bnd ws wa q p s m) :
    Bnd ws wa q p s (m >>= fun x => (pure (g x) : DC β)) :=
  Bnd_bind_l h fun _ => Bnd_pure _

/-! ### copies -/

/-- a read of exactly `n` bits whose result is copied into `c ≤ n` fresh octets -/
theorem Bnd_copy (m : D α) (c n : Nat) (hc : c ≤ n) (hm : ∀ r a r', m r = .ok (a, r') → r'.len + n = r.len) :
    Bnd ws wa 0 wa 0 (DC.lift m >>= fun b => DC.chargeAlloc c >>= fun _ => (pure b : DC α)) := by
  intro r
  rw [DC_bind_apply]
  unfold DC.lift
  cases h : m r with
  | error e => exact ⟨(by intro a r' h'; cases h'), by simp [cst_zero]⟩
  | ok x =>
    obtain ⟨b, r1⟩ := x
    have hl := hm r b r1 h
    have hcost : cst ws wa (Cost.zero.add ((DC.chargeAlloc c >>= fun _ => (pure b : DC α)) r1).2) = wa * c := by
      simp [cst, Cost.zero, Cost.add, DC_bind_apply, DC.chargeAlloc, DC_pure_apply]
    dsimp only
    rw [hcost]
    have h1 : wa * c ≤ wa * n := Nat.mul_le_mul_left wa hc
    have h2 : wa * n ≤ wa * r.len := Nat.mul_le_mul_left wa (by omega)
    refine ⟨fun a r' h' => ?_, by omega⟩
    have hr' : r1 = r' := by
      simp only [DC_bind_apply, DC.chargeAlloc, DC_pure_apply, Except.ok.injEq, Prod.mk.injEq] at h'
      exact h'.2
    subst hr'
    exact ⟨n, by omega, by omega⟩

theorem Bnd_takeOctetsC (n : Nat) : Bnd ws wa 0 wa 0 (takeOctetsC n) :=
  Bnd_copy _ n (8 * n) (by omega) fun _ _ _ h => (AperTotal.takeOctets_ok h).2

theorem Bnd_getBitsCopyC (n : Nat) : Bnd ws wa 0 wa 0 (getBitsCopyC n) :=
  Bnd_copy _ ((n + 7) / 8) n (by omega) fun _ _ _ h => (AperTotal.getBits_ok h).2.2

end

/-! ### what the reading steps consume -/

/-- `getBits 0` traps, so every successful read is of at least one bit -/
theorem StrictD_getBits (n : Nat) : StrictD (getBits n) := by
  intro r a r' h
  have := AperTotal.getBits_ok h
  omega

theorem StrictD_takeOctets (n : Nat) (hn : 1 ≤ n) : StrictD (takeOctets n) := by
  intro r a r' h
  have := AperTotal.takeOctets_ok h
  omega

theorem Strict_takeOctetsC (n : Nat) (hn : 1 ≤ n) : Strict (takeOctetsC n) :=
  Strict_of_erase (erase_takeOctetsC n) (StrictD_takeOctets n hn)

theorem Strict_getBitsCopyC (n : Nat) : Strict (getBitsCopyC n) :=
  Strict_of_erase (erase_getBitsCopyC n) (StrictD_getBits n)

theorem MonoD_parseLength (sr : Int) : MonoD (parseLength sr) :=
  MonoD_of_eats fun r => (AperTotal.eats_parseLength sr r).mono (Nat.zero_le _)
theorem MonoD_align : MonoD parseAlignBits := MonoD_of_eats AperTotal.eats_parseAlignBits

theorem StrictD_getBitsValue (n : Nat) (hn : n ≠ 0) : StrictD (getBitsValue n) :=
  StrictD_of_eats fun r => (AperTotal.eats_getBitsValue n hn r).mono (Nat.pos_of_ne_zero hn)

theorem StrictD_parseLength (sr : Int) : StrictD (parseLength sr) := StrictD_of_eats (AperTotal.eats_parseLength sr)

theorem MonoD_extBits (p : Params) (b : Bool) : MonoD (extBits p b) :=
  MonoD_of_eats (AperTotal.eats_extBits p b 0 (Nat.zero_le _) (fun h => nomatch h))

theorem StrictD_extBits (p : Params) (isSlice : Bool)
    (h : p.sizeExt = true ∨ (p.valueExt && !isSlice) = true) : StrictD (extBits p isSlice) :=
  StrictD_of_eats (AperTotal.eats_extBits p isSlice 1 (Nat.le_refl _) (fun _ => h))

/-! ### entry of `parseField` -/

theorem Bnd_entry {α : Type} {ws wa q p s : Nat} {body : DC α} (h : Bnd ws wa q p s body) :
    Bnd ws wa (ws + q) p s (entryC body) := by
  intro r
  unfold entryC DC.tickThen
  dsimp only
  have hc : ∀ c : Cost, cst ws wa ((⟨0, 1⟩ : Cost).add c) = ws + cst ws wa c := by
    intro c; simp [cst, Cost.add, Nat.mul_add]; omega
  rw [hc]
  by_cases h0 : r.len = 0
  · simp only [h0, if_true, cst_zero]
    exact ⟨(by intro a r' h'; cases h'), by omega⟩
  · simp only [h0, if_false]
    obtain ⟨h1, h2⟩ := h r
    refine ⟨?_, by omega⟩
    intro a r' hr
    obtain ⟨c, hc1, hc2⟩ := h1 a r' hr
    exact ⟨c, hc1, by omega⟩

theorem Strict_entry {α : Type} {body : DC α} (h : Strict body) : Strict (entryC body) :=
  Strict_of_erase (erase_entryC body) fun r a r' hr => by
    unfold AperTotal.entry at hr
    split at hr
    · cases hr
    · exact h r a r' hr

end Stgutg.Proofs.AperCost
