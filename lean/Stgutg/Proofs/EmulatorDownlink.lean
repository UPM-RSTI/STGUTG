/-
  C01 helper: the emulator's reading of the specified downlink messages (Spec/AmfDownlink.lean), NGAP layer.
  Each downlink value is the evaluation of a skeleton that passes the static analysis of C13 (Proofs/BuildersTm*.lean), so
  the specification encoder encodes it and the library decoder (model) returns it (C03 + C04).
-/
import Stgutg.Spec.AmfDownlink
import Stgutg.Proofs.BuildersPath
import Stgutg.Proofs.Emulator
import Stgutg.Model.NetExt

namespace Stgutg.Proofs.EmulatorDownlink
open Stgutg Stgutg.Aper Stgutg.Builders Stgutg.Model.Convert Stgutg.Model.Emulator
open Stgutg.Proofs.BuildersOk Stgutg.Proofs.Builders Stgutg.Proofs.BuildersTm Stgutg.Proofs.BuildersRange
open Stgutg.Proofs.BuildersRoles Stgutg.Proofs.BuildersPath

/-- an `okV` PDU value: the SPECIFICATION encodes it, and the emulator's decoder returns it from those octets -/
theorem ngap_roundtrip (v : Val)
    (h : okV Gen.Ngap.schema true Builders.fuel (.struct Gen.Ngap.pduId) Gen.Ngap.encoderParams v = true) :
    ∃ bs, Spec.AmfDl.ngap v = some bs ∧ ngapDecode bs = .ok v := by
  obtain ⟨bs, henc, hspec⟩ := okV_pdu_encodes true v h
  refine ⟨bs, ?_, okV_pdu_decodes v bs h henc⟩
  unfold Spec.AmfDl.ngap Spec.Amf.specSchema
  rw [Proofs.Emulator.patchSchema_eq, ← Proofs.Emulator.fuel_eq]
  exact hspec

def tmDnt : Tm := initiating 4 Builders.ignore 22 [
  ieT 10 Builders.reject 9 1 (.struct [.hole (.arg 0)]),
  ieT 85 Builders.reject 9 2 (.struct [.hole (.arg 1)]),
  ieT 38 Builders.reject 9 5 (.struct [.hole (.argOcts 2)])]

/-- `Spec.Ts38413.Msg` has no constructor for DOWNLINK NAS TRANSPORT or INITIAL CONTEXT SETUP REQUEST; the range analysis used
    here (`skOK`, `skObls`, `explicitOK`) reads only `roles` and the skeleton, so `message` is a placeholder (also in `tIcsReq`) -/
def tDnt : Template :=
  { name := "DownlinkNASTransport", message := .UplinkNASTransport, roles := [.amf, .ran, .nas], dims := [],
    cases := [⟨[], .val tmDnt⟩] }

theorem dnt_eval (E : Ext) (plmn : Bytes) (amf ran : Int) (nas : Bytes) :
    Spec.AmfDl.downlinkNasTransport amf ran nas = eval E ⟨plmn, [.int amf, .int ran, .octs nas]⟩ .nil tmDnt := rfl

def guamiT : Tm := .struct [plmnT, .struct [.bits [0xca] 8], .struct [.bits [0xfe, 0x00] 10], .struct [.bits [0x00] 6], .nil]
def snssaiT : Tm := .struct [.struct [.octs [1]], .ptr (.struct [.octs [1, 2, 3]]), .nil]

def tmNgsr : Tm := successful 21 Builders.reject 7 [
  ieT 1 Builders.reject 5 1 (.struct [.str Spec.AmfDl.amfName]),
  ieT 96 Builders.reject 5 2 (.struct [.slice [.struct [guamiT, .nil, .nil]]]),
  ieT 86 Builders.ignore 5 3 (.struct [.int 255]),
  ieT 80 Builders.reject 5 4 (.struct [.slice [.struct [plmnT, .struct [.slice [.struct [snssaiT, .nil]]], .nil]]])]

def tNgsr : Template :=
  { name := "NGSetupResponse", message := .NGSetupResponse, roles := [], dims := [], cases := [⟨[], .val tmNgsr⟩] }

theorem ngsr_eval (E : Ext) (plmn : Bytes) : Spec.AmfDl.ngSetupResponse plmn = eval E ⟨plmn, []⟩ .nil tmNgsr := rfl

def tmIcsReq : Tm := initiating 14 Builders.reject 5 [
  ieT 10 Builders.reject 19 1 (.struct [.hole (.arg 0)]),
  ieT 85 Builders.reject 19 2 (.struct [.hole (.arg 1)]),
  ieT 28 Builders.reject 19 6 guamiT,
  ieT 0 Builders.reject 19 8 (.struct [.slice [.struct [snssaiT, .nil]]]),
  ieT 119 Builders.reject 19 9 (.struct [.struct [.bits [0, 0] 16], .struct [.bits [0x40, 0] 16], .struct [.bits [0, 0] 16],
    .struct [.bits [0, 0] 16], .nil]),
  ieT 94 Builders.reject 19 10 (.struct [.hole (.arg 3)]),
  ieT 38 Builders.ignore 19 16 (.struct [.hole (.argOcts 2)])]

def tIcsReq : Template :=
  { name := "InitialContextSetupRequest", message := .UplinkNASTransport, roles := [.amf, .ran, .nas, .val], dims := [],
    cases := [⟨[], .val tmIcsReq⟩] }

/-- the K_gNB obligation: a BIT STRING position that admits 256 bits -/
def isKgnb : Obl → Bool
  | .hole f ty p _ (.arg 3) => decide (0 < f) && ty == .bits && sizesOK 256 256 p
  | _ => false

theorem icsReq_eval (E : Ext) (plmn : Bytes) (amf ran : Int) (kgnb nas : Bytes) :
    Spec.AmfDl.initialContextSetupRequest amf ran plmn kgnb nas =
      eval E ⟨plmn, [.int amf, .int ran, .octs nas, .bits kgnb 256]⟩ .nil tmIcsReq := rfl

/-- table fact: the three skeletons pass the static analysis of C13 and leave only explicit obligations (and the K_gNB one),
    none about a list argument. One evaluation for the three: they look up the same schema entries. -/
theorem downlink_static :
    (skOK true tmDnt && (skObls tmDnt).all fun o => explicitOK tDnt o && (oblIndex o).isNone) = true ∧
    (skOK true tmNgsr && (skObls tmNgsr).all fun o => explicitOK tNgsr o && (oblIndex o).isNone) = true ∧
    (skOK true tmIcsReq && (skObls tmIcsReq).all fun o => (explicitOK tIcsReq o || isKgnb o) && (oblIndex o).isNone) = true := by
  decide +kernel

/-- a skeleton that passes the static analysis and leaves only explicit obligations (and those `extra` recognises, which are
    discharged separately), none about a list argument: the explicit ranges make its evaluation an `okV` PDU -/
theorem skeleton_okV' (E : Ext) (t : Template) (e : BEnv) (tm : Tm) (extra : Obl → Bool)
    (hst : (skOK true tm && (skObls tm).all fun o => (explicitOK t o || extra o) && (oblIndex o).isNone) = true)
    (hr : (∀ i, ¬ ∃ o ∈ skObls tm, oblIndex o = some i) → ArgsInRange true E t e tm)
    (hextra : ∀ o ∈ skObls tm, extra o = true → Obl.ok Gen.Ngap.schema true E e .nil o = true) :
    okV Gen.Ngap.schema true Builders.fuel (.struct Gen.Ngap.pduId) Gen.Ngap.encoderParams (eval E e .nil tm) = true := by
  simp only [Bool.and_eq_true, List.all_eq_true, Bool.or_eq_true] at hst
  have hno : ∀ i, ¬ ∃ o ∈ skObls tm, oblIndex o = some i := by
    rintro i ⟨o, ho, hi⟩
    have := (hst.2 o ho).2
    simp [hi] at this
  have hR := hr hno
  refine (tmOK_sound E e true Props.C03.ngap_schema_specOK Props.C03.ngap_schema_specOKc skDepth Builders.fuel _ _ tm .nil hst.1
    (fun o ho => ?_)).1
  rcases (hst.2 o ho).1 with h1 | h1
  · exact explicit_sound true E t e tm hR o ho h1
  · exact hextra o ho h1

theorem skeleton_okV (E : Ext) (t : Template) (e : BEnv) (tm : Tm)
    (hst : (skOK true tm && (skObls tm).all fun o => explicitOK t o && (oblIndex o).isNone) = true)
    (hr : (∀ i, ¬ ∃ o ∈ skObls tm, oblIndex o = some i) → ArgsInRange true E t e tm) :
    okV Gen.Ngap.schema true Builders.fuel (.struct Gen.Ngap.pduId) Gen.Ngap.encoderParams (eval E e .nil tm) = true :=
  skeleton_okV' E t e tm (fun _ => false) (by simpa using hst) hr (fun _ _ h => by cases h)

/-- **DOWNLINK NAS TRANSPORT**: for every AMF-UE-NGAP-ID below 2^40, RAN-UE-NGAP-ID below 2^32 and NAS-PDU the specification
    encodes the message and the emulator's decoder returns it -/
theorem dnt_roundtrip (amf ran : Int) (nas : Bytes) (ha0 : 0 ≤ amf) (ha1 : amf < 2 ^ 40) (hr0 : 0 ≤ ran) (hr1 : ran < 2 ^ 32) :
    ∃ bs, Spec.AmfDl.ngap (Spec.AmfDl.downlinkNasTransport amf ran nas) = some bs ∧
      ngapDecode bs = .ok (Spec.AmfDl.downlinkNasTransport amf ran nas) := by
  apply ngap_roundtrip
  rw [dnt_eval Model.NetExt.goExt [0, 0, 0] amf ran nas]
  refine skeleton_okV _ tDnt _ _ downlink_static.1 fun hn => ⟨rfl, fun i => ?_, fun i hi _ => absurd hi (hn i)⟩
  rcases i with _ | _ | _ | i
  exacts [⟨amf, rfl, ha0, ha1⟩, ⟨ran, rfl, hr0, hr1⟩, trivial, trivial]

/-- **NG SETUP RESPONSE** with the announced 3-octet PLMN: encoded by the specification, decoded by the emulator -/
theorem ngsr_roundtrip (plmn : Bytes) (hp : plmn.length = 3) :
    ∃ bs, Spec.AmfDl.ngap (Spec.AmfDl.ngSetupResponse plmn) = some bs ∧
      ngapDecode bs = .ok (Spec.AmfDl.ngSetupResponse plmn) := by
  apply ngap_roundtrip
  rw [ngsr_eval Model.NetExt.goExt plmn]
  exact skeleton_okV _ tNgsr _ _ downlink_static.2.1 fun hn => ⟨hp, fun _ => trivial, fun i hi _ => absurd hi (hn i)⟩

/-- **INITIAL CONTEXT SETUP REQUEST**: identifiers in range, 3-octet PLMN, a 32-octet K_gNB, any NAS-PDU -/
theorem icsReq_roundtrip (plmn : Bytes) (hp : plmn.length = 3) (amf ran : Int) (kgnb nas : Bytes)
    (ha0 : 0 ≤ amf) (ha1 : amf < 2 ^ 40) (hr0 : 0 ≤ ran) (hr1 : ran < 2 ^ 32) (hk : kgnb.length = 32) :
    ∃ bs, Spec.AmfDl.ngap (Spec.AmfDl.initialContextSetupRequest amf ran plmn kgnb nas) = some bs ∧
      ngapDecode bs = .ok (Spec.AmfDl.initialContextSetupRequest amf ran plmn kgnb nas) := by
  apply ngap_roundtrip
  rw [icsReq_eval Model.NetExt.goExt plmn amf ran kgnb nas]
  apply skeleton_okV' _ tIcsReq _ _ isKgnb downlink_static.2.2
  · refine fun hn => ⟨hp, fun i => ?_, fun i hi _ => absurd hi (hn i)⟩
    rcases i with _ | _ | _ | _ | i
    exacts [⟨amf, rfl, ha0, ha1⟩, ⟨ran, rfl, hr0, hr1⟩, trivial, trivial, trivial]
  · intro o hmem ho
    clear hmem
    cases o with
    | hole f ty p opt h =>
      cases h <;> try (simp [isKgnb] at ho; done)
      rename_i i
      rcases i with _ | _ | _ | _ | i <;> try (simp [isKgnb] at ho; done)
      simp only [isKgnb, Bool.and_eq_true, decide_eq_true_eq, beq_iff_eq] at ho
      obtain ⟨⟨hf, rfl⟩, hs⟩ := ho
      simp only [Obl.ok, Bool.or_eq_true]
      right
      show okV _ _ _ _ _ (Val.bits kgnb 256) = true
      exact okV_bits _ _ _ hf _ _ _ (by rw [hk]) (fun _ => by have := canonical_full kgnb; rwa [hk] at this)
        (sizesOK_sound 256 256 _ p hs (by omega) (by omega))
    | _ => simp [isKgnb] at ho

end Stgutg.Proofs.EmulatorDownlink
