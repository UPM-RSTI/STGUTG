/-
  C04 — the composite round-trip theorem: over a schema that passes `rtOK`, for every type, parameters that fit the
  type (`paramsOK`) and every conforming value (`conf`), the decoder model reads back what the encoder model wrote —
  SEQUENCE (extension bit, OPTIONAL bitmap, absent optionals), CHOICE, SEQUENCE OF, pointers, open types, leaves.

  Hypotheses the proof forces (each one is a statement about the codec; see `Props/C04.lean` for the discussion):
  * `conf`   : INTEGER within lb..ub, or above ub (below 2^63) when the type is extensible; strings and BIT STRINGs of any length (fragmented from 16K on);
               BIT STRING octets canonical (unused bits zero, exactly ⌈n/8⌉ octets); a CHOICE value has `Present = p`, the
               other alternatives nil, and the selected alternative is one that never encodes to zero bits (`neTy`);
               an open-type content may have any length.
  * `rtOK`   : see `AperRTCompDefs.lean`.

  The cases of `parseField` are proved before this file, each over ANY pair of component encoder `f` / decoder `g`
  related by a hypothesis: AperRTCompSlice (`RT'_entry`, `RT'_decField_ptr`, `RT'_decField_leaf`, `RT'_decField_slice`),
  AperRTCompSeq (`RT_seqFields`, `RT_decStruct_seq`, `RT'_decField_struct`), AperRTCompChoice (`RT_decStruct_choice`);
  that a `neTy` component never encodes to nothing in AperRTCompNE. `RT_field` here is an induction on the fuel: by the kind
  of the encoder's step (`AperEnc.encField_step`) it applies the case of that kind and supplies the pair from its hypothesis.
-/
import Stgutg.Proofs.AperRTCompChoice

namespace Stgutg.Proofs.AperRTComp
open Stgutg Stgutg.Aper Stgutg.Proofs.Bits Stgutg.Proofs.AperRT

theorem rtOK_get (env : Env) (hwf : rtOK env = true) (id : Nat) (sd : StructDef) (hsd : env[id]? = some sd) :
    structRT (exIds env) env.length sd = true := by
  unfold rtOK at hwf
  rw [List.all_eq_true] at hwf
  exact hwf sd (List.mem_of_getElem? hsd)

theorem stripSizeE_refValue (p : Params) (x : Option Int) :
    stripSizeE { p with refValue := x } = { stripSizeE p with refValue := x } := rfl

theorem paramsOKx_refValue (ex : List Nat) (bound : Nat) (x : Option Int) : ∀ (ty : Ty) (p : Params),
    paramsOKx ex bound ty { p with refValue := x } = paramsOKx ex bound ty p := by
  intro ty
  induction ty with
  | ptr t ih => intro p; simp only [paramsOKx]; exact ih p
  | slice t ih =>
    intro p
    simp only [paramsOKx]
    rw [stripSizeE_refValue, ih (stripSizeE p), neF_refValue]
    rfl
  | _ => intro p; rfl

theorem conf_refValue (env : Env) (x : Option Int) : ∀ (fuel : Nat) (ty : Ty) (p : Params) (v : Val),
    conf env fuel ty { p with refValue := x } v = conf env fuel ty p v := by
  intro fuel
  induction fuel with
  | zero => intro ty p v; rfl
  | succ fuel ih =>
    intro ty p v
    cases ty <;> cases v <;> try rfl
    · -- ptr
      simp only [conf]; exact ih _ _ _
    · -- slice
      simp only [conf]
      rw [stripSizeE_refValue]
      congr 1
      funext v
      exact ih _ _ _

theorem nilExceptFrom_spec : ∀ (l : List Val) (j0 k : Nat), nilExceptFrom j0 k l = true →
    ∀ i v, l[i]? = some v → j0 + i ≠ k → v = .nil := by
  intro l
  induction l with
  | nil => intro j0 k _ i v h; simp at h
  | cons x xs ih =>
    intro j0 k hok i v hi hne
    simp only [nilExceptFrom, Bool.and_eq_true, Bool.or_eq_true, beq_iff_eq] at hok
    cases i with
    | zero =>
      simp only [List.getElem?_cons_zero, Option.some.injEq] at hi
      subst hi
      rcases hok.1 with h | h
      · omega
      · exact (AperSpec.isNil_iff _).mp h
    | succ i =>
      simp only [List.getElem?_cons_succ] at hi
      exact ih (j0 + 1) k hok.2 i v hi (by omega)

theorem confFields_get (c : Ty → Params → Val → Bool) : ∀ (fields : List Field) (fs : List Val),
    confFields c fields fs = true → fs.length = fields.length ∧
    ∀ (j : Nat) (fd : Aper.Field) (v : Val), fields[j]? = some fd → fs[j]? = some v →
      (fd.params.optional = true ∧ isNil v = true) ∨ c fd.ty fd.params v = true := by
  intro fields
  induction fields with
  | nil =>
    intro fs h
    cases fs with
    | nil => exact ⟨rfl, by intro j fd v hj; simp at hj⟩
    | cons _ _ => simp [confFields] at h
  | cons fd0 frest ih =>
    intro fs h
    cases fs with
    | nil => simp [confFields] at h
    | cons v0 vrest =>
      simp only [confFields, Bool.and_eq_true, Bool.or_eq_true] at h
      obtain ⟨hlen, hrest⟩ := ih vrest h.2
      refine ⟨by simp [hlen], ?_⟩
      intro j fd v hj hv
      cases j with
      | zero =>
        simp only [List.getElem?_cons_zero, Option.some.injEq] at hj hv
        subst hj hv
        exact h.1
      | succ j =>
        simp only [List.getElem?_cons_succ] at hj hv
        exact hrest j fd v hj hv

theorem zeroVal_ptr (env : Env) (fuel : Nat) (t : Ty) : zeroVal env fuel (.ptr t) = .nil := by
  cases fuel <;> rfl

theorem isPtr_spec (ty : Ty) (h : isPtr ty = true) : ∃ t, ty = .ptr t := by
  cases ty <;> simp [isPtr] at h
  exact ⟨_, rfl⟩

/-- the shape of a conforming CHOICE value is what `decStruct` rebuilds -/
theorem choice_shape (zero : Ty → Val) (fields : List Field) (fs alts : List Val) (p : Int) (alt : Val)
    (hlen : fs.length = fields.length) (hfs : fs = .int p :: alts) (hp : 0 < p)
    (hnil : nilExceptFrom 1 p.toNat alts = true) (halt : fs[p.toNat]? = some alt)
    (hz : ∀ (k : Nat) (fd : Aper.Field), 0 < k → fields[k]? = some fd → zero fd.ty = .nil) :
    setAt (setAt (fields.map fun fd => zero fd.ty) 0 (.int p)) p.toNat alt = fs := by
  unfold setAt
  apply List.ext_getElem?
  intro k
  have hplt : p.toNat < fs.length := by
    rcases Nat.lt_or_ge p.toNat fs.length with h | h
    · exact h
    · rw [List.getElem?_eq_none h] at halt; cases halt
  have hp1 : 1 ≤ p.toNat := by omega
  by_cases hk : k = p.toNat
  · subst hk
    rw [List.getElem?_set_self (by simp; omega), halt]
  · rw [List.getElem?_set_ne (by omega)]
    by_cases hk0 : k = 0
    · subst hk0
      rw [List.getElem?_set_self (by simp; omega), hfs]
      rfl
    · rw [List.getElem?_set_ne (by omega), List.getElem?_map]
      by_cases hkl : k < fields.length
      · have hfk : fields[k]? = some fields[k] := List.getElem?_eq_getElem hkl
        rw [hfk]
        simp only [Option.map_some]
        rw [hz k _ (by omega) hfk]
        obtain ⟨w, hw⟩ : ∃ w, fs[k]? = some w := ⟨fs[k], List.getElem?_eq_getElem (by omega)⟩
        rw [hw]
        congr 1
        obtain ⟨k', hk'⟩ : ∃ k', k = k' + 1 := ⟨k - 1, by omega⟩
        have hak : alts[k']? = some w := by
          rw [hfs, hk', List.getElem?_cons_succ] at hw
          exact hw
        exact (nilExceptFrom_spec alts 1 p.toNat hnil k' _ hak (by omega)).symm
      · rw [List.getElem?_eq_none (by omega), List.getElem?_eq_none (by omega)]
        rfl

theorem leafTy_int : (Ty.int = .int ∨ Ty.int = .enum ∨ Ty.int = .bits ∨ Ty.int = .octs ∨ Ty.int = .str ∨ Ty.int = .bool) := Or.inl rfl

/-- the static tests and `conf` do not read the reference value `resolveRef` puts into a component's parameters -/
theorem FieldParams_tests {env : Env} {fuel : Nat} {fd : Field} {fp : Params} {v : Val} (h : AperEnc.FieldParams fd fp) :
    paramsOK env fd.ty fp = paramsOK env fd.ty fd.params ∧ neTy env fd.ty fp = neTy env fd.ty fd.params ∧
    conf env fuel fd.ty fp v = conf env fuel fd.ty fd.params v := by
  rcases h with rfl | ⟨x, rfl⟩
  · exact ⟨rfl, rfl, rfl⟩
  · exact ⟨paramsOKx_refValue _ _ _ _ _, neF_refValue _ _ _ _ _, conf_refValue _ _ _ _ _ _⟩

/-- **the composite round trip** -/
theorem RT_field (env : Env) (hwf : rtOK env = true) :
    ∀ (fuel pos : Nat) (ty : Ty) (params : Params) (v : Val) (bits : Bits),
      paramsOK env ty params = true → conf env fuel ty params v = true →
      encField env fuel pos ty params v = .ok bits → RT' bits pos (decField env fuel ty params) v := by
  intro fuel
  induction fuel with
  | zero => intro pos ty params v bits _ _ henc; exact absurd henc AperEnc.encField_zero
  | succ fuel ih =>
    intro pos ty params v bits hp hc henc
    have ihRT : ∀ (pos : Nat) (ty : Ty) (params : Params) (v : Val) (bits : Bits),
        paramsOK env ty params = true → neTy env ty params = true → conf env fuel ty params v = true →
        encField env fuel pos ty params v = .ok bits → RT bits pos (decField env fuel ty params) v :=
      fun pos ty params v bits hp hn hc henc =>
        (ih pos ty params v bits hp hc henc).toRT (neTy_sound env ty params hn fuel pos v bits henc)
    unfold paramsOK at hp
    cases AperEnc.encField_step henc with
    | int henc =>
      simp only [conf] at hc
      obtain ⟨lb, ub, hlb, hub, h0, h63, hbig, hs⟩ := intOK_spec params hp
      rw [hlb, hub] at hc
      simp only [Bool.and_eq_true, Bool.or_eq_true, decide_eq_true_eq] at hc
      exact RT'_decField_leaf env fuel .int params bits pos _ rfl
        (RT_int pos _ params bits lb ub hlb hub hc.1 hc.2 h0 h63 (fun _ => hbig) hs henc)
    | enum henc =>
      simp only [paramsOKx, enumOK, Bool.and_eq_true, Bool.not_eq_true'] at hp
      have hl0 : params.valueLB = some 0 := by
        cases hl : params.valueLB with
        | none => rw [hl] at henc; simp [appendEnumerated, err] at henc
        | some lb =>
          have := hp.2
          rw [hl] at this
          simp only [decide_eq_true_eq] at this
          rw [this]
      exact RT'_decField_leaf env fuel .enum params bits pos _ rfl (RT_enum pos _ params bits henc hp.1 hl0)
    | bits henc =>
      simp only [conf, decide_eq_true_eq] at hc
      obtain ⟨hok, hve⟩ := sizedOK_spec params hp
      exact RT'_decField_leaf env fuel .bits params bits pos _ rfl
        (RT_leaf_bits_any pos _ _ params bits hok (fun _ => sizedOK_frag params hp) hve hc henc)
    | octs henc =>
      obtain ⟨hok, hve⟩ := sizedOK_spec params hp
      exact RT'_decField_leaf env fuel .octs params bits pos _ rfl
        (RT_leaf_octs_any pos _ params bits hok (fun _ => sizedOK_frag params hp) hve henc)
    | str henc =>
      obtain ⟨hok, hve⟩ := sizedOK_spec params hp
      exact RT'_decField_leaf env fuel .str params bits pos _ rfl
        (RT_leaf_str_any pos _ params bits hok (fun _ => sizedOK_frag params hp) hve henc)
    | bool =>
      simp only [paramsOKx, Bool.and_eq_true, Bool.not_eq_true'] at hp
      exact RT'_decField_leaf env fuel .bool params _ pos _ rfl (RT_leaf_bool pos _ params hp.1 hp.2)
    | ptr henc =>
      exact RT'_decField_ptr env fuel _ params bits pos _ (ih pos _ params _ bits hp (by simpa only [conf] using hc) henc)
    | slice henc =>
      simp only [conf, List.all_eq_true] at hc
      simp only [paramsOKx, Bool.and_eq_true] at hp
      obtain ⟨⟨hsl, hpt⟩, hnt⟩ := hp
      exact RT'_decField_slice env fuel _ params bits pos _ hsl
        (fun v hv pos' bits' henc' => ihRT pos' _ (stripSizeE params) v bits' hpt hnt (hc v hv) henc') henc
    | @seq id sd fs b hsd hch hb =>
      simp only [paramsOKx, Bool.not_eq_true'] at hp
      simp only [conf, hsd, hch, Bool.not_false, if_true] at hc
      have hst := rtOK_get env hwf id sd hsd
      simp only [structRT, hch, Bool.false_eq_true, if_false, Bool.and_eq_true, List.all_eq_true, Bool.or_eq_true,
        Bool.not_eq_true', decide_eq_true_eq] at hst
      obtain ⟨hfields, h64⟩ := hst
      obtain ⟨hlen, hcf⟩ := confFields_get (conf env fuel) sd.fields fs hc
      -- an OPTIONAL component is a pointer
      have hoptptr : ∀ fd ∈ sd.fields, fd.params.optional = true → ∃ t, fd.ty = .ptr t := fun fd hfd ho => by
        rcases (hfields fd hfd).1.1 with ho' | hptr
        · rw [ho] at ho'; cases ho'
        · exact isPtr_spec _ hptr
      refine RT'_decField_struct env fuel id sd params b pos (.struct fs) hsd hp
        (RT_decStruct_seq (encField env fuel) (decField env fuel) (refFieldValue env fuel) (zeroVal env fuel)
          sd params false _ fs b hch h64 ?_ ?_ hb)
      · intro j fd v fp pos' a hF hV hr ha
        obtain ⟨⟨_, hpk⟩, hne⟩ := hfields fd (List.mem_of_getElem? hF)
        obtain ⟨e1, e2, e3⟩ := FieldParams_tests (env := env) (fuel := fuel) (v := v) (AperTotal.resolveRef_shape _ _ _ _ _ _ hr)
        refine ihRT pos' fd.ty fp v a (e1 ▸ hpk) (e2 ▸ hne) ?_ ha
        rcases hcf j fd v hF hV with ⟨ho, hn⟩ | hcv
        · -- an absent optional is never passed to the encoder
          obtain ⟨t, ht⟩ := hoptptr fd (List.mem_of_getElem? hF) ho
          rw [ht, (AperSpec.isNil_iff v).mp hn] at ha
          cases fuel with
          | zero => exact absurd ha AperEnc.encField_zero
          | succ fuel' => simp [encField, err] at ha
        · rw [e3]; exact hcv
      · intro j fd v hF _ ho hn
        obtain ⟨t, ht⟩ := hoptptr fd (List.mem_of_getElem? hF) ho
        rw [ht, zeroVal_ptr, (AperSpec.isNil_iff v).mp hn]
    | @choice id sd fs b hsd hch hb =>
      simp only [paramsOKx, Bool.not_eq_true'] at hp
      simp only [conf, hsd, hch, Bool.not_true, Bool.false_eq_true, if_false] at hc
      have hst := rtOK_get env hwf id sd hsd
      simp only [structRT, hch, if_true, Bool.and_eq_true, List.all_eq_true, Bool.not_eq_true'] at hst
      obtain ⟨⟨hnoopt, halts⟩, haok⟩ := hst
      have hopt0 : optCountOf sd = 0 := by
        unfold optCountOf
        rw [List.length_eq_zero_iff, List.filter_eq_nil_iff]
        intro f hf
        rw [hnoopt f hf]; simp
      unfold confChoice at hc
      simp only [Bool.and_eq_true, decide_eq_true_eq] at hc
      obtain ⟨hlen, hc2⟩ := hc
      obtain ⟨p, alts, fd, alt, rfl, hp0, _, hfd, halt, _⟩ := AperSpec.encChoice_inv _ _ _ _ _ _ hb
      simp only [hfd, halt, Bool.and_eq_true] at hc2
      obtain ⟨hnil, hcv, hne⟩ := hc2
      have haltptr : ∀ (k : Nat) (fd : Aper.Field), 0 < k → sd.fields[k]? = some fd →
          isPtr fd.ty = true ∧ paramsOKx (exIds env) env.length fd.ty fd.params = true := fun k fd hk hfd =>
        halts fd (List.mem_of_getElem? (i := k - 1) (by
          rw [List.getElem?_drop, show 1 + (k - 1) = k by omega]; exact hfd))
      refine RT'_decField_struct env fuel id sd params b pos _ hsd hp
        (RT_decStruct_choice (encField env fuel) (decField env fuel) (refFieldValue env fuel) (zeroVal env fuel)
          sd params _ (.int p :: alts) b hch hopt0 haok ?_ ?_ hb)
      · intro p' fd' alt' pos' a hp0' _ hF hV ha
        cases hp0'
        rw [hfd] at hF; cases hF
        rw [halt] at hV; cases hV
        exact ⟨neTy_sound env _ _ hne fuel pos' _ a ha, ih pos' _ _ _ a (haltptr _ _ (by omega) hfd).2 hcv ha⟩
      · intro p' alt' hp0' hpos hV
        cases hp0'
        refine choice_shape (zeroVal env fuel) sd.fields _ alts p alt' hlen rfl hpos hnil hV fun k fd hk hfd => ?_
        obtain ⟨t, ht⟩ := isPtr_spec _ (haltptr k fd hk hfd).1
        rw [ht, zeroVal_ptr]

theorem bytesToBits_zero : bytesToBits [0] = List.replicate 8 false := by decide

/-- `UnmarshalWithParams (MarshalWithParams v) = v`: the packed octets (zero padded; one zero octet for an empty
    encoding) are decoded to the value, whatever is left in the last octet being ignored -/
theorem marshal_unmarshal (env : Env) (hwf : rtOK env = true) (fuel : Nat) (ty : Ty) (params : Params) (v : Val)
    (bs : Bytes) (hp : paramsOK env ty params = true) (hc : conf env fuel ty params v = true)
    (h : marshal env fuel ty params v = .ok bs) : unmarshal env fuel ty params bs = .ok v := by
  unfold marshal at h
  cases henc : encField env fuel 0 ty params v with
  | error e => rw [henc] at h; simp at h
  | ok bits =>
    rw [henc] at h
    dsimp only at h
    have hrt := RT_field env hwf fuel 0 ty params v bits hp hc henc
    unfold unmarshal
    cases hbe : bits with
    | nil =>
      rw [hbe] at h hrt
      simp only [List.isEmpty_nil, if_true, Except.ok.injEq] at h
      rw [← h]
      have hrd : Rd.ofBytes [0] = mkRd ([] ++ List.replicate 8 false) 0 := by
        unfold Rd.ofBytes mkRd
        rw [bytesToBits_zero]; rfl
      rw [hrd, hrt (List.replicate 8 false) (by simp) (by simp)]
    | cons x xs =>
      have hne : bits.isEmpty = false := by rw [hbe]; rfl
      simp only [hne, Bool.false_eq_true, if_false, Except.ok.injEq] at h
      rw [← h]
      have hrd : Rd.ofBytes (bitsToBytes bits) = mkRd (bits ++ alignBits bits.length) 0 := by
        unfold Rd.ofBytes mkRd
        rw [← bytesToBits_length, bytesToBits_bitsToBytes]
        rfl
      rw [hrd, hrt (alignBits bits.length) (by
        rw [AperSpec.alignBits_length]; omega) (by rw [hbe]; simp)]

end Stgutg.Proofs.AperRTComp
