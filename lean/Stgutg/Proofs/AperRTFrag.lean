/-
  C04 helper lemmas: fragmented lengths (X.691 11.9.3.8). The decoder loops `parseOctetStringLoop`, `parseBitStringLoop`
  and `openTypeOctets` read back, for EVERY length, what the fragmentation loop of the encoder wrote. The encoder side is
  taken through its normal form `Spec.X691.lengthAndItems` (`Proofs.AperSpec.fragLoop_unc`); the OCTET STRING and BIT STRING
  loops are instances of one loop (`ItemLoop`), and the open-type loop is the OCTET STRING loop (`openTypeOctets_eq`).
  `ItemLoop.frag` is the one statement the callers use: what `fragLoop` wrote with a general length is read back by the loop
  with the fuel the decoders give it. With that, the round trips of OCTET STRING, PrintableString, BIT STRING and open types for every length.
-/
import Stgutg.Proofs.AperRT
import Stgutg.Proofs.AperRTCompBits

namespace Stgutg.Proofs.AperRT
open Stgutg Stgutg.Aper Stgutg.Proofs.Bits Stgutg.Proofs.AperRTComp
open Stgutg.Spec.X691 (pad lengthAndItems)

/-! ### the item loops -/

theorem fragHeader_facts : ∀ m : Fin 5, 1 ≤ m.val →
    natToBits 8 (192 + m.val) = [true, true] ++ natToBits 6 m.val ∧ (192 + m.val) &&& 128 ≠ 0 ∧
    (192 + m.val) &&& 64 ≠ 0 ∧ (192 + m.val) &&& 63 = m.val := by decide

/-- the fragment header `11mmmmmm`, octet-aligned: m·16K items follow and another length after them -/
theorem RT_fragHeader (pos m : Nat) (hm1 : 1 ≤ m) (hm4 : m ≤ 4) :
    RT (alignBits pos ++ [true, true] ++ natToBits 6 m) pos (parseLength (-1)) (16384 * m, true) := by
  obtain ⟨f1, f2, f3, f4⟩ := fragHeader_facts ⟨m, by omega⟩ hm1
  simp only at f1 f2 f3 f4
  unfold parseLength
  have c : ¬ ((-1 : Int) ≤ 65536 ∧ (-1 : Int) > 0) := by decide
  simp only [c, if_false]
  rw [List.append_assoc]
  refine RT_seq (RT_align pos) ?_
  rw [← f1]
  refine RT_bind_nil (RT_getBitsValue 8 (192 + m) _ (by decide) (by omega) (by omega)) ?_
  have c1 : ¬ (m < 1 ∨ m > 4) := by omega
  simp only [f2, f3, if_false, f4, c1]
  exact RT_pure _ _

/-- the fragment taken from `n ≥ 16K` items: m·16K of them with 1 ≤ m ≤ 4 -/
theorem frag_count (n : Nat) (h : ¬ n < 16384) :
    1 ≤ min 4 (n / 16384) ∧ min 4 (n / 16384) ≤ 4 ∧ min 4 (n / 16384) * 16384 ≤ n := by omega

/-- at an octet boundary: the availability check of parseBitString passes and the bits are read -/
theorem RT_checkedBits {α : Type} (pos : Nat) (content : Bits) (k : Bits → D α) (a : α) (b2 : Bits)
    (hne : content.length ≠ 0) (hal : pos % 8 = 0)
    (hk : RT b2 (pos + content.length) (k content) a) :
    RT (content ++ b2) pos (D.get >>= fun r =>
      if 8 * ((content.length + 7) / 8) > r.len then D.fail .error else getBits content.length >>= k) a := by
  intro tail ht
  rw [D_bind_apply]
  have hget : D.get (mkRd (content ++ b2 ++ tail) pos) = .ok (mkRd (content ++ b2 ++ tail) pos, mkRd (content ++ b2 ++ tail) pos) := rfl
  rw [hget]
  dsimp only
  have hlen : (mkRd (content ++ b2 ++ tail) pos).len = content.length + b2.length + tail.length := by
    simp [mkRd, List.length_append]; omega
  have hchk : ¬ 8 * ((content.length + 7) / 8) > (mkRd (content ++ b2 ++ tail) pos).len := by
    rw [hlen]
    rw [List.length_append] at ht
    omega
  simp only [hchk, if_false]
  exact RT_bind (RT_getBits content pos hne) hk tail ht

theorem lengthAndItems_length (unit : Nat) : ∀ (f pos n : Nat) (items : Bits), items.length = n * unit →
    n / 16384 + 1 ≤ f → items.length ≤ (lengthAndItems unit f pos n items).length := by
  intro f
  induction f with
  | zero => intro pos n items _ h; omega
  | succ f ih =>
    intro pos n items hl hf
    unfold lengthAndItems
    by_cases hn : n < 16384
    · simp only [hn, if_true]
      by_cases h0 : n = 0
      · subst h0; simp at hl; simp [hl]
      · simp only [h0, if_false, List.length_append]; omega
    · simp only [hn, if_false]
      obtain ⟨hm1, _, hmn⟩ := frag_count n hn
      generalize min 4 (n / 16384) = m at hm1 hmn
      have hdl : (items.drop (m * 16384 * unit)).length = (n - m * 16384) * unit := by
        rw [List.length_drop, hl, Nat.sub_mul]
      have := ih (pos + (pad pos ++ [true, true] ++ natToBits 6 m).length +
          (pad (pos + (pad pos ++ [true, true] ++ natToBits 6 m).length)).length +
          (items.take (m * 16384 * unit)).length) (n - m * 16384) (items.drop (m * 16384 * unit)) hdl (by omega)
      have htd : (items.take (m * 16384 * unit)).length + (items.drop (m * 16384 * unit)).length = items.length := by
        rw [← List.length_append, List.take_append_drop]
      simp only [List.length_append] at this ⊢
      omega

/-- `parseOctetStringLoop` and `parseBitStringLoop` are one loop `L`: read a length and, unless it is 0, align and run `step`
    on that many items of `unit` bits — `step` reads them, adds them to the value accumulated so far (`app`) and goes
    round again after a fragment. (Both loops unfold to this shape by `rfl`.) -/
structure ItemLoop {γ : Type} (unit : Nat) (sr lb : Int) (L : Nat → γ → D γ) (step : Nat → Bool → Nat → γ → D γ)
    (app : γ → Bits → γ) : Prop where
  unfold : ∀ g acc, L (g + 1) acc = parseLength sr >>= fun x =>
    if ((x.1 : Int) + lb).toNat = 0 then pure acc
    else parseAlignBits >>= fun _ => step ((x.1 : Int) + lb).toNat x.2 g acc
  read : ∀ (pos : Nat) (chunk : Bits) (k : Nat) (rep : Bool) (g : Nat) (acc : γ) (b2 : Bits) (c : γ),
    chunk.length = k * unit → k ≠ 0 → pos % 8 = 0 →
    RT b2 (pos + chunk.length) (if rep then L g (app acc chunk) else pure (app acc chunk)) c →
    RT (chunk ++ b2) pos (step k rep g acc) c
  app_nil : ∀ acc, app acc [] = acc
  app_append : ∀ acc (a b : Bits), a.length % 8 = 0 → app (app acc a) b = app acc (a ++ b)

namespace ItemLoop

/-- one pass of the loop: what the fragmentation loop wrote for fewer than 16K items (any size range, any lower bound) -/
theorem pass {γ : Type} {unit : Nat} {sr lb : Int} {L : Nat → γ → D γ} {step : Nat → Bool → Nat → γ → D γ}
    {app : γ → Bits → γ} (I : ItemLoop unit sr lb L step app) (pos n : Nat) (items : Bits) (acc : γ) (g f' : Nat) (b : Bits)
    (hlen : items.length = n * unit) (hlb : 0 ≤ lb) (hge : lb ≤ n) (hsmall : n - lb.toNat < 16384)
    (hF : fragLoop unit sr lb.toNat (f' + 1) pos (n - lb.toNat) items = .ok b) :
    RT b pos (L (g + 1) acc) (app acc items) := by
  rw [AperSpec.fragLoop_small _ _ _ _ _ _ _ hsmall] at hF
  split at hF
  · cases hF
  · rename_i lenBits hlenBits
    have hpl := RT_length pos sr _ lenBits hsmall hlenBits
    have hraw : (((n - lb.toNat : Nat) : Int) + lb).toNat = n := by omega
    rw [show n - lb.toNat + lb.toNat = n by omega] at hF
    rw [I.unfold]
    by_cases h0 : n = 0
    · rw [if_pos h0] at hF; cases hF
      obtain rfl : items = [] := List.length_eq_zero_iff.mp (by rw [hlen, h0, Nat.zero_mul])
      refine RT_bind_nil hpl ?_
      dsimp only
      rw [hraw, if_pos h0, I.app_nil]
      exact RT_pure _ _
    · rw [if_neg h0, List.take_of_length_le (Nat.le_of_eq hlen)] at hF; cases hF
      rw [List.append_assoc]
      refine RT_bind hpl ?_
      dsimp only
      rw [hraw, if_neg h0]
      refine RT_seq (RT_align _) ?_
      refine RT_congr_bits (List.append_nil items)
        (I.read _ items n false g acc [] _ hlen h0 (AperSpec.aligned_after _) ?_)
      simp only [Bool.false_eq_true, if_false]
      exact RT_pure _ _

/-- 11.9.3.5–8: the loop reads back a general length and its items, fragmented or not -/
theorem items {γ : Type} {unit : Nat} {L : Nat → γ → D γ} {step : Nat → Bool → Nat → γ → D γ}
    {app : γ → Bits → γ} (I : ItemLoop unit (-1) 0 L step app) : ∀ (f pos n : Nat) (items : Bits) (acc : γ) (g : Nat),
    items.length = n * unit → n / 16384 + 1 ≤ f → f ≤ g →
    RT (lengthAndItems unit f pos n items) pos (L g acc) (app acc items) := by
  intro f
  induction f with
  | zero => intro pos n items acc g _ h; omega
  | succ f ih =>
    intro pos n items acc g hlen hf hg
    obtain ⟨g', rfl⟩ : ∃ g', g = g' + 1 := ⟨g - 1, by omega⟩
    by_cases hn : n < 16384
    · -- a single length, then the items: one pass
      exact I.pass pos n items acc g' (f + 1) _ hlen (Int.le_refl 0) (by omega) (by omega)
        (AperSpec.fragLoop_unc unit (by omega) (f + 1) pos n items hlen (by omega))
    · -- a fragment of m·16K items, then the rest
      unfold lengthAndItems
      rw [if_neg hn, I.unfold]
      obtain ⟨hm1, hm4, hmn⟩ := frag_count n hn
      dsimp only
      generalize min 4 (n / 16384) = m at hm1 hm4 hmn
      rw [List.append_assoc, List.append_assoc]
      simp only [AperSpec.pad_eq]
      refine RT_bind (RT_fragHeader pos m hm1 hm4) ?_
      dsimp only
      rw [show (((16384 * m : Nat) : Int) + 0).toNat = 16384 * m by omega, if_neg (by omega)]
      refine RT_seq (RT_align _) ?_
      have hmu : m * 16384 * unit ≤ items.length := by rw [hlen]; exact Nat.mul_le_mul_right _ hmn
      have hcl : (items.take (m * 16384 * unit)).length = 16384 * m * unit := by
        rw [List.length_take, Nat.min_eq_left hmu, Nat.mul_comm m]
      have hdl : (items.drop (m * 16384 * unit)).length = (n - m * 16384) * unit := by
        rw [List.length_drop, hlen, Nat.sub_mul]
      refine I.read _ _ (16384 * m) true g' acc _ _ hcl (by omega) (AperSpec.aligned_after _) ?_
      have h8 : (items.take (m * 16384 * unit)).length % 8 = 0 := by rw [hcl, Nat.mul_assoc]; omega
      have e : app (app acc (items.take (m * 16384 * unit))) (items.drop (m * 16384 * unit)) = app acc items := by
        rw [I.app_append _ _ _ h8, List.take_append_drop]
      rw [if_pos rfl, ← e]
      exact ih _ _ _ _ g' hdl (by omega) (by omega)

/-- the loop reads back what `fragLoop` wrote with a general length, with any fuel above the number of fragments or above
    the number of bits written (every round reads at least one) — in particular as the decoders call it, with the fuel
    taken from the reader -/
theorem frag {γ : Type} {unit : Nat} {L : Nat → γ → D γ} {step : Nat → Bool → Nat → γ → D γ}
    {app : γ → Bits → γ} (I : ItemLoop unit (-1) 0 L step app) (hunit : (16384 * unit) % 8 = 0) (hu : 0 < unit)
    {pos n : Nat} {items bits : Bits} (acc : γ) (hlen : items.length = n * unit)
    (h : fragLoop unit (-1) 0 (n / 16384 + 2) pos n items = .ok bits) :
    (∀ g, n / 16384 + 1 ≤ g ∨ bits.length < g → RT bits pos (L g acc) (app acc items)) ∧
    RT bits pos (D.get >>= fun r => L (r.len + 2) acc) (app acc items) := by
  rw [AperSpec.fragLoop_unc unit hunit (n / 16384 + 1) pos n items hlen (Nat.le_refl _)] at h
  cases h
  have hge := lengthAndItems_length unit (n / 16384 + 1) pos n items hlen (Nat.le_refl _)
  have hn : n ≤ items.length := by rw [hlen]; exact Nat.le_mul_of_pos_right n hu
  have key : ∀ g, n / 16384 + 1 ≤ g ∨ (lengthAndItems unit (n / 16384 + 1) pos n items).length < g →
      RT (lengthAndItems unit (n / 16384 + 1) pos n items) pos (L g acc) (app acc items) :=
    fun g hg => I.items (n / 16384 + 1) pos n items acc g hlen (Nat.le_refl _) (by omega)
  exact ⟨key, RT_get_len _ _ _ _ fun r hr => key _ (Or.inr (by omega))⟩

end ItemLoop

theorem octLoop_itemLoop (sr lb : Int) : ItemLoop 8 sr lb (parseOctetStringLoop sr lb)
    (fun k rep g acc => takeOctets k >>= fun b =>
      if rep then parseOctetStringLoop sr lb g (acc ++ b) else pure (acc ++ b))
    (fun acc chunk => acc ++ bitsToBytes chunk) where
  unfold _ _ := rfl
  read pos chunk k rep g acc b2 c hlen _ _ h := by
    have hmod : chunk.length % 8 = 0 := by omega
    have hoct := RT_takeOctets pos (bitsToBytes chunk)
    rw [bytesToBits_bitsToBytes_aligned _ hmod,
      show (bitsToBytes chunk).length = k by have := bitsToBytes_length_aligned _ hmod; omega] at hoct
    exact RT_bind hoct h
  app_nil acc := List.append_nil acc
  app_append acc a b h := by rw [List.append_assoc, ← bitsToBytes_append_aligned a b h]

theorem bitLoop_itemLoop (sr lb : Int) : ItemLoop 1 sr lb
    (fun g (p : Bytes × Nat) => parseBitStringLoop sr lb g p.1 p.2)
    (fun k rep g p => D.get >>= fun r => if 8 * ((k + 7) / 8) > r.len then D.fail .error else
      getBits k >>= fun b => if rep then parseBitStringLoop sr lb g (p.1 ++ bitsToBytes b) (p.2 + k)
        else pure (p.1 ++ bitsToBytes b, p.2 + k))
    (fun p chunk => (p.1 ++ bitsToBytes chunk, p.2 + chunk.length)) where
  unfold _ _ := rfl
  read pos chunk k rep g p b2 c hlen hk hal h := by
    obtain rfl : k = chunk.length := by omega
    exact RT_checkedBits pos chunk _ c b2 hk hal h
  app_nil p := Prod.ext (List.append_nil _) rfl
  app_append p a b h := by
    simp only [List.append_assoc, ← bitsToBytes_append_aligned a b h, List.length_append, Nat.add_assoc]

/-- one pass of the OCTET STRING loop: what the fragmentation loop wrote for an unfragmented string -/
theorem RT_octLoop (pos : Nat) (sr lb : Int) (bs acc : Bytes) (fuel fuel' : Nat) (b : Bits)
    (hlb : 0 ≤ lb) (hge : lb ≤ bs.length) (hlen : bs.length - lb.toNat < 16384)
    (hF : fragLoop 8 sr lb.toNat (fuel' + 1) pos (bs.length - lb.toNat) (bytesToBits bs) = .ok b) :
    RT b pos (parseOctetStringLoop sr lb (fuel + 1) acc) (acc ++ bs) := by
  have := (octLoop_itemLoop sr lb).pass pos bs.length (bytesToBits bs) acc fuel fuel' b
    (by rw [bytesToBits_length]; omega) hlb hge hlen hF
  rwa [bitsToBytes_bytesToBits] at this

theorem RT_bitLoop (pos : Nat) (sr lb : Int) (content : Bits) (accB : Bytes) (accL fuel fuel' : Nat) (b : Bits)
    (hlb : 0 ≤ lb) (hge : lb ≤ content.length) (hlen : content.length - lb.toNat < 16384)
    (hF : fragLoop 1 sr lb.toNat (fuel' + 1) pos (content.length - lb.toNat) content = .ok b) :
    RT b pos (parseBitStringLoop sr lb (fuel + 1) accB accL) (accB ++ bitsToBytes content, accL + content.length) :=
  (bitLoop_itemLoop sr lb).pass pos content.length content (accB, accL) fuel fuel' b (by omega) hlb hge hlen hF

/-- 17.8 with 11.9.3.5–8: the OCTET STRING loop reads back a general length and its octets, fragmented or not -/
theorem RT_octItems : ∀ (f pos : Nat) (bs acc : Bytes) (g : Nat), bs.length / 16384 + 1 ≤ f → f ≤ g →
    RT (lengthAndItems 8 f pos bs.length (bytesToBits bs)) pos (parseOctetStringLoop (-1) 0 g acc) (acc ++ bs) := by
  intro f pos bs acc g hf hg
  have := (octLoop_itemLoop (-1) 0).items f pos bs.length (bytesToBits bs) acc g (by rw [bytesToBits_length]; omega) hf hg
  rwa [bitsToBytes_bytesToBits] at this

theorem getBits_pos {n : Nat} {r r' : Rd} {b : Bits} (h : getBits n r = .ok (b, r')) : r'.pos = r.pos + n := by
  unfold getBits at h
  split at h
  · cases h
  · split at h
    · cases h
    · cases h; rfl

theorem getBitsValue_pos {n v : Nat} {r r' : Rd} (h : getBitsValue n r = .ok (v, r')) : r'.pos = r.pos + n := by
  unfold getBitsValue at h
  rw [D_bind_apply] at h
  split at h
  · rename_i b r1 hb
    rw [D_pure_apply] at h
    cases h
    exact getBits_pos hb
  · cases h

theorem parseAlignBits_pos {r r' : Rd} (h : parseAlignBits r = .ok ((), r')) : r'.pos % 8 = 0 := by
  unfold parseAlignBits at h
  split at h
  · split at h
    · cases h
    · rename_i v r1 hv
      have := getBitsValue_pos hv
      split at h
      · cases h
      · cases h; omega
  · cases h; omega

/-- the alignment that ends `parseOpenType` finds the reader aligned: the open-type loop is the OCTET STRING loop -/
theorem openTypeOctets_eq : ∀ (g : Nat) (acc : Bytes), openTypeOctets g acc = parseOctetStringLoop (-1) 0 g acc := by
  intro g
  induction g with
  | zero => intro acc; rfl
  | succ g ih =>
    intro acc
    funext r
    unfold openTypeOctets parseOctetStringLoop
    rw [D_bind_apply, D_bind_apply]
    cases parseLength (-1) r with
    | error e => rfl
    | ok x =>
      obtain ⟨⟨len, rep⟩, r1⟩ := x
      dsimp only
      rw [show ((len : Int) + 0).toNat = len by omega]
      by_cases h0 : len = 0
      · rw [if_pos h0, if_pos h0]
      · rw [if_neg h0, if_neg h0, D_bind_apply, D_bind_apply]
        cases hal : parseAlignBits r1 with
        | error e => rfl
        | ok y =>
          obtain ⟨_, r2⟩ := y
          dsimp only
          rw [D_bind_apply, D_bind_apply]
          cases hto : takeOctets len r2 with
          | error e => rfl
          | ok z =>
            obtain ⟨b, r3⟩ := z
            dsimp only
            cases rep
            · have hpos : r3.pos % 8 = 0 := by
                have := parseAlignBits_pos hal
                unfold takeOctets at hto
                split at hto
                · cases hto
                · cases hto; dsimp only; omega
              simp only [Bool.false_eq_true, if_false]
              rw [D_bind_apply]
              unfold parseAlignBits
              simp [hpos, D_pure_apply]
            · simp only [if_true]
              rw [ih]

/-- 11.2 with 11.9.3.5–8: the open-type loop reads back a general length and its octets, fragmented or not -/
theorem RT_openItems : ∀ (f pos : Nat) (bs acc : Bytes) (g : Nat), bs.length / 16384 + 1 ≤ f → f ≤ g →
    RT (lengthAndItems 8 f pos bs.length (bytesToBits bs)) pos (openTypeOctets g acc) (acc ++ bs) := by
  intro f pos bs acc g hf hg
  rw [openTypeOctets_eq]
  exact RT_octItems f pos bs acc g hf hg

/-- 16.11 with 11.9.3.5–8: the BIT STRING loop reads back a general length and its bits, fragmented or not -/
theorem RT_bitItems : ∀ (f pos : Nat) (content : Bits) (accB : Bytes) (accL g : Nat),
    content.length / 16384 + 1 ≤ f → f ≤ g →
    RT (lengthAndItems 1 f pos content.length content) pos (parseBitStringLoop (-1) 0 g accB accL)
      (accB ++ bitsToBytes content, accL + content.length) := by
  intro f pos content accB accL g hf hg
  exact (bitLoop_itemLoop (-1) 0).items f pos content.length content (accB, accL) g (by omega) hf hg

/-! ### string bodies -/

/-- what the round trip asks of the size constraint of a string in addition to `SizedParamsOK`, so that a length of
    16K or more is always a general length with lower bound 0 (then the library's loop fragments as X.691 does):
    SIZE(lb..MAX) only with lb = 0, and a constrained size (ub < 64K) ends below 16K -/
def FragParamsOK (params : Params) : Prop :=
  (params.sizeUB = none → params.sizeLB = none ∨ params.sizeLB = some 0) ∧
  (∀ u, params.sizeUB = some u → u ≤ 65535 → u < 16384)

/-- a string of 16K items or more is coded with a general length and lower bound 0 -/
theorem sizePreamble_big (len : Nat) (params : Params) (pre : Bits) (lb ub sr : Int) (hfrag : FragParamsOK params)
    (hlen : 16384 ≤ len)
    (h : sizePreamble len params.sizeExt params.sizeLB params.sizeUB = .ok (pre, lb, ub, sr)) : sr = -1 ∧ lb = 0 := by
  obtain ⟨hA, hB⟩ := hfrag
  unfold sizePreamble at h
  cases hl : params.sizeLB with
  | none => rw [hl] at h; cases h; exact ⟨rfl, rfl⟩
  | some l =>
    rw [hl] at h
    cases hu : params.sizeUB with
    | none =>
      have hl0 : l = 0 := by
        rcases hA hu with h1 | h1
        · rw [hl] at h1; cases h1
        · rw [hl] at h1; cases h1; rfl
      rw [hu] at h; cases h
      exact ⟨rfl, hl0⟩
    | some u =>
      rw [hu] at h
      dsimp only at h
      have hB' := hB u hu
      by_cases hle : (len : Int) ≤ u
      · have h64 : u > 65535 := by omega
        rw [if_pos hle] at h
        by_cases hshort : u > 65535 ∧ (len : Int) < l
        · rw [if_pos hshort] at h; cases h
        · rw [if_neg hshort] at h; cases h
          rw [if_pos h64, if_pos h64]
          exact ⟨rfl, rfl⟩
      · rw [if_neg hle] at h
        by_cases hext : (!params.sizeExt) = true
        · rw [if_pos hext] at h; cases h
        · rw [if_neg hext] at h; cases h
          exact ⟨rfl, rfl⟩

/-- OCTET STRING / PrintableString body, EVERY length: `parseOctetString` reads back what `appendOctetString` wrote
    (16K octets or more: fragments, X.691 11.9.3.8; only there is `FragParamsOK` needed) -/
theorem RT_octetString_any (pos : Nat) (bytes : Bytes) (params : Params) (bits : Bits)
    (hok : SizedParamsOK params) (hfrag : 16384 ≤ bytes.length → FragParamsOK params) (hv : params.valueExt = false)
    (h : appendOctetString pos bytes params.sizeExt params.sizeLB params.sizeUB = .ok bits) :
    RT bits pos (extBits params false >>= fun x => parseOctetString x.1 params.sizeLB params.sizeUB) bytes := by
  rw [AperSpec.appendOctetString_eq] at h
  obtain ⟨se, pre, lb, ub, ub0, sr, hsp, hpre, hse, hsb, hlb0, hcase⟩ := strEnc_ok hok h
  have hx := RT_extBits_sized pos params false se (by simp [hv]) hse
  rw [← hpre] at hx
  rcases hcase with ⟨hsr, hub, h1, rfl⟩ | ⟨hsr, hge, b, hb, rfl⟩
  · -- fixed size: no length; aligned when longer than two octets
    refine RT_bind hx ?_
    dsimp only
    unfold parseOctetString
    rw [hsb]
    dsimp only
    have e : ub.toNat = bytes.length := by omega
    rw [if_pos hsr, e]
    by_cases hgt : bytes.length > 2
    · rw [if_pos hgt, if_pos (by omega)]
      exact RT_seq (RT_align _) (RT_takeOctets _ bytes)
    · rw [if_neg hgt, if_neg (by omega), ← bytesToBits_length]
      have := RT_map bitsToBytes (RT_getBits (bytesToBits bytes) (pos + pre.length) (by rw [bytesToBits_length]; omega))
      rw [bitsToBytes_bytesToBits] at this
      exact this
  · refine RT_bind hx ?_
    dsimp only
    unfold parseOctetString
    rw [hsb]
    dsimp only
    rw [if_neg hsr]
    by_cases hlen : bytes.length < 16384
    · exact RT_get _ _ _ _ fun r => RT_octLoop _ sr lb bytes [] (r.len + 1) _ b hlb0 hge (by omega) hb
    · obtain ⟨rfl, rfl⟩ := sizePreamble_big bytes.length params pre lb ub0 sr (hfrag (by omega)) (by omega) hsp
      have := ((octLoop_itemLoop (-1) 0).frag (by decide) (by decide) [] (by rw [bytesToBits_length]; omega) hb).2
      rwa [List.nil_append, bitsToBytes_bytesToBits] at this

/-- BIT STRING body, EVERY length: `parseBitString` reads back the bits `appendBitString` wrote (the value's octets are
    the zero-padded packing of those bits) -/
theorem RT_bitString_any (pos : Nat) (bytes : Bytes) (len : Nat) (params : Params) (bits : Bits)
    (hok : SizedParamsOK params) (hfrag : 16384 ≤ len → FragParamsOK params) (hv : params.valueExt = false)
    (h : appendBitString pos bytes len params.sizeExt params.sizeLB params.sizeUB = .ok bits) :
    RT bits pos (extBits params false >>= fun x => parseBitString x.1 params.sizeLB params.sizeUB)
      (bitsToBytes ((bytesToBits bytes).take len), len) := by
  by_cases hbl : bytes.length < (len + 7) / 8
  · rw [AperSpec.appendBitString_eq, if_pos hbl] at h; cases h
  rw [AperSpec.appendBitString_eq, if_neg hbl] at h
  have hclen : ((bytesToBits bytes).take len).length = len := by
    rw [List.length_take, bytesToBits_length]; omega
  generalize (bytesToBits bytes).take len = content at h hclen ⊢
  subst hclen
  obtain ⟨se, pre, lb, ub, ub0, sr, hsp, hpre, hse, hsb, hlb0, hcase⟩ := strEnc_ok hok h
  have hx := RT_extBits_sized pos params false se (by simp [hv]) hse
  rw [← hpre] at hx
  rcases hcase with ⟨hsr, hub, h1, rfl⟩ | ⟨hsr, hge, b, hb, rfl⟩
  · refine RT_bind hx ?_
    dsimp only
    unfold parseBitString
    rw [hsb]
    dsimp only
    have e : ub.toNat = content.length := by omega
    rw [if_pos hsr, e]
    have h0 : content.length ≠ 0 := by omega
    by_cases hgt : (content.length + 7) / 8 > 2
    · rw [if_pos hgt, if_pos hgt]
      refine RT_seq (RT_align _) ?_
      exact RT_congr_bits (List.append_nil content)
        (RT_checkedBits _ content _ _ [] h0 (AperSpec.aligned_after _) (RT_pure _ _))
    · rw [if_neg hgt, if_neg hgt]
      exact RT_map (fun b => (bitsToBytes b, content.length)) (RT_getBits content (pos + pre.length) h0)
  · refine RT_bind hx ?_
    dsimp only
    unfold parseBitString
    rw [hsb]
    dsimp only
    rw [if_neg hsr]
    by_cases hlen : content.length < 16384
    · exact RT_get _ _ _ _ fun r => by
        simpa using RT_bitLoop _ sr lb content [] 0 (r.len + 1) _ b hlb0 hge (by omega) hb
    · obtain ⟨rfl, rfl⟩ := sizePreamble_big content.length params pre lb ub0 sr (hfrag (by omega)) (by omega) hsp
      simpa using ((bitLoop_itemLoop (-1) 0).frag (by decide) (by decide) ([], 0) (by omega) hb).2

/-! ### leaf level of parseField -/

theorem RT_leaf_octs_any (pos : Nat) (bytes : Bytes) (params : Params) (bits : Bits)
    (hok : SizedParamsOK params) (hfrag : 16384 ≤ bytes.length → FragParamsOK params) (hv : params.valueExt = false)
    (h : appendOctetString pos bytes params.sizeExt params.sizeLB params.sizeUB = .ok bits) :
    RT bits pos (leafDec .octs params) (.octs bytes) :=
  RT_bind_map Val.octs (RT_octetString_any pos bytes params bits hok hfrag hv h)

theorem RT_leaf_str_any (pos : Nat) (bytes : Bytes) (params : Params) (bits : Bits)
    (hok : SizedParamsOK params) (hfrag : 16384 ≤ bytes.length → FragParamsOK params) (hv : params.valueExt = false)
    (h : appendOctetString pos bytes params.sizeExt params.sizeLB params.sizeUB = .ok bits) :
    RT bits pos (leafDec .str params) (.str bytes) :=
  RT_bind_map Val.str (RT_octetString_any pos bytes params bits hok hfrag hv h)

theorem RT_leaf_bits_any (pos : Nat) (bytes : Bytes) (len : Nat) (params : Params) (bits : Bits)
    (hok : SizedParamsOK params) (hfrag : 16384 ≤ len → FragParamsOK params) (hv : params.valueExt = false)
    (hcanon : bitsToBytes ((bytesToBits bytes).take len) = bytes)
    (h : appendBitString pos bytes len params.sizeExt params.sizeLB params.sizeUB = .ok bits) :
    RT bits pos (leafDec .bits params) (.bits bytes len) := by
  have h1 := RT_bind_map (fun p : Bytes × Nat => Val.bits p.1 p.2) (RT_bitString_any pos bytes len params bits hok hfrag hv h)
  rw [hcanon] at h1
  exact h1

theorem RT_leaf_octs (pos : Nat) (bytes : Bytes) (params : Params) (bits : Bits)
    (hok : SizedParamsOK params) (hlen : bytes.length < 16384) (hv : params.valueExt = false)
    (h : appendOctetString pos bytes params.sizeExt params.sizeLB params.sizeUB = .ok bits) :
    RT bits pos (leafDec .octs params) (.octs bytes) :=
  RT_leaf_octs_any pos bytes params bits hok (fun h16 => absurd hlen (by omega)) hv h

theorem RT_leaf_str (pos : Nat) (bytes : Bytes) (params : Params) (bits : Bits)
    (hok : SizedParamsOK params) (hlen : bytes.length < 16384) (hv : params.valueExt = false)
    (h : appendOctetString pos bytes params.sizeExt params.sizeLB params.sizeUB = .ok bits) :
    RT bits pos (leafDec .str params) (.str bytes) :=
  RT_leaf_str_any pos bytes params bits hok (fun h16 => absurd hlen (by omega)) hv h

theorem RT_leaf_bits (pos : Nat) (bytes : Bytes) (len : Nat) (params : Params) (bits : Bits)
    (hok : SizedParamsOK params) (hlen : len < 16384) (hv : params.valueExt = false)
    (hcanon : bitsToBytes ((bytesToBits bytes).take len) = bytes)
    (h : appendBitString pos bytes len params.sizeExt params.sizeLB params.sizeUB = .ok bits) :
    RT bits pos (leafDec .bits params) (.bits bytes len) :=
  RT_leaf_bits_any pos bytes len params bits hok (fun h16 => absurd hlen (by omega)) hv hcanon h

/-! ### open types -/

/-- an open type of ANY content length: (fragmented) general length, alignment, the padded inner encoding; the decoder
    returns its octets -/
theorem RT_openType_of (pos1 : Nat) (inner bits : Bits) (g : Nat)
    (hg : (inner.length + 7) / 8 / 16384 + 1 ≤ g ∨ bits.length < g) (h : encOpenType pos1 inner = .ok bits) :
    RT bits pos1 (openTypeOctets g []) (bitsToBytes (inner ++ alignBits inner.length)) := by
  have hpl : (inner ++ alignBits inner.length).length = (inner.length + 7) / 8 * 8 := by
    rw [List.length_append, AperSpec.alignBits_length]; omega
  rw [openTypeOctets_eq]
  have := ((octLoop_itemLoop (-1) 0).frag (by decide) (by decide) [] hpl h).1 g hg
  rwa [List.nil_append] at this

theorem RT_openType_any (pos1 : Nat) (inner bits : Bits) (g : Nat)
    (hg : (inner.length + 7) / 8 / 16384 + 1 ≤ g) (h : encOpenType pos1 inner = .ok bits) :
    RT bits pos1 (openTypeOctets g []) (bitsToBytes (inner ++ alignBits inner.length)) :=
  RT_openType_of pos1 inner bits g (Or.inl hg) h

end Stgutg.Proofs.AperRT

