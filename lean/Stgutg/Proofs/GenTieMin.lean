import Stgutg.Gen.PureMin
import Stgutg.Model.Config
import Stgutg.Model.FailStop
/-!
  Tie by translation (C02): `Gen/PureMin.lean` is regenerated from src/stgutg/utils.go `Min` on every run by
  `gen pure-min`; the translated function IS `Model.Config.goMin` (the cascade `main` takes the procedure
  counts through).
-/
namespace Stgutg.Proofs.GenTie.Min
open Stgutg

/-- **Tie.** (The proof is by cases and arithmetic, so a rewrite of `Min` that computes the same function, e.g. `x >= y`,
    still checks; one that does not, fails.) The translated `Min` is the hand model used by the emulator / fail-stop models (C01, C02, C19). -/
theorem Min_eq : Gen.Pure.Min.Min = Model.FailStop.goMin := by
  funext x y
  unfold Gen.Pure.Min.Min Model.FailStop.goMin
  split <;> split <;> simp_all <;> omega

/-- … and the copy the configuration model (C18) uses. -/
theorem Min_eq_config : Gen.Pure.Min.Min = Model.Config.goMin :=
  Min_eq.trans rfl

end Stgutg.Proofs.GenTie.Min
