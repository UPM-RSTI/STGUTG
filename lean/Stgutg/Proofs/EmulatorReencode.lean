/-
  C01 / C02 helper: what the conversation proofs read off a plain 5GMM message that is `Props.C09.Sent`.
  `EncodeNasPduWithSecurity` first runs `PlainNasDecode` on the constructor's octets and re-encodes the decoded message with
  `PlainNasEncode`: this reproduces the octets (`Sent.reenc`; C08 through `Nas.plain_of_encode`).  The reference AMF looks at the
  three header octets and parses under the message's table (`Sent.judge`).
-/
import Stgutg.Proofs.EmulatorRun
import Stgutg.Proofs.BuildersJudge
import Stgutg.Props.C08
import Stgutg.Props.C09

namespace Stgutg.Proofs.EmulatorReencode
open Stgutg Stgutg.Nas Stgutg.Gen.Nas Stgutg.Gen Stgutg.Model.Emulator

/-- `PlainNasDecode` then `PlainNasEncode` reproduce the octets (`Proofs.EmulatorLife.Reenc`) -/
theorem _root_.Stgutg.Props.C09.Sent.reenc {T : Spec.Ts24501.Table} {i : Nat} {msg : Msg} {bs : Bytes} {expected : Spec.Ts24501.SMsg}
    (h : Props.C09.Sent T i msg bs expected) :
    ∃ pm, Nas.plainDecode nasCodec bs = .ok pm ∧ Nas.plainEncode nasCodec pm = .ok bs :=
  ⟨_, h.decodes, h.reencodes⟩

/-- what the reference AMF's handlers ask of a plain message: the three header octets and the parse under the table -/
theorem _root_.Stgutg.Props.C09.Sent.judge {T : Spec.Ts24501.Table} {i : Nat} {msg : Msg} {bs : Bytes} {expected : Spec.Ts24501.SMsg}
    (h : Props.C09.Sent T i msg bs expected) {a b c : UInt8} {tl : List Bytes} (hm : expected.mand = [a] :: [b] :: [c] :: tl) :
    Spec.Amf.parseNas T bs = some expected ∧
    Spec.Amf.byteAt bs 0 = a.toNat ∧ Spec.Amf.byteAt bs 1 = b.toNat ∧ Spec.Amf.byteAt bs 2 = c.toNat := by
  obtain ⟨r, rfl⟩ := h.head a b c tl hm
  exact ⟨h.parses, rfl, rfl, rfl⟩

/-- the wire structure C09 speaks of is that of the table with the layout's name -/
theorem wire_of_table {L : Layout} {t : Spec.Ts24501.Table} {w : Spec.Ts24501.Wire}
    (ht : Spec.Ts24501.tableByName L.name = some t) (hw : Props.C09.wireOf L = some w) : t.wire = some w := by
  unfold Props.C09.wireOf at hw
  rw [ht] at hw
  exact hw

/-- table fact: the messages of the registration exchange start with three one-octet elements (extended protocol
    discriminator, security header type, message type) -/
theorem wire_heads {L : Layout} {w : Spec.Ts24501.Wire}
    (hL : L ∈ [layout_RegistrationRequest, layout_AuthenticationRequest, layout_AuthenticationResponse,
      layout_SecurityModeComplete, layout_RegistrationComplete])
    (hw : Props.C09.wireOf L = some w) : w.mand.take 3 = [.v 1, .v 1, .v 1] := by
  have h : ∀ L ∈ [layout_RegistrationRequest, layout_AuthenticationRequest, layout_AuthenticationResponse,
      layout_SecurityModeComplete, layout_RegistrationComplete],
      (Props.C09.wireOf L).map (·.mand.take 3) = some [.v 1, .v 1, .v 1] := by decide +kernel
  have := h L hL
  rw [hw] at this
  exact Option.some.inj this

/-- **C08 on SECURITY MODE COMPLETE** (any NAS message container below 64 KiB) -/
theorem reenc_smc (rr smc : Bytes) (hlen : rr.length < 65536)
    (h : Ctor.encodeWith layout_SecurityModeComplete (Ctor.securityModeComplete (some rr)) = .ok smc) :
    ∃ pm4, Nas.plainDecode nasCodec smc = .ok pm4 ∧ Nas.plainEncode nasCodec pm4 = .ok smc := by
  obtain ⟨_, bs, henc, hs⟩ := Props.C09.securityModeComplete_sent (some rr) (by intro c hc; cases hc; exact hlen)
  cases henc.symm.trans h
  exact hs.reenc

/-- **C08 on REGISTRATION COMPLETE** without a SOR transparent container -/
theorem reenc_rc : ∀ rc, Nas.Ctor.encodeWith Gen.Nas.layout_RegistrationComplete (Nas.Ctor.registrationComplete none) = .ok rc →
    ∃ pm6, Nas.plainDecode nasCodec rc = .ok pm6 ∧ Nas.plainEncode nasCodec pm6 = .ok rc := by
  intro rc h
  obtain ⟨_, bs, henc, hs⟩ := Props.C09.registrationComplete_sent none (by simp)
  cases henc.symm.trans h
  exact hs.reenc

end Stgutg.Proofs.EmulatorReencode
