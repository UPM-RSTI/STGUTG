/-
  The NAS protection model (Model/NasProtect.lean: `NASEncode`, `NASDecode`, `GetNasPdu` of tglib) against the
  specification (Spec/NasSecurity.lean): one call (`ul_step`, `dl_step`), then one call with everything an induction over
  a history carries along (`ul_step_full`, `dl_step_full`). The algorithm layer comes from C07; counters are compared
  through `cval`, the NAS COUNT value of a stored word, so that bits 24..31 of the word never matter.
-/
import Stgutg.Model.NasProtect
import Stgutg.Spec.NasSecurity
import Stgutg.Proofs.Count
import Stgutg.Props.C07

namespace Stgutg.Proofs.NasProtect
open Stgutg Stgutg.Model.NasProtect Stgutg.Model.NasAlg
open Stgutg.Spec (NasSecurity.SecCtx)
open Stgutg.Spec.NasSecurity

/-- the specification-side view of the UE's security context -/
def ctxOf (ue : UeSec) : SecCtx :=
  { ia := ue.integrityAlg.toNat, ea := ue.cipheringAlg.toNat, kNasInt := ue.knasInt, kNasEnc := ue.knasEnc }

/-- the algorithm pairs the property quantifies over: {NIA1, NIA2} × {NEA0, NEA1, NEA2} -/
def Supported (ue : UeSec) : Prop :=
  (ue.integrityAlg = 1 ∨ ue.integrityAlg = 2) ∧ (ue.cipheringAlg = 0 ∨ ue.cipheringAlg = 1 ∨ ue.cipheringAlg = 2)

/-- what the theorems need from the external primitives: CTR is a keystream cipher, the CMAC tag has ≥ 4 octets -/
structure PrimsOk (P : Prims) : Prop where
  ctr_stream : ∃ stream : Bytes → Bytes → Nat → Bytes,
    (∀ k iv n, (stream k iv n).length = n) ∧ ∀ k iv m, P.ctr k iv m = xorBytes m (stream k iv m.length)
  cmac_len : ∀ k m, 4 ≤ (P.cmac k m).length

/-- a toy instance of the primitives used by the witnesses and satisfiability examples of C06/C10: CTR xors every octet with octet 4 of the
    counter block (BEARER ‖ DIRECTION), the CMAC tag is constant -/
def toyPrims : Prims :=
  { aes := fun _ b => b,
    ctr := fun _ iv m => xorBytes m (List.replicate m.length (iv.getD 4 0 ||| 0x80)),
    cmac := fun _ _ => [0xa0, 0xa1, 0xa2, 0xa3],
    hmac := fun _ _ => [] }

theorem toyPrims_ok : PrimsOk toyPrims :=
  ⟨⟨fun _ iv n => List.replicate n (iv.getD 4 0 ||| 0x80), fun _ _ _ => by simp, fun _ _ _ => rfl⟩,
   fun _ _ => by simp [toyPrims]⟩

theorem mac_tie (P : Prims) (ia : UInt8) (k : Bytes) (c : UInt32) (d : UInt8) (msg : Bytes)
    (hia : ia = 1 ∨ ia = 2) (hd : d.toNat < 2) (hm : msg ≠ []) :
    ∃ m, nasMac P ia k c bearer3GPP d msg = .ok m ∧ Spec.NasAlg.nia P ia.toNat k c 1 d.toNat msg = some m := by
  rcases hia with rfl | rfl
  · exact ⟨_, Props.C07.nia1 P k c 1 d msg (by decide) hd hm, rfl⟩
  · exact ⟨_, Props.C07.nia2 P k c 1 d msg (by decide) hd, rfl⟩

theorem enc_tie (P : Prims) (ea : UInt8) (k : Bytes) (c : UInt32) (d : UInt8) (msg : Bytes)
    (hea : ea = 0 ∨ ea = 1 ∨ ea = 2) (hd : d.toNat < 2) :
    ∃ b, nasEncrypt P ea k c bearer3GPP d msg = .ok b ∧ Spec.NasAlg.nea P ea.toNat k c 1 d.toNat msg = some b := by
  rcases hea with rfl | rfl | rfl
  · exact ⟨_, Props.C07.nea0_id P k c 1 d msg (by decide) hd, rfl⟩
  · exact ⟨_, Props.C07.nea1 P k c 1 d msg (by decide) hd, rfl⟩
  · exact ⟨_, Props.C07.nea2 P k c 1 d msg (by decide) hd, rfl⟩

/-- the NAS COUNT value of a stored word -/
def cval (w : UInt32) : Nat := w.toNat % 2 ^ 24

theorem cval_lt (w : UInt32) : cval w < 2 ^ 24 := Nat.mod_lt _ (by decide)

theorem cval_set_zero (w : UInt32) : cval (Count.set w 0 0) = 0 := Count.toNat_set_zero w

theorem cval_ofNat (c : Nat) (hc : c < 2 ^ 24) : cval (UInt32.ofNat c) = c := by
  unfold cval; rw [UInt32.toNat_ofNat']; omega

theorem toNat_count32 (c : Nat) : (count32 c).toNat = c % 2 ^ 24 := by
  rw [count32, countMod, UInt32.toNat_ofNat']
  exact Nat.mod_eq_of_lt (Nat.lt_trans (Nat.mod_lt _ (by decide)) (by decide))

theorem get_fst (w : UInt32) : (Count.get w).1 = (Count.get w).2 := rfl

/-- the 32-bit COUNT the code passes (`Count.Get()`) is 0x00 ‖ NAS COUNT of the specification -/
theorem get_eq (w : UInt32) : (Count.get w).2 = count32 (cval w) := by
  apply UInt32.toNat_inj.mp
  rw [Count.toNat_get_value, toNat_count32, cval, Nat.mod_mod]

theorem get_get (w : UInt32) : (Count.get (Count.get w).2).2 = (Count.get w).2 := by
  apply UInt32.toNat_inj.mp
  rw [Count.toNat_get_value, Count.toNat_get_value, Nat.mod_mod]

theorem toNat_addOne_get (w : UInt32) : (Count.addOne (Count.get w).1).toNat = (cval w + 1) % 2 ^ 24 := by
  unfold cval
  rw [Count.toNat_addOne, Count.toNat_get_stored]

theorem cval_addOne_get (w : UInt32) : cval (Count.addOne (Count.get w).1) = (cval w + 1) % 2 ^ 24 := by
  rw [cval, toNat_addOne_get, Nat.mod_mod]

/-- a NAS COUNT is overflow counter ‖ sequence number -/
theorem count_split (x : Nat) : x % 2 ^ 24 = overflowOf x * 256 + sqnOf x := by
  unfold overflowOf sqnOf
  rw [show 2 ^ 24 = 256 * 65536 from rfl, Nat.mod_mul]; omega

theorem sqnOf_mod (x : Nat) : sqnOf (x % 2 ^ 24) = sqnOf x := Nat.mod_mod_of_dvd x (by decide)

theorem overflowOf_mod (x : Nat) : overflowOf (x % 2 ^ 24) = overflowOf x := by
  unfold overflowOf
  rw [show 2 ^ 24 = 256 * 65536 from rfl, Nat.mod_mul_right_div_self, Nat.mod_mod]

theorem sqn_eq (w : UInt32) : Count.sqn w = UInt8.ofNat (sqnOf (cval w)) := by
  apply UInt8.toNat_inj.mp
  rw [Count.toNat_sqn, UInt8.toNat_ofNat', cval, sqnOf_mod, sqnOf, Nat.mod_mod]

theorem sqnOf_setSQN (w : UInt32) (s : UInt8) : sqnOf (Count.setSQN w s).toNat = s.toNat := by
  rw [Count.toNat_setSQN, sqnOf, Nat.mul_add_mod_self_right, Nat.mod_eq_of_lt s.toNat_lt]

theorem overflowOf_setSQN (w : UInt32) (s : UInt8) : overflowOf (Count.setSQN w s).toNat = overflowOf w.toNat := by
  rw [Count.toNat_setSQN, overflowOf, overflowOf, Nat.mul_comm, Nat.mul_add_div (by decide), Nat.div_eq_of_lt s.toNat_lt,
    Nat.add_zero]

theorem overflowOf_setOverflow (w : UInt32) (o : UInt16) : overflowOf (Count.setOverflow w o).toNat = o.toNat := by
  have := o.toNat_lt
  rw [Count.toNat_setOverflow, overflowOf]; omega

theorem beq_toNat (s k : UInt8) : (s == k) = (s.toNat == k.toNat) := by
  rw [Bool.eq_iff_iff]; simp [← UInt8.toNat_inj]

theorem isCipheredType_eq (s : UInt8) : isCipheredType s = ciphered s.toNat := by
  unfold isCipheredType ciphered
  rw [beq_toNat, beq_toNat]; rfl

theorem isNewContextType_eq (s : UInt8) : isNewContextType s = newContext s.toNat := by
  unfold isNewContextType newContext
  rw [beq_toNat, beq_toNat]; rfl

/-- ciphering under header types 2 and 4 only: the code's step and the specification's agree -/
theorem body_tie (P : Prims) (ue : UeSec) (hs : Supported ue) (sht : UInt8) (c : UInt32) (d : UInt8) (hd : d.toNat < 2)
    (msg : Bytes) :
    ∃ b, (if isCipheredType sht then nasEncrypt P ue.cipheringAlg ue.knasEnc c bearer3GPP d msg else .ok msg) = .ok b ∧
      (if ciphered sht.toNat then Spec.NasAlg.nea P ue.cipheringAlg.toNat ue.knasEnc c 1 d.toNat msg else some msg) = some b := by
  rw [← isCipheredType_eq]
  cases isCipheredType sht
  · exact ⟨msg, rfl, rfl⟩
  · exact enc_tie P ue.cipheringAlg ue.knasEnc c d msg hs.2 hd

/-- the UE state after the optional new-context reset at the start of `NASEncode` -/
def afterReset (ue : UeSec) (newCtx : Bool) : UeSec :=
  if newCtx then { ue with ulCount := Count.set ue.ulCount 0 0, dlCount := Count.set ue.dlCount 0 0 } else ue

theorem cval_afterReset_ul (ue : UeSec) (n : Bool) :
    cval (afterReset ue n).ulCount = if n then 0 else cval ue.ulCount := by
  cases n <;> simp [afterReset, cval_set_zero]

theorem cval_afterReset_dl (ue : UeSec) (n : Bool) :
    cval (afterReset ue n).dlCount = if n then 0 else cval ue.dlCount := by
  cases n <;> simp [afterReset, cval_set_zero]

/-- `NASEncode` in one equation, given the results of the two library calls -/
theorem nasEncodeCore_ok (cipherP : UInt8 → Bool) (P : Prims) (ue : UeSec) (op : UlOp) (hctx : op.ctxAvail = true) (body mac : Bytes)
    (henc : (if cipherP op.sht then
              nasEncrypt P ue.cipheringAlg ue.knasEnc (Count.get (afterReset ue op.newCtx).ulCount).2 bearer3GPP directionUplink op.plain
             else .ok op.plain) = .ok body)
    (hmac : nasMac P ue.integrityAlg ue.knasInt (Count.get (afterReset ue op.newCtx).ulCount).2 bearer3GPP directionUplink
              (Count.sqn (afterReset ue op.newCtx).ulCount :: body) = .ok mac) :
    nasEncodeCore cipherP P ue op =
      ({ afterReset ue op.newCtx with ulCount := Count.addOne (Count.get (afterReset ue op.newCtx).ulCount).1 },
       .ok ([op.epd, op.sht] ++ mac ++ (Count.sqn (afterReset ue op.newCtx).ulCount :: body))) := by
  unfold nasEncodeCore
  cases hn : op.newCtx <;> simp [hn, afterReset] at henc hmac <;>
    simp [hctx, afterReset, get_fst, get_get, henc, hmac]

/-- One protected uplink message, in the words of the property: with `c` the NAS COUNT in force
    (0 if a new context is taken into use), the octets are EPD ‖ type ‖ MAC ‖ SQN ‖ body where
    body = NEA(plain) under the ciphered header types and plain otherwise, MAC = NIA over SQN ‖ body,
    both with COUNT c, BEARER 1, DIRECTION uplink; the UL counter moves to c + 1 mod 2^24. -/
theorem ul_step (P : Prims) (ue : UeSec) (op : UlOp) (hs : Supported ue) (hctx : op.ctxAvail = true) :
    ∃ body mac,
      bodyAsSent P (ctxOf ue) uplink (if op.newCtx then 0 else cval ue.ulCount) op.sht.toNat op.plain = some body ∧
      macOf P (ctxOf ue) uplink (if op.newCtx then 0 else cval ue.ulCount) body = some mac ∧
      nasEncode P ue op =
        ({ afterReset ue op.newCtx with ulCount := Count.addOne (Count.get (afterReset ue op.newCtx).ulCount).1 },
         .ok ([op.epd, op.sht] ++ mac ++ [UInt8.ofNat (sqnOf (if op.newCtx then 0 else cval ue.ulCount))] ++ body)) := by
  have hc := cval_afterReset_ul ue op.newCtx
  obtain ⟨body, henc1, henc2⟩ := body_tie P ue hs op.sht (Count.get (afterReset ue op.newCtx).ulCount).2 directionUplink
    (by decide) op.plain
  rw [get_eq, hc] at henc2
  obtain ⟨mac, hm1, hm2⟩ := mac_tie P ue.integrityAlg ue.knasInt (Count.get (afterReset ue op.newCtx).ulCount).2
    directionUplink (Count.sqn (afterReset ue op.newCtx).ulCount :: body) hs.1 (by decide) (by simp)
  refine ⟨body, mac, henc2, ?_, ?_⟩
  · rw [get_eq, sqn_eq, hc] at hm2
    simpa [macOf, ctxOf, bearer3gpp, uplink, directionUplink] using hm2
  · rw [nasEncode, nasEncodeCore_ok isCipheredType P ue op hctx body mac henc1 hm1, sqn_eq, hc]
    simp

/-! ### the conformant receiver inverts the conformant sender (specification level) -/

/-- whichever 128-NEA the identifier selects is an involution (keystream ciphers) -/
theorem nea_involutive (P : Prims) (hP : PrimsOk P) (ea : Nat) (k : Bytes) (c : UInt32) (b d : Nat) (plain body : Bytes)
    (h : Spec.NasAlg.nea P ea k c b d plain = some body) : Spec.NasAlg.nea P ea k c b d body = some plain := by
  unfold Spec.NasAlg.nea at h ⊢
  split at h <;> simp only [Option.some.injEq, reduceCtorEq] at h <;> subst h
  · rfl
  · rw [Props.C07.eea1_involutive]
  · obtain ⟨stream, hlen, hctr⟩ := hP.ctr_stream
    rw [Props.C07.eea2_involutive P stream hctr hlen]

theorem eia1_length (k : Bytes) (c : UInt32) (b d : Nat) (msg : Bytes) : (Spec.NasAlg.eia1 k c b d msg).length = 4 := by
  unfold Spec.NasAlg.eia1
  simp only
  generalize hks : Spec.Snow3g.keystream 5 _ = ks
  have hl : ks.length = 5 := by rw [← hks]; exact Proofs.Snow3g.keystream_length 5 _
  match ks, hl with
  | [z1, z2, z3, z4, z5], _ => rfl

/-- a 128-NIA MAC has four octets -/
theorem nia_length (P : Prims) (hP : PrimsOk P) (ia : Nat) (k : Bytes) (c : UInt32) (b d : Nat) (msg mac : Bytes)
    (h : Spec.NasAlg.nia P ia k c b d msg = some mac) : ∃ m0 m1 m2 m3, mac = [m0, m1, m2, m3] := by
  have hl : mac.length = 4 := by
    unfold Spec.NasAlg.nia at h
    split at h
    · simp only [Option.some.injEq] at h; subst h; exact eia1_length ..
    · simp only [Option.some.injEq] at h; subst h
      have := hP.cmac_len k (Spec.NasAlg.countBearerDir c b d ++ msg)
      simp [Spec.NasAlg.eia2, List.length_take]; omega
    · simp at h
  match mac, hl with
  | [m0, m1, m2, m3], _ => exact ⟨m0, m1, m2, m3, rfl⟩

theorem protectedType_iff (sht : Nat) : protectedType sht = true ↔ 1 ≤ sht ∧ sht ≤ 4 := by
  have : protectedType sht = true ↔ ((sht = 1 ∨ sht = 2) ∨ sht = 3) ∨ sht = 4 := by simp [protectedType]
  rw [this]; omega

/-- what `protect` emits, taken apart -/
theorem protect_eq_some (P : Prims) (hP : PrimsOk P) (ctx : SecCtx) (dir c : Nat) (epd : UInt8) (sht : Nat)
    (plain out : Bytes) (h : protect P ctx dir c epd sht plain = some out) :
    protectedType sht = true ∧ ∃ body m0 m1 m2 m3,
      bodyAsSent P ctx dir c sht plain = some body ∧ macOf P ctx dir c body = some [m0, m1, m2, m3] ∧
      out = epd :: UInt8.ofNat sht :: m0 :: m1 :: m2 :: m3 :: UInt8.ofNat (sqnOf c) :: body := by
  unfold protect at h
  cases hpt : protectedType sht
  · simp [hpt] at h
  simp only [hpt, Bool.not_true, Bool.false_eq_true, if_false] at h
  cases hb : bodyAsSent P ctx dir c sht plain with
  | none => simp [hb] at h
  | some body =>
    simp only [hb] at h
    cases hm : macOf P ctx dir c body with
    | none => simp [hm] at h
    | some mac =>
      simp only [hm, Option.some.injEq] at h
      obtain ⟨m0, m1, m2, m3, rfl⟩ := nia_length P hP _ _ _ _ _ _ _ hm
      exact ⟨rfl, body, m0, m1, m2, m3, rfl, hm, h.symm⟩

/-- the body as sent, deciphered under the ciphered header types, is the plain message again -/
theorem bodyAsSent_inv (P : Prims) (hP : PrimsOk P) (ctx : SecCtx) (dir c sht : Nat) (plain body : Bytes)
    (h : bodyAsSent P ctx dir c sht plain = some body) :
    (if ciphered sht then Spec.NasAlg.nea P ctx.ea ctx.kNasEnc (count32 c) bearer3gpp dir body else some body)
      = some plain := by
  unfold bodyAsSent at h
  cases hc : ciphered sht
  · simp [hc] at h ⊢; exact h.symm
  · simp only [hc, if_true] at h ⊢
    exact nea_involutive P hP _ _ _ _ _ _ _ h

theorem ofNat_sht_toNat (sht : Nat) (h : sht ≤ 4) : (UInt8.ofNat sht).toNat = sht := by
  rw [UInt8.toNat_ofNat']; omega

theorem sqnOf_lt (c : Nat) : sqnOf c < 256 := Nat.mod_lt _ (by decide)

theorem ofNat_sqnOf_toNat (c : Nat) : (UInt8.ofNat (sqnOf c)).toNat = sqnOf c := by
  rw [UInt8.toNat_ofNat']; exact Nat.mod_eq_of_lt (sqnOf_lt c)

/-- **receiver-recovers-plaintext**: whatever `protect` emits, `receive` with the same context and NAS COUNT
    accepts (sequence number and MAC check out) and returns exactly the plain message. -/
theorem receive_protect (P : Prims) (hP : PrimsOk P) (ctx : SecCtx) (dir c : Nat) (epd : UInt8) (sht : Nat)
    (plain out : Bytes) (h : protect P ctx dir c epd sht plain = some out) : receive P ctx dir c out = some plain := by
  obtain ⟨hpt, body, m0, m1, m2, m3, hb, hm, rfl⟩ := protect_eq_some P hP ctx dir c epd sht plain out h
  have h14 := (protectedType_iff sht).mp hpt
  have h0 : ¬ sht = 0 := by omega
  simpa [receive, ofNat_sht_toNat sht h14.2, h0, hpt, sqnOf_lt, hm]
    using bodyAsSent_inv P hP ctx dir c sht plain body hb

/-- TS 24.501 4.4.3.1: the estimate from the sequence number alone is right while the sender is at most 255 ahead
    (mod 2^24) of the receiver's stored NAS COUNT: the sequence number has wrapped exactly when it is smaller
    than the stored one. -/
theorem estimate_ahead (prev d : Nat) (hp : prev < 2 ^ 24) (hd : d < 256) :
    estimate prev (sqnOf ((prev + d) % 2 ^ 24)) = (prev + d) % 2 ^ 24 := by
  rw [sqnOf_mod, count_split]
  unfold estimate sqnOf overflowOf
  dsimp only
  have hq : prev / 256 % 65536 = prev / 256 := Nat.mod_eq_of_lt (by omega)
  by_cases hcarry : (prev + d) % 256 < prev % 256
  · rw [if_pos hcarry, hq, show (prev + d) / 256 = prev / 256 + 1 by omega]
  · rw [if_neg hcarry, hq, show (prev + d) / 256 = prev / 256 by omega, hq]

/-- `if SQN() > sqn { SetOverflow(Overflow()+1) }; SetSQN(sqn)` -/
def estim (w : UInt32) (s : UInt8) : UInt32 :=
  Count.setSQN (if Count.sqn w > s then Count.setOverflow w (Count.overflow w + 1) else w) s

/-- on the NAS COUNT value of the stored word — whatever its bits 24..31 — this is the specification's estimate -/
theorem cval_estim (w : UInt32) (s : UInt8) : cval (estim w s) = estimate (cval w) s.toNat := by
  unfold estim estimate cval
  rw [count_split, overflowOf_setSQN, sqnOf_setSQN, sqnOf_mod, overflowOf_mod]
  dsimp only
  have hlt : Count.sqn w > s ↔ s.toNat < sqnOf w.toNat := by
    rw [gt_iff_lt, UInt8.lt_iff_toNat_lt, Count.toNat_sqn]; rfl
  by_cases h : s.toNat < sqnOf w.toNat
  · rw [if_pos (hlt.mpr h), if_pos h, overflowOf_setOverflow, UInt16.toNat_add, Count.toNat_overflow]; rfl
  · rw [if_neg (mt hlt.mp h), if_neg h]

/-- the DL counter word `NASDecode` holds once it has taken the sequence number `s` of a message of header type `sht`:
    the new-context reset if any, the estimate, `Get()` -/
def dlWord (dl : UInt32) (sht s : UInt8) : UInt32 :=
  (Count.get (estim (if isNewContextType sht then Count.set dl 0 0 else dl) s)).2

theorem dlWord_eq (dl : UInt32) (sht s : UInt8) :
    dlWord dl sht s = count32 (estimate (if newContext sht.toNat then 0 else cval dl) s.toNat) := by
  have hprev : cval (if isNewContextType sht then Count.set dl 0 0 else dl) = if newContext sht.toNat then 0 else cval dl := by
    rw [isNewContextType_eq]; cases newContext sht.toNat <;> simp [cval_set_zero]
  rw [dlWord, get_eq, cval_estim, hprev]

/-- `NASDecode` updates the UE context conditionally, and only in its DL counter: with the `if` moved into that field
    the successive updates become `estim` on the word -/
theorem ite_mk (c : Prop) [Decidable c] (ul a b : UInt32) (ca ia : UInt8) (ke ki : Bytes) :
    (if c then UeSec.mk ul a ca ia ke ki else UeSec.mk ul b ca ia ke ki) = UeSec.mk ul (if c then a else b) ca ia ke ki := by
  split <;> rfl

/-- `NASDecode` on a protected message with at least seven octets, NIA ≠ 0, in one equation, given the results of
    the two library calls: whatever the branches taken, only the DL counter word has moved. -/
theorem nasDecodeCore_ok (decipherP : UInt8 → Bool) (dir : UInt8) (P : Prims) (ue : UeSec) (sht : UInt8)
    (h0 h1 h2 h3 h4 h5 sqn : UInt8) (body mac p : Bytes)
    (hsht : (sht == 0) = false) (hia : (ue.integrityAlg == 0) = false)
    (hmac : nasMac P ue.integrityAlg ue.knasInt (dlWord ue.dlCount sht sqn) bearer3GPP directionDownlink (sqn :: body)
        = .ok mac)
    (hdec : (if decipherP sht then
        nasEncrypt P ue.cipheringAlg ue.knasEnc (dlWord ue.dlCount sht sqn) bearer3GPP dir body else .ok body) = .ok p) :
    nasDecodeCore decipherP dir P ue sht (h0 :: h1 :: h2 :: h3 :: h4 :: h5 :: sqn :: body) =
      ({ ue with dlCount := dlWord ue.dlCount sht sqn }, handToPlainDecode p) := by
  unfold dlWord at hmac hdec ⊢
  obtain ⟨ul, dl, ca, ia, ke, ki⟩ := ue
  simp only [nasDecodeCore, hsht, hia, Bool.false_eq_true, if_false, List.drop_succ_cons, List.drop_zero, ite_mk,
    get_fst, get_get, ← estim.eq_1] at hmac hdec ⊢
  simp only [hmac]
  cases hdp : decipherP sht <;> simp only [hdp, Bool.false_eq_true, if_false, if_true] at hdec ⊢
  · cases hdec; rfl
  · rw [hdec]

theorem supported_ia_ne_zero (ue : UeSec) (hs : Supported ue) : (ue.integrityAlg == 0) = false := by
  rcases hs.1 with h | h <;> rw [h] <;> rfl

theorem handToPlainDecode_ne (plain : Bytes) (hne : plain ≠ []) : handToPlainDecode plain = .ok plain := by
  cases plain with
  | nil => exact absurd rfl hne
  | cons a l => rfl

/-- One protected downlink message of the conformant sender (`protect … downlink c`), delivered to `NASDecode`
    while the sender's COUNT `c` is `d` ≤ 255 ahead of the UE's stored value `prev` (0 after a new-context header):
    the plain message is handed to the plain decoder and the UE's DL COUNT becomes exactly `c`. -/
theorem dl_step (P : Prims) (hP : PrimsOk P) (ue : UeSec) (hs : Supported ue) (sht c d : Nat) (epd : UInt8)
    (plain out : Bytes) (hne : plain ≠ []) (hd : d < 256)
    (hc : c = ((if newContext sht then 0 else cval ue.dlCount) + d) % 2 ^ 24)
    (h : protect P (ctxOf ue) downlink c epd sht plain = some out) :
    nasDecode P ue (UInt8.ofNat sht) out = ({ ue with dlCount := UInt32.ofNat c }, .ok plain) := by
  obtain ⟨hpt, body, m0, m1, m2, m3, hb, -, rfl⟩ := protect_eq_some P hP _ _ _ _ _ _ _ h
  have h14 := (protectedType_iff sht).mp hpt
  have hshtn := ofNat_sht_toNat sht h14.2
  have hclt : c < 2 ^ 24 := hc ▸ Nat.mod_lt _ (by decide)
  have hcount : count32 c = UInt32.ofNat c := by unfold count32 countMod; rw [Nat.mod_eq_of_lt hclt]
  have hest : dlWord ue.dlCount (UInt8.ofNat sht) (UInt8.ofNat (sqnOf c)) = UInt32.ofNat c := by
    have hlt : (if newContext sht then 0 else cval ue.dlCount) < 2 ^ 24 := by
      split
      · decide
      · exact cval_lt _
    rw [dlWord_eq, hshtn, ofNat_sqnOf_toNat, hc, estimate_ahead _ d hlt hd, ← hc, hcount]
  -- the MAC computation succeeds (its value is only printed)
  obtain ⟨mac', hmac', -⟩ := mac_tie P ue.integrityAlg ue.knasInt (UInt32.ofNat c) directionDownlink
    (UInt8.ofNat (sqnOf c) :: body) hs.1 (by decide) (by simp)
  -- deciphering restores the plain message
  have hdec : (if isCipheredType (UInt8.ofNat sht) then
        nasEncrypt P ue.cipheringAlg ue.knasEnc (UInt32.ofNat c) bearer3GPP directionDownlink body
      else .ok body) = .ok plain := by
    obtain ⟨b, hb1, hb2⟩ := body_tie P ue hs (UInt8.ofNat sht) (UInt32.ofNat c) directionDownlink (by decide) body
    have hinv := bodyAsSent_inv P hP _ _ _ _ _ _ hb
    rw [hshtn] at hb2
    rw [hcount] at hinv
    rw [hb1, Option.some.inj (hb2.symm.trans hinv)]
  have hsht0 : (UInt8.ofNat sht == 0) = false := by
    rw [Bool.eq_false_iff]; intro h0
    have : (UInt8.ofNat sht).toNat = 0 := by rw [eq_of_beq h0]; rfl
    omega
  have := nasDecodeCore_ok isCipheredType directionDownlink P ue (UInt8.ofNat sht) epd (UInt8.ofNat sht) m0 m1 m2 m3
    (UInt8.ofNat (sqnOf c)) body mac' plain hsht0 (supported_ia_ne_zero ue hs)
    (by rw [hest]; exact hmac') (by rw [hest]; exact hdec)
  rwa [hest, handToPlainDecode_ne plain hne] at this

/-- the specification's view of one `NASEncode` call -/
def toSend (op : UlOp) : UlSend :=
  { ctxAvail := op.ctxAvail, newCtx := op.newCtx, epd := op.epd, sht := op.sht.toNat, plain := op.plain }

/-- header types 1..4 whenever the message is protected (the property's domain) -/
def UlInScope (op : UlOp) : Prop := op.ctxAvail = true → protectedType op.sht.toNat = true

theorem plain_passthrough (P : Prims) (ue : UeSec) (op : UlOp) (h : op.ctxAvail = false) :
    nasEncode P ue op = (ue, .ok op.plain) := by
  simp [nasEncode, nasEncodeCore, h]

/-- one `NASEncode` call against the conformant UE of the specification, everything the history induction needs -/
theorem ul_step_full (P : Prims) (ue : UeSec) (op : UlOp) (hs : Supported ue) (hsc : UlInScope op) :
    ∃ out,
      (ueProtect P (ctxOf ue) ⟨cval ue.ulCount⟩ op.ctxAvail op.newCtx op.epd op.sht.toNat op.plain).2.2 = some out ∧
      (nasEncode P ue op).2 = .ok out ∧
      cval (nasEncode P ue op).1.ulCount =
        (ueProtect P (ctxOf ue) ⟨cval ue.ulCount⟩ op.ctxAvail op.newCtx op.epd op.sht.toNat op.plain).1.count ∧
      cval (nasEncode P ue op).1.dlCount = (if op.ctxAvail && op.newCtx then 0 else cval ue.dlCount) ∧
      ctxOf (nasEncode P ue op).1 = ctxOf ue ∧ Supported (nasEncode P ue op).1 := by
  cases hctx : op.ctxAvail
  · rw [plain_passthrough P ue op hctx]
    exact ⟨op.plain, by simp [ueProtect], rfl, by simp [ueProtect], by simp, rfl, hs⟩
  · obtain ⟨body, mac, hb, hm, he⟩ := ul_step P ue op hs hctx
    have hpt := hsc hctx
    refine ⟨_, ?_, by rw [he], ?_, ?_, ?_, ?_⟩
    · simp [ueProtect, protect, hpt, hb, hm]
    · rw [he]; simp only [ueProtect, Bool.not_true, Bool.false_eq_true, if_false]
      rw [cval_addOne_get, cval_afterReset_ul, countMod]
    · rw [he]; simp only [Bool.true_and]
      exact cval_afterReset_dl ue op.newCtx
    · rw [he]; cases op.newCtx <;> simp [afterReset, ctxOf]
    · rw [he]; cases op.newCtx <;> simpa [afterReset, Supported] using hs

/-- **uplink histories**: over any sequence of calls on one UE context the model emits, message for message,
    what the conformant UE of the specification emits from the same NAS COUNT, every call succeeds, and the
    counters stay in step. -/
theorem ul_history (P : Prims) (ue : UeSec) (ops : List UlOp) (hs : Supported ue) (hsc : ∀ op ∈ ops, UlInScope op) :
    (runEncode P ue ops).2.map Except.toOption
        = (ueRun P (ctxOf ue) ⟨cval ue.ulCount⟩ (ops.map toSend)).2.map (·.2) ∧
    (∀ r ∈ (runEncode P ue ops).2, ∃ b, r = .ok b) ∧
    cval (runEncode P ue ops).1.ulCount = (ueRun P (ctxOf ue) ⟨cval ue.ulCount⟩ (ops.map toSend)).1.count ∧
    ctxOf (runEncode P ue ops).1 = ctxOf ue ∧ Supported (runEncode P ue ops).1 := by
  induction ops generalizing ue with
  | nil => simp [runEncode, ueRun, hs]
  | cons op ops ih =>
    obtain ⟨out, h1, h2, h3, -, h5, h6⟩ := ul_step_full P ue op hs (hsc op (by simp))
    obtain ⟨i1, i2, i3, i4, i5⟩ := ih (nasEncode P ue op).1 h6 (fun o ho => hsc o (by simp [ho]))
    rw [h5, h3] at i1 i3
    simp only [runEncode, ueRun, List.map_cons, toSend] at i1 i3 ⊢
    refine ⟨?_, ?_, i3, by rw [i4, h5], i5⟩
    · rw [h2, i1]; simp [Except.toOption] at h1 ⊢; exact h1.symm
    · intro r hr
      rcases List.mem_cons.mp hr with rfl | hr
      · exact ⟨out, h2⟩
      · exact i2 r hr

def protectedSends (ops : List UlOp) : Nat := (ops.filter (·.ctxAvail)).length

def NoNewContext (ops : List UlOp) : Prop := ∀ op ∈ ops, ¬ (op.ctxAvail = true ∧ op.newCtx = true)

theorem runEncode_append (P : Prims) (ue : UeSec) (a b : List UlOp) :
    runEncode P ue (a ++ b) =
      ((runEncode P (runEncode P ue a).1 b).1, (runEncode P ue a).2 ++ (runEncode P (runEncode P ue a).1 b).2) := by
  induction a generalizing ue with
  | nil => simp [runEncode]
  | cons x xs ih => simp [runEncode, ih]

/-- without a new context in between, the UL NAS COUNT has advanced by the number of protected sends, modulo 2^24 -/
theorem count_after (P : Prims) (ue : UeSec) (ops : List UlOp) (hs : Supported ue)
    (hsc : ∀ op ∈ ops, UlInScope op) (hnn : NoNewContext ops) :
    cval (runEncode P ue ops).1.ulCount = (cval ue.ulCount + protectedSends ops) % 2 ^ 24 ∧
    ctxOf (runEncode P ue ops).1 = ctxOf ue ∧ Supported (runEncode P ue ops).1 := by
  induction ops generalizing ue with
  | nil => simp [runEncode, protectedSends, hs, Nat.mod_eq_of_lt (cval_lt _)]
  | cons op ops ih =>
    obtain ⟨out, -, -, h3, -, h5, h6⟩ := ul_step_full P ue op hs (hsc op (by simp))
    obtain ⟨i1, i2, i3⟩ := ih (nasEncode P ue op).1 h6 (fun o ho => hsc o (by simp [ho]))
      (fun o ho => hnn o (by simp [ho]))
    simp only [runEncode]
    refine ⟨?_, by rw [i2, h5], i3⟩
    rw [i1, h3]
    have hno := hnn op (by simp)
    cases hc : op.ctxAvail
    · simp [ueProtect, protectedSends, hc]
    · have hn : op.newCtx = false := by
        cases hn : op.newCtx
        · rfl
        · exact absurd ⟨hc, hn⟩ hno
      simp [ueProtect, protectedSends, hc, hn, countMod]
      omega

/-- UE and AMF are in step: the AMF's stored DL NAS COUNT (the value of its next message) is the UE's estimate
    (nothing protected was delivered under this context yet) or one more (the UE holds the last delivered COUNT) -/
def InStep (ue : UeSec) (s : Sender) : Prop :=
  s.count < 2 ^ 24 ∧ (s.count = cval ue.dlCount ∨ s.count = (cval ue.dlCount + 1) % 2 ^ 24)

/-- the property's domain for one delivered downlink message: header type 0..4, fewer than 255 undelivered
    messages before it (the COUNT advances by < 256 between deliveries), a non-empty plain message -/
def DlInScope (m : DlSend) : Prop := m.sht ≤ 4 ∧ m.lost < 255 ∧ m.plain ≠ []

theorem protect_some (P : Prims) (ue : UeSec) (hs : Supported ue) (dir c : Nat) (epd : UInt8) (sht : Nat) (plain : Bytes)
    (hpt : protectedType sht = true) : ∃ out, protect P (ctxOf ue) dir c epd sht plain = some out := by
  have hb : ∃ body, bodyAsSent P (ctxOf ue) dir c sht plain = some body := by
    unfold bodyAsSent
    cases ciphered sht
    · exact ⟨plain, by simp⟩
    · rcases hs.2 with h | h | h <;> simp [ctxOf, h, Spec.NasAlg.nea]
  obtain ⟨body, hb⟩ := hb
  have hm : ∃ mac, macOf P (ctxOf ue) dir c body = some mac := by
    unfold macOf
    rcases hs.1 with h | h <;> simp [ctxOf, h, Spec.NasAlg.nia]
  obtain ⟨mac, hm⟩ := hm
  exact ⟨[epd, UInt8.ofNat sht] ++ mac ++ [UInt8.ofNat (sqnOf c)] ++ body, by simp [protect, hpt, hb, hm]⟩

/-- one delivered downlink message of the conformant AMF against `NASDecode`, everything the induction needs -/
theorem dl_step_full (P : Prims) (hP : PrimsOk P) (ue : UeSec) (s : Sender) (m : DlSend)
    (hs : Supported ue) (hin : InStep ue s) (hsc : DlInScope m) :
    ∃ out,
      (amfProtect P (ctxOf ue) s m.lost m.epd m.sht m.plain).2.2 = some out ∧
      nasDecode P ue (UInt8.ofNat m.sht) out =
        ((match (amfProtect P (ctxOf ue) s m.lost m.epd m.sht m.plain).2.1 with
          | some c => { ue with dlCount := UInt32.ofNat c }
          | none => ue), .ok m.plain) ∧
      InStep (nasDecode P ue (UInt8.ofNat m.sht) out).1 (amfProtect P (ctxOf ue) s m.lost m.epd m.sht m.plain).1 ∧
      ctxOf (nasDecode P ue (UInt8.ofNat m.sht) out).1 = ctxOf ue ∧ Supported (nasDecode P ue (UInt8.ofNat m.sht) out).1 := by
  obtain ⟨hsht, hlost, hne⟩ := hsc
  by_cases h0 : m.sht = 0
  · have hdec : nasDecode P ue (UInt8.ofNat m.sht) m.plain = (ue, .ok m.plain) := by
      simp [h0, nasDecode, nasDecodeCore, handToPlainDecode_ne m.plain hne]
    refine ⟨m.plain, by simp [amfProtect, h0], ?_, ?_, ?_, ?_⟩ <;> rw [hdec]
    · simp [amfProtect, h0]
    · simpa [amfProtect, h0] using hin
    · exact hs
  · have hb0 : (m.sht == 0) = false := by simpa using h0
    obtain ⟨-, hstep⟩ := hin
    -- the AMF's COUNT is `lost` or `lost + 1` ahead of what the UE holds
    have hc : ∃ d < 256, ((if newContext m.sht then 0 else s.count) + m.lost) % countMod
        = ((if newContext m.sht then 0 else cval ue.dlCount) + d) % 2 ^ 24 := by
      unfold countMod
      cases newContext m.sht
      · rcases hstep with h | h
        · exact ⟨m.lost, by omega, by rw [h]⟩
        · exact ⟨m.lost + 1, by omega, by
            rw [h]; simp only [Bool.false_eq_true, if_false]
            rw [Nat.mod_add_mod, Nat.add_assoc, Nat.add_comm 1]⟩
      · exact ⟨m.lost, by omega, rfl⟩
    obtain ⟨d, hd, hc⟩ := hc
    obtain ⟨out, hout⟩ := protect_some P ue hs downlink
      (((if newContext m.sht then 0 else s.count) + m.lost) % countMod) m.epd m.sht m.plain
      ((protectedType_iff _).mpr (by omega))
    have hdec := dl_step P hP ue hs m.sht _ d m.epd m.plain out hne hd hc hout
    refine ⟨out, by simp [amfProtect, hb0, hout], ?_, ?_, ?_, ?_⟩ <;> rw [hdec]
    · simp [amfProtect, hb0]
    · simp only [amfProtect, hb0, Bool.false_eq_true, if_false]
      have hlt' : ((if newContext m.sht then 0 else s.count) + m.lost) % countMod < 2 ^ 24 := Nat.mod_lt _ (by decide)
      exact ⟨Nat.mod_lt _ (by decide), Or.inr (by rw [cval_ofNat _ hlt']; rfl)⟩
    · rfl
    · exact hs

/-- what C10 promises for a history of delivered downlink messages, message by message: the conformant AMF's
    octets, given to `NASDecode` on the UE context as it stands, come back as the plain message, the UE's DL NAS
    COUNT is then exactly the COUNT the AMF used (untouched by a plain message), and so on from the new states. -/
def Recovered (dec : Prims → UeSec → UInt8 → Bytes → UeSec × Res Bytes) (P : Prims) : UeSec → Sender → List DlSend → Prop
  | _, _, [] => True
  | ue, s, m :: ms =>
    ∃ out, (amfProtect P (ctxOf ue) s m.lost m.epd m.sht m.plain).2.2 = some out ∧
      (dec P ue (UInt8.ofNat m.sht) out).2 = .ok m.plain ∧
      (∀ c, (amfProtect P (ctxOf ue) s m.lost m.epd m.sht m.plain).2.1 = some c →
          (dec P ue (UInt8.ofNat m.sht) out).1 = { ue with dlCount := UInt32.ofNat c }) ∧
      ((amfProtect P (ctxOf ue) s m.lost m.epd m.sht m.plain).2.1 = none → (dec P ue (UInt8.ofNat m.sht) out).1 = ue) ∧
      Recovered dec P (dec P ue (UInt8.ofNat m.sht) out).1 (amfProtect P (ctxOf ue) s m.lost m.epd m.sht m.plain).1 ms

/-- `GetNasPdu` finds the NAS-PDU IE behind any number of other IEs and hands it to `NASDecode` with the header
    type read from octet 2 -/
theorem getNasPdu_skip (P : Prims) (ue : UeSec) (n : Nat) (e sht : UInt8) (rest : Bytes) (tail : List (Option Bytes)) :
    getNasPdu P ue (List.replicate n none ++ some (e :: sht :: rest) :: tail) =
      nilOnError (nasDecode P ue sht (e :: sht :: rest)) := by
  induction n with
  | zero => simp [getNasPdu, getNasPduWith]
  | succ n ih =>
    simp only [List.replicate_succ, List.cons_append]
    unfold getNasPdu at ih ⊢
    unfold getNasPduWith
    exact ih

end Stgutg.Proofs.NasProtect
