/-
  Decimal strings and `CreateUE` (C16).

  `decVal` reads a digit string, `decW w` writes `w` digits; they invert each other (`decVal_decW`, `decW_decVal`; hence
  `decW_inj`) and `decW` splits at a power of ten (`decW_split`). For a configured `DecimalImsi` this gives what `CreateUE` assigns to
  UE `i`: the RAN-UE-NGAP-ID, the SUPI, and — while the MSIN digits accommodate the population (`MsinFits`) — the SUPI
  with the MCC/MNC digits untouched (`decW_add_index`), hence the SUCI the network sees (`suci_of_created_ue`).
-/
import Stgutg.Model.UeIdentity
import Stgutg.Spec.Ts24501Identity
import Stgutg.Proofs.Suci
open Stgutg

namespace Stgutg.Proofs.UeIdentity
open Model.UeIdentity
open Stgutg.Proofs.Suci (asc ValidImsi)

theorem rev_ind {α : Type} {P : List α → Prop} (nil : P []) (snoc : ∀ l a, P l → P (l ++ [a])) : ∀ l, P l := by
  intro l
  rw [← List.reverse_reverse l]
  induction l.reverse with
  | nil => exact nil
  | cons a t ih => rw [List.reverse_cons]; exact snoc _ _ ih

def step (a : Nat) (c : UInt8) : Nat := a * 10 + (c.toNat - 48)

theorem decVal_eq (bs : Bytes) : decVal bs = bs.foldl step 0 := rfl

theorem foldl_step (bs : Bytes) : ∀ acc, bs.foldl step acc = acc * 10 ^ bs.length + bs.foldl step 0 := by
  induction bs with
  | nil => intro acc; simp
  | cons c cs ih =>
    intro acc
    simp only [List.foldl_cons, List.length_cons]
    rw [ih (step acc c), ih (step 0 c)]
    simp only [step, Nat.zero_mul, Nat.zero_add, Nat.pow_succ]
    rw [Nat.add_mul, Nat.mul_right_comm acc 10, ← Nat.mul_assoc]
    omega

theorem decVal_append (a b : Bytes) : decVal (a ++ b) = decVal a * 10 ^ b.length + decVal b := by
  simp only [decVal_eq, List.foldl_append]
  exact foldl_step b _

theorem decVal_snoc (a : Bytes) (c : UInt8) : decVal (a ++ [c]) = decVal a * 10 + (c.toNat - 48) := by
  rw [decVal_append]; simp [decVal_eq, step]

theorem digit_byte (c : UInt8) (h : isDigitByte c = true) : 48 ≤ c.toNat ∧ c.toNat ≤ 57 := by
  simp only [isDigitByte, Bool.and_eq_true, decide_eq_true_eq, UInt8.le_iff_toNat_le] at h
  exact h

theorem digit_byte_eq (c : UInt8) (h : isDigitByte c = true) : UInt8.ofNat (48 + (c.toNat - 48)) = c := by
  have := digit_byte c h
  have e : 48 + (c.toNat - 48) = c.toNat := by omega
  rw [e, UInt8.ofNat_toNat]

theorem decVal_lt (bs : Bytes) (h : ∀ c ∈ bs, isDigitByte c = true) : decVal bs < 10 ^ bs.length := by
  induction bs using rev_ind with
  | nil => simp [decVal_eq]
  | snoc l a ih =>
    have hl := ih (fun c hc => h c (by simp [hc]))
    have ha := digit_byte a (h a (by simp))
    rw [decVal_snoc, List.length_append, List.length_singleton, Nat.pow_succ]
    omega

/-! ### `decW` -/

theorem decW_length : ∀ w n, (decW w n).length = w
  | 0, _ => rfl
  | w + 1, n => by simp [decW, decW_length w]

theorem decW_digits : ∀ w n, ∀ c ∈ decW w n, isDigitByte c = true
  | 0, _ => by simp [decW]
  | w + 1, n => by
    intro c hc
    simp only [decW, List.mem_append, List.mem_singleton] at hc
    rcases hc with hc | rfl
    · exact decW_digits w _ c hc
    · exact Proofs.Suci.digit_range (Nat.mod_lt _ (by omega))

theorem decVal_decW : ∀ w n, decVal (decW w n) = n % 10 ^ w
  | 0, n => by simp [decW, decVal_eq, Nat.mod_one]
  | w + 1, n => by
    rw [decW, decVal_snoc, decVal_decW w, Suci.digit_toNat (Nat.mod_lt _ (by omega)), Nat.pow_succ, Nat.mul_comm (10 ^ w) 10,
      Nat.mod_mul]
    omega

theorem decW_split (p : Nat) : ∀ (m a b : Nat), b < 10 ^ m → decW (p + m) (a * 10 ^ m + b) = decW p a ++ decW m b
  | 0, a, b, h => by
    have : b = 0 := by simpa using h
    simp [this, decW]
  | m + 1, a, b, h => by
    have hb : b / 10 < 10 ^ m := by
      rw [Nat.pow_succ] at h; omega
    have e1 : (a * 10 ^ (m + 1) + b) / 10 = a * 10 ^ m + b / 10 := by
      rw [Nat.pow_succ, ← Nat.mul_assoc]; omega
    have e2 : (a * 10 ^ (m + 1) + b) % 10 = b % 10 := by
      rw [Nat.pow_succ, ← Nat.mul_assoc]; omega
    show decW (p + m + 1) _ = _
    rw [decW, e1, e2, decW_split p m a (b / 10) hb, decW, List.append_assoc]

/-- writing the value of a digit string with as many digits gives the string back (leading zeros included) -/
theorem decW_decVal (bs : Bytes) (h : ∀ c ∈ bs, isDigitByte c = true) : decW bs.length (decVal bs) = bs := by
  induction bs using rev_ind with
  | nil => rfl
  | snoc l a ih =>
    have hl := ih (fun c hc => h c (by simp [hc]))
    have ha := digit_byte a (h a (by simp))
    rw [List.length_append, List.length_singleton, decW, decVal_snoc]
    have e1 : (decVal l * 10 + (a.toNat - 48)) / 10 = decVal l := by omega
    have e2 : (decVal l * 10 + (a.toNat - 48)) % 10 = a.toNat - 48 := by omega
    rw [e1, e2, hl, digit_byte_eq a (h a (by simp))]

/-- numbers that fit `w` digits are told apart by their `w` digits -/
theorem decW_inj {w a b : Nat} (ha : a < 10 ^ w) (hb : b < 10 ^ w) (h : decW w a = decW w b) : a = b := by
  have := congrArg decVal h
  rwa [decVal_decW, decVal_decW, Nat.mod_eq_of_lt ha, Nat.mod_eq_of_lt hb] at this

/-! ### `CreateUE` on a configured decimal IMSI -/

/-- the configured initial IMSI: a non-empty decimal string of at most 18 digits (so that Go's 64-bit `int` holds it;
    real IMSIs have at most 15) -/
structure DecimalImsi (imsi : Bytes) : Prop where
  digits : ∀ c ∈ imsi, isDigitByte c = true
  nonempty : 1 ≤ imsi.length
  short : imsi.length ≤ 18

/-- eighteen decimal digits stay below 2^62: the configured number fits Go's `int`, with room for any UE index -/
theorem pow10_lt {w : Nat} (h : w ≤ 18) : 10 ^ w < 2 ^ 62 :=
  Nat.lt_of_le_of_lt (Nat.pow_le_pow_right (by omega) h) (by decide)

theorem DecimalImsi.val_lt {imsi : Bytes} (h : DecimalImsi imsi) : decVal imsi < 2 ^ 62 :=
  Nat.lt_trans (decVal_lt imsi h.digits) (pow10_lt h.short)

theorem atoi_decimal {imsi : Bytes} (h : DecimalImsi imsi) : atoi imsi = (((decVal imsi : Nat) : Int), false) := by
  have hlt := h.val_lt
  have hall : imsi.all isDigitByte = true := List.all_eq_true.mpr h.digits
  have hne : imsi.isEmpty = false := by
    have := h.nonempty
    cases imsi <;> simp_all
  have hm : splitSign imsi = (false, imsi) := by
    unfold splitSign
    split
    · exact absurd (digit_byte 43 (h.digits 43 (by simp))) (by decide)
    · exact absurd (digit_byte 45 (h.digits 45 (by simp))) (by decide)
    · rfl
  unfold atoi
  simp only [hm, hne, hall, Bool.not_true, Bool.or_self, Bool.false_eq_true, if_false]
  rw [if_neg (by omega)]

/-- `parsedIMSI + ueNumber` does not wrap for any index below 2^62 -/
theorem createUE_sum {imsi : Bytes} (h : DecimalImsi imsi) (i : Nat) (hi : i < 2 ^ 62) :
    wrap64 ((atoi imsi).1 + (i : Int)) = ((decVal imsi + i : Nat) : Int) := by
  have hlt := h.val_lt
  rw [atoi_decimal h]
  unfold wrap64; omega

/-- the RAN-UE-NGAP-ID `CreateUE` assigns -/
theorem createUE_ranId {imsi : Bytes} (h : DecimalImsi imsi) (i : Nat) (hi : i < 2 ^ 62) (k opc op : Bytes) :
    (createUE imsi (i : Int) k opc op).ranUeNgapId = (((decVal imsi + i) % 10000 : Nat) : Int) := by
  unfold createUE
  simp only [createUE_sum h i hi, setAuthSubscription, newRanUeContext]
  rw [Int.tmod_eq_emod_of_nonneg (by omega)]
  omega

/-- the SUPI `CreateUE` assigns while the number still has the configured number of digits -/
theorem createUE_supi {imsi : Bytes} (h : DecimalImsi imsi) (i : Nat) (hfit : decVal imsi + i < 10 ^ imsi.length)
    (k opc op : Bytes) :
    (createUE imsi (i : Int) k opc op).supi = imsiPrefix ++ decW imsi.length (decVal imsi + i) := by
  have hi : i < 2 ^ 62 := by have := pow10_lt h.short; omega
  unfold createUE
  simp only [createUE_sum h i hi, setAuthSubscription, newRanUeContext]
  unfold fmtPad0
  rw [if_pos (by omega), if_pos ⟨h.nonempty, by rw [Int.toNat_natCast]; exact hfit⟩, Int.toNat_natCast]

/-! ### populations -/

/-- the population of `n` UEs fits: the number of the last UE still has the configured number of digits -/
def Fits (imsi : Bytes) (n : Nat) : Prop := decVal imsi + n ≤ 10 ^ imsi.length

/-- the MSIN digits (what follows the first `p` = 3 + |MNC| digits) can accommodate the population -/
def MsinFits (imsi : Bytes) (p n : Nat) : Prop :=
  p ≤ imsi.length ∧ decVal (imsi.drop p) + n ≤ 10 ^ (imsi.length - p)

theorem msinFits_fits {imsi : Bytes} {p n : Nat} (h : DecimalImsi imsi) (hf : MsinFits imsi p n) : Fits imsi n := by
  obtain ⟨hp, hf⟩ := hf
  have hsplit : imsi = imsi.take p ++ imsi.drop p := (List.take_append_drop p imsi).symm
  have hpre := decVal_lt (imsi.take p) (fun c hc => h.digits c (List.mem_of_mem_take hc))
  have hlen : (imsi.drop p).length = imsi.length - p := List.length_drop
  have hlt : (imsi.take p).length = p := by rw [List.length_take]; omega
  unfold Fits
  rw [hsplit, decVal_append, List.length_append, hlt, hlen, Nat.pow_add]
  rw [hlt] at hpre
  have : (decVal (imsi.take p) + 1) * 10 ^ (imsi.length - p) ≤ 10 ^ p * 10 ^ (imsi.length - p) :=
    Nat.mul_le_mul_right _ hpre
  rw [Nat.add_mul] at this
  omega

/-- while the MSIN digits accommodate the population, adding the index leaves the first `p` digits as configured -/
theorem decW_add_index {imsi : Bytes} (h : DecimalImsi imsi) {p n : Nat} (hfit : MsinFits imsi p n) {i : Nat}
    (hi : i < n) :
    decW imsi.length (decVal imsi + i) = imsi.take p ++ decW (imsi.length - p) (decVal (imsi.drop p) + i) := by
  obtain ⟨hp, hf⟩ := hfit
  have hlt : (imsi.take p).length = p := by rw [List.length_take]; omega
  have hld : (imsi.drop p).length = imsi.length - p := List.length_drop
  have hval : decVal imsi + i = decVal (imsi.take p) * 10 ^ (imsi.length - p) + (decVal (imsi.drop p) + i) := by
    conv => lhs; rw [← List.take_append_drop p imsi, decVal_append, hld]
    omega
  have hw : imsi.length = p + (imsi.length - p) := by omega
  conv => lhs; rw [hw, hval]
  rw [decW_split p _ _ _ (by omega)]
  have := decW_decVal (imsi.take p) (fun c hc => h.digits c (List.mem_of_mem_take hc))
  rw [hlt] at this
  rw [this]

/-! ### the SUCI of a created UE (link to C11) -/

def digitsOf (bs : Bytes) : List Nat := bs.map fun c => c.toNat - 48

theorem asc_digitsOf (bs : Bytes) (h : ∀ c ∈ bs, isDigitByte c = true) : asc (digitsOf bs) = bs := by
  induction bs with
  | nil => rfl
  | cons c cs ih =>
    simp only [digitsOf, asc, List.map_cons, List.map_map] at ih ⊢
    rw [digit_byte_eq c (h c (by simp))]
    congr 1
    exact ih (fun d hd => h d (by simp [hd]))

theorem digitsOf_lt (bs : Bytes) (h : ∀ c ∈ bs, isDigitByte c = true) : ∀ d ∈ digitsOf bs, d < 10 := by
  intro d hd
  obtain ⟨c, hc, rfl⟩ := List.mem_map.mp hd
  have := digit_byte c (h c hc)
  omega

theorem digitsOf_length (bs : Bytes) : (digitsOf bs).length = bs.length := List.length_map ..

/-- the SUPI of UE `i`, split as MCC ‖ MNC ‖ MSIN + i -/
theorem createUE_supi_split {imsi : Bytes} (h : DecimalImsi imsi) {m n : Nat} (hfit : MsinFits imsi (3 + m) n)
    {i : Nat} (hi : i < n) (k opc op : Bytes) :
    (createUE imsi (i : Int) k opc op).supi =
      imsiPrefix ++ (imsi.take 3 ++ (imsi.drop 3).take m ++ decW (imsi.length - (3 + m)) (decVal (imsi.drop (3 + m)) + i)) := by
  have hF : Fits imsi n := msinFits_fits h hfit
  unfold Fits at hF
  rw [createUE_supi h i (by omega), decW_add_index h hfit hi, List.take_add]

/-- what `RegisterUE` / `DeregisterUE` send for UE `i`: `EncodeSuci(TrimPrefix(ue.Supi, "imsi-"), len(mnc))` is read
    by the TS 24.501 decoder as the configured MCC and MNC with MSIN = configured MSIN + i -/
theorem suci_of_created_ue {imsi : Bytes} (h : DecimalImsi imsi) {m n : Nat} (hm : m = 2 ∨ m = 3)
    (hlen : 3 + m < imsi.length) (hfit : MsinFits imsi (3 + m) n) {i : Nat} (hi : i < n) (k opc op : Bytes) :
    ∃ buf, Model.Suci.encodeSuci (Model.Suci.trimImsiPrefix (createUE imsi (i : Int) k opc op).supi) (m : Int) = .ok buf ∧
      Spec.Identity.decodeSuci buf = some (Spec.Identity.nullSchemeSuci (digitsOf (imsi.take 3))
        (digitsOf ((imsi.drop 3).take m)) (digitsOf (decW (imsi.length - (3 + m)) (decVal (imsi.drop (3 + m)) + i)))) := by
  rw [createUE_supi_split h hfit hi]
  have htrim : ∀ x : Bytes, Model.Suci.trimImsiPrefix (imsiPrefix ++ x) = x := fun _ => rfl
  rw [htrim]
  have d1 : ∀ c ∈ imsi.take 3, isDigitByte c = true := fun c hc => h.digits c (List.mem_of_mem_take hc)
  have d2 : ∀ c ∈ (imsi.drop 3).take m, isDigitByte c = true :=
    fun c hc => h.digits c (List.mem_of_mem_drop (List.mem_of_mem_take hc))
  have d3 := decW_digits (imsi.length - (3 + m)) (decVal (imsi.drop (3 + m)) + i)
  have hv : ValidImsi (digitsOf (imsi.take 3)) (digitsOf ((imsi.drop 3).take m))
      (digitsOf (decW (imsi.length - (3 + m)) (decVal (imsi.drop (3 + m)) + i))) := by
    refine ⟨?_, ?_, ?_, ?_⟩
    · rw [digitsOf_length, List.length_take]; omega
    · rw [digitsOf_length, List.length_take, List.length_drop]; omega
    · rw [digitsOf_length, decW_length]; omega
    · intro d hd
      simp only [List.mem_append] at hd
      rcases hd with (hd | hd) | hd
      · exact digitsOf_lt _ d1 d hd
      · exact digitsOf_lt _ d2 d hd
      · exact digitsOf_lt _ d3 d hd
  obtain ⟨buf, hb, hdec⟩ := Stgutg.Proofs.Suci.suci_decodes hv
  refine ⟨buf, ?_, hdec⟩
  have hmlen : (digitsOf ((imsi.drop 3).take m)).length = m := by
    rw [digitsOf_length, List.length_take, List.length_drop]; omega
  rw [hmlen, Stgutg.Proofs.Suci.asc_append, Stgutg.Proofs.Suci.asc_append, asc_digitsOf _ d1, asc_digitsOf _ d2,
    asc_digitsOf _ d3] at hb
  exact hb

/-! ### capability octets -/

theorem cap_fin : ∀ c i : Fin 4, ∀ k : Fin 8,
    Spec.Identity.eaSupported (getUESecurityCapability (UInt8.ofNat c.val) (UInt8.ofNat i.val)).buffer k.val = decide (k.val = c.val) ∧
    Spec.Identity.iaSupported (getUESecurityCapability (UInt8.ofNat c.val) (UInt8.ofNat i.val)).buffer k.val = decide (k.val = i.val) := by
  decide +kernel

theorem cap_shape (c i : UInt8) : ∃ a b, (getUESecurityCapability c i).buffer = [a, b] := ⟨_, _, rfl⟩

end Stgutg.Proofs.UeIdentity
