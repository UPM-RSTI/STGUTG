/-
  C13 helper, part 8: the obligations of the builder skeletons, stated role by role.

  `RoleOK canon E t e r i`: the explicit range of the argument at position `i`, by the role `r` of its parameter —
  AMF-UE-NGAP-ID in 0..2^40−1, RAN-UE-NGAP-ID in 0..2^32−1, PDU session ids in 0..255 (lists of 1..256 of them), an IPv4 text
  `net.ParseIP(..).To4()` accepts, a non-empty RAN node name, a gNB id of 22..32 bits in ⌈n/8⌉ octets (3 or 4 whole octets as
  HANDOVER REQUIRED's target id, 5 octets together with the cell id), any NAS-PDU. `ArgsInRange canon E t e tm`: every
  argument is in the range of its role, the announced PLMN has 3 octets, a PDU session id list the row ranges over is in range.
  `explicitOK t o` (static, decided by the kernel over the builder table): the obligation `o` sits at a position whose type
  and constraints are exactly what the role's range promises. `explicit_sound`: then `ArgsInRange` discharges it.
  `plain t tm`: the skeleton leaves only explicit, list-free obligations; `fixedRow t c`: the row `c` of the decision table finds
  every parameter without a fixed range nil or empty (over the builder table such a row is plain: `Props.C13.plain_of_fixedRow`).
  The remaining obligations (`genericOK`: caller-supplied ngapType values, strings and integers of the AMF-side builders,
  the 5G-S-TMSI text whose decoding is an external) stay hypotheses: "the value conforms to the type at its position".
-/
import Stgutg.Proofs.BuildersRange

namespace Stgutg.Proofs.BuildersRoles
open Stgutg Stgutg.Aper Stgutg.Builders Stgutg.Model.Convert
open Stgutg.Proofs.BuildersOk Stgutg.Proofs.Builders Stgutg.Proofs.BuildersTm Stgutg.Proofs.BuildersRange

/-- the unused bits of the last octet are clear -/
def Canonical (bytes : Bytes) (len : Nat) : Prop := bitsToBytes ((bytesToBits bytes).take len) = bytes

/-- an INTEGER position constrained to exactly `0..ub`, no extension marker -/
def intPos (ub : Int) (ty : Ty) (p : Params) : Bool :=
  ty == .int && p.valueLB == some 0 && p.valueUB == some ub && !p.valueExt

/-- sizes `a..b` are all allowed by the constraint: a root `lb..ub` that contains them -/
def sizesOK (a b : Nat) (p : Params) : Bool :=
  match p.sizeLB, p.sizeUB with
  | some l, some u => decide (0 ≤ l) && decide (l ≤ (a : Int)) && decide ((b : Int) ≤ u)
  | _, _ => false

theorem sizesOK_sound (a b n : Nat) (p : Params) (h : sizesOK a b p = true) (h1 : a ≤ n) (h2 : n ≤ b) : sizeOKn n p = true := by
  unfold sizesOK at h
  unfold sizeOKn Spec.X691.sizeConstraint
  cases hl : p.sizeLB with
  | none => simp [hl] at h
  | some l =>
    cases hu : p.sizeUB with
    | none => simp [hl, hu] at h
    | some u =>
      simp only [hl, hu, Bool.and_eq_true, decide_eq_true_eq] at h
      have h3 : ¬ (l < 0 ∨ u < l) := by omega
      have h4 : (n : Int) ≥ l ∧ (n : Int) ≤ u := by omega
      simp [h3, h4]

/-- a size constraint `SIZE(1..ub, ...)`: every non-empty string is allowed (beyond `ub` as an extension) -/
def nonEmptyOK (p : Params) : Bool :=
  p.sizeLB == some 1 && p.sizeExt && (match p.sizeUB with | some u => decide (1 ≤ u) | none => false)

theorem nonEmptyOK_sound (n : Nat) (p : Params) (h : nonEmptyOK p = true) (h1 : 1 ≤ n) : sizeOKn n p = true := by
  unfold nonEmptyOK at h
  unfold sizeOKn Spec.X691.sizeConstraint
  cases hu : p.sizeUB with
  | none => simp [hu] at h
  | some u =>
    simp only [hu, Bool.and_eq_true, beq_iff_eq, decide_eq_true_eq] at h
    obtain ⟨⟨hl, he⟩, hu1⟩ := h
    rw [hl, he]
    simp only
    have h3 : ¬ ((1 : Int) < 0 ∨ u < 1) := by omega
    rw [if_neg h3]
    by_cases h4 : (n : Int) ≥ 1 ∧ (n : Int) ≤ u
    · rw [if_pos h4]; rfl
    · have h5 : (n : Int) > u := by omega
      rw [if_neg h4, if_pos ⟨trivial, h5⟩]; rfl

/-- the obligation is one of the explicit kinds, at a position with the constraints its role promises -/
def explicitOK (t : Template) : Obl → Bool
  | .hole f ty p _ h =>
    decide (0 < f) &&
    (match h with
     | .plmn => ty == .octs && sizesOK 3 3 p
     | .arg i =>
       (match roleAt t i with
        | .amf => intPos (2 ^ 40 - 1) ty p
        | .ran => intPos (2 ^ 32 - 1) ty p
        | .psi => intPos 255 ty p
        | _ => false)
     | .argOcts i => roleAt t i == .nas && ty == .octs && sizeFree p
     | .ip4 i => roleAt t i == .ip && ty == .bits && sizesOK 32 32 p
     | .bits8 i => roleAt t i == .gnbid && (roleIdx t .cellid).isSome && ty == .bits && sizesOK 24 32 p
     | .cell36 i j => roleAt t i == .gnbid && roleAt t j == .cellid && ty == .bits && sizesOK 36 36 p
     | .bitsLen i j => roleAt t i == .gnbid && roleAt t j == .bitlen && ty == .bits && sizesOK 22 32 p
     | .argStr i => roleAt t i == .name && ty == .str && nonEmptyOK p
     | _ => false)
  | .len i p => roleAt t i == .psilist && sizesOK 1 256 p
  | .each i (.hole f ty p _ .elem) => roleAt t i == .psilist && decide (0 < f) && intPos 255 ty p
  | _ => false

def genericRole : Role → Bool
  | .val | .str | .int | .pint | .tmsi => true
  | _ => false

/-- the obligation concerns a caller-supplied value of a role without a fixed range -/
def genericOK (t : Template) : Obl → Bool
  | .hole _ _ _ _ (.arg i) => genericRole (roleAt t i)
  | .hole _ _ _ _ (.argSlice i) => genericRole (roleAt t i)
  | .hole _ _ _ _ (.deref i) => genericRole (roleAt t i)
  | .hole _ _ _ _ (.tmsiSet i) => genericRole (roleAt t i)
  | .hole _ _ _ _ (.tmsiPtr i) => genericRole (roleAt t i)
  | .hole _ _ _ _ (.tmsiVal i) => genericRole (roleAt t i)
  | _ => false

/-- the list argument an obligation ranges over -/
def oblIndex : Obl → Option Nat
  | .len i _ => some i
  | .each i _ => some i
  | _ => none

/-- every parameter without a fixed range (a caller-supplied value, the PDU session id list) is a dimension of the decision
    table that this row finds nil (a string: empty) -/
def fixedRow (t : Template) (c : Case) : Bool :=
  t.roles.zipIdx.all fun ri =>
    (!genericRole ri.1 && ri.1 != .psilist) ||
      (match t.dims.idxOf? ri.2 with
       | some k => c.cls[k]? == some 0 || (ri.1 != .psilist && c.cls[k]? == some 1)
       | none => false)

/-- the skeleton ranges over no list argument and takes no caller-supplied value without a fixed range -/
def plain (t : Template) (tm : Tm) : Bool :=
  (skObls tm).all fun o => (oblIndex o).isNone && !genericOK t o

/-- the explicit range of the argument at position `i`, by the role `r` of its parameter -/
def RoleOK (canon : Bool) (E : Ext) (t : Template) (e : BEnv) (r : Role) (i : Nat) : Prop :=
  match r with
  | .amf => ∃ n, e.arg i = .int n ∧ 0 ≤ n ∧ n < 2 ^ 40
  | .ran => ∃ n, e.arg i = .int n ∧ 0 ≤ n ∧ n < 2 ^ 32
  | .psi => ∃ n, e.arg i = .int n ∧ 0 ≤ n ∧ n ≤ 255
  | .ip => ∃ s, e.arg i = .str s ∧ cls E .ip (.str s) = 2
  | .name => 1 ≤ (bytesOf (e.arg i)).length
  /- NG SETUP REQUEST: gNB id of `n` = 22..32 bits in ⌈n/8⌉ octets; HANDOVER REQUIRED: target gNB id of 3 or 4 whole octets,
     5 octets (36 bits used) together with the cell id -/
  | .gnbid => ∀ j, (roleAt t j = .bitlen →
        22 ≤ natOf (e.arg j) ∧ natOf (e.arg j) ≤ 32 ∧ (bytesOf (e.arg i)).length = (natOf (e.arg j) + 7) / 8 ∧
        (canon = true → Canonical (bytesOf (e.arg i)) (natOf (e.arg j)))) ∧
      (roleAt t j = .cellid →
        (3 ≤ (bytesOf (e.arg i)).length ∧ (bytesOf (e.arg i)).length ≤ 4) ∧
        (bytesOf (e.arg i) ++ bytesOf (e.arg j)).length = 5 ∧
        (canon = true → Canonical (bytesOf (e.arg i) ++ bytesOf (e.arg j)) 36))
  | _ => True

/-- the explicit ranges of a call with arguments `e` that selects the skeleton `tm`: the announced PLMN has 3 octets, every
    argument is in the range of its role, and where the row ranges over the PDU session id list it holds 1..256 ids, each in
    0..255 -/
structure ArgsInRange (canon : Bool) (E : Ext) (t : Template) (e : BEnv) (tm : Tm) : Prop where
  plmn : e.plmn.length = 3
  role : ∀ i, RoleOK canon E t e (roleAt t i) i
  psilist : ∀ i, (∃ o ∈ skObls tm, oblIndex o = some i) → roleAt t i = .psilist →
    ∃ xs, e.arg i = .slice xs ∧ 1 ≤ xs.length ∧ xs.length ≤ 256 ∧ ∀ x ∈ xs, ∃ n, x = .int n ∧ 0 ≤ n ∧ n ≤ 255

theorem ArgsInRange.at {canon : Bool} {E : Ext} {t : Template} {e : BEnv} {tm : Tm} (h : ArgsInRange canon E t e tm)
    {i : Nat} {r : Role} (hi : roleAt t i = r) : RoleOK canon E t e r i := hi ▸ h.role i

theorem canonical_full (b : Bytes) : Canonical b (8 * b.length) := by
  unfold Canonical
  rw [← Proofs.Bits.bytesToBits_length, List.take_length, Proofs.Bits.bitsToBytes_bytesToBits]

theorem okV_int (env : Env) (canon : Bool) (f : Nat) (hf : 0 < f) (ub : Int) (ty : Ty) (p : Params) (hp : intPos ub ty p = true)
    (hub : ub < 2 ^ 63) (n : Int) (h0 : 0 ≤ n) (h1 : n ≤ ub) : okV env canon f ty p (.int n) = true := by
  unfold intPos at hp
  simp only [Bool.and_eq_true, beq_iff_eq, Bool.not_eq_true'] at hp
  obtain ⟨⟨⟨hty, hl⟩, hu⟩, _⟩ := hp
  subst hty
  obtain ⟨f', rfl⟩ : ∃ f', f = f' + 1 := ⟨f - 1, by omega⟩
  simp only [okV, hl, hu, Bool.and_eq_true, Bool.or_eq_true, decide_eq_true_eq]
  exact ⟨⟨⟨h0, .inl h1⟩, by omega⟩, by omega⟩

theorem okV_octs (env : Env) (canon : Bool) (f : Nat) (hf : 0 < f) (p : Params) (b : Bytes) (h : sizeOKn b.length p = true) :
    okV env canon f .octs p (.octs b) = true := by
  obtain ⟨f', rfl⟩ : ∃ f', f = f' + 1 := ⟨f - 1, by omega⟩
  simpa [okV] using h

theorem okV_str (env : Env) (canon : Bool) (f : Nat) (hf : 0 < f) (p : Params) (b : Bytes) (h : sizeOKn b.length p = true) :
    okV env canon f .str p (.str b) = true := by
  obtain ⟨f', rfl⟩ : ∃ f', f = f' + 1 := ⟨f - 1, by omega⟩
  simpa [okV] using h

theorem okV_bits (env : Env) (canon : Bool) (f : Nat) (hf : 0 < f) (p : Params) (b : Bytes) (n : Nat)
    (hl : b.length = (n + 7) / 8) (hc : canon = true → Canonical b n) (h : sizeOKn n p = true) :
    okV env canon f .bits p (.bits b n) = true := by
  obtain ⟨f', rfl⟩ : ∃ f', f = f' + 1 := ⟨f - 1, by omega⟩
  simp only [okV, Bool.and_eq_true, decide_eq_true_eq, Bool.or_eq_true, Bool.not_eq_true']
  refine ⟨⟨hl, ?_⟩, h⟩
  cases canon with
  | false => exact .inl rfl
  | true => exact .inr (hc rfl)

/-- what `net.ParseIP(s).To4()` accepted: four octets -/
theorem ip4_of_cls (E : Ext) (s : Bytes) (h : cls E .ip (.str s) = 2) :
    ∃ a b c d, ipAddressToNgap E s [] = .ok { bytes := [a, b, c, d], bitLength := 32 } := by
  unfold cls at h
  simp only at h
  by_cases hs : s.isEmpty = true
  · simp [hs] at h
  · simp only [hs, if_false, Bool.false_eq_true] at h
    cases h4 : first4 (to4 (E.parseIP s)) with
    | error x => simp [h4] at h
    | ok b4 =>
      have : ∃ a b c d, b4 = [a, b, c, d] := by
        unfold first4 at h4
        split at h4
        · simp only [Except.ok.injEq] at h4; exact ⟨_, _, _, _, h4.symm⟩
        · cases h4
      obtain ⟨a, b, c, d, rfl⟩ := this
      refine ⟨a, b, c, d, ?_⟩
      unfold ipAddressToNgap
      simp [hs, h4, bind, Except.bind]

theorem roleAt_of_roleIdx (t : Template) (r : Role) (j : Nat) (h : roleIdx t r = some j) : roleAt t j = r := by
  unfold roleIdx at h
  rw [List.findIdx?_eq_some_iff_getElem] at h
  obtain ⟨hj, hp, _⟩ := h
  unfold roleAt
  rw [List.getElem?_eq_getElem hj]
  simpa using hp

/-- **the explicit ranges discharge the explicit obligations** -/
theorem explicit_sound (canon : Bool) (E : Ext) (t : Template) (e : BEnv) (tm : Tm) (hr : ArgsInRange canon E t e tm)
    (o : Obl) (hmem : o ∈ skObls tm) (ho : explicitOK t o = true) : Obl.ok Gen.Ngap.schema canon E e .nil o = true := by
  cases o with
  | hole f ty p opt h =>
    simp only [explicitOK, Bool.and_eq_true, decide_eq_true_eq] at ho
    obtain ⟨hf, ho⟩ := ho
    simp only [Obl.ok, Bool.or_eq_true]
    right
    cases h with
    | plmn =>
      simp only [Bool.and_eq_true, beq_iff_eq] at ho
      obtain ⟨rfl, hs⟩ := ho
      simp only [evalHole]
      exact okV_octs _ _ _ hf _ _ (sizesOK_sound 3 3 _ p hs (by rw [hr.plmn]) (by rw [hr.plmn]))
    | arg i =>
      simp only at ho
      cases hrole : roleAt t i <;> simp only [hrole] at ho <;> try cases ho
      · obtain ⟨n, hn, h0, h1⟩ := hr.at hrole
        simp only [evalHole, hn]
        exact okV_int _ _ _ hf _ _ _ ho (by decide) n h0 (by omega)
      · obtain ⟨n, hn, h0, h1⟩ := hr.at hrole
        simp only [evalHole, hn]
        exact okV_int _ _ _ hf _ _ _ ho (by decide) n h0 (by omega)
      · obtain ⟨n, hn, h0, h1⟩ := hr.at hrole
        simp only [evalHole, hn]
        exact okV_int _ _ _ hf _ _ _ ho (by decide) n h0 h1
    | argOcts i =>
      simp only [Bool.and_eq_true, beq_iff_eq] at ho
      obtain ⟨⟨_, rfl⟩, hs⟩ := ho
      simp only [evalHole]
      exact okV_octs _ _ _ hf _ _ (sizeOKn_of_sizeFree _ _ hs)
    | ip4 i =>
      simp only [Bool.and_eq_true, beq_iff_eq] at ho
      obtain ⟨⟨hrole, rfl⟩, hs⟩ := ho
      obtain ⟨s, hs', hcls⟩ := hr.at hrole
      obtain ⟨a, b, c, d, hip⟩ := ip4_of_cls E s hcls
      simp only [evalHole, hs', bytesOf, hip]
      refine okV_bits _ _ _ hf _ _ _ rfl (fun _ => ?_) (sizesOK_sound 32 32 _ p hs (by omega) (by omega))
      exact canonical_full [a, b, c, d]
    | bits8 i =>
      simp only [Bool.and_eq_true, beq_iff_eq] at ho
      obtain ⟨⟨⟨hrole, hcell⟩, rfl⟩, hs⟩ := ho
      obtain ⟨j, hj⟩ := Option.isSome_iff_exists.mp hcell
      obtain ⟨⟨h3, h4⟩, _, _⟩ := (hr.at hrole j).2 (roleAt_of_roleIdx t _ j hj)
      simp only [evalHole]
      exact okV_bits _ _ _ hf _ _ _ (by omega) (fun _ => canonical_full _) (sizesOK_sound 24 32 _ p hs (by omega) (by omega))
    | cell36 i j =>
      simp only [Bool.and_eq_true, beq_iff_eq] at ho
      obtain ⟨⟨⟨hri, hrj⟩, rfl⟩, hs⟩ := ho
      obtain ⟨_, h5, hc⟩ := (hr.at hri j).2 hrj
      simp only [evalHole]
      exact okV_bits _ _ _ hf _ _ _ (by rw [h5]) hc (sizesOK_sound 36 36 _ p hs (by omega) (by omega))
    | bitsLen i j =>
      simp only [Bool.and_eq_true, beq_iff_eq] at ho
      obtain ⟨⟨⟨hri, hrj⟩, rfl⟩, hs⟩ := ho
      obtain ⟨h22, h32, hl, hc⟩ := (hr.at hri j).1 hrj
      simp only [evalHole]
      exact okV_bits _ _ _ hf _ _ _ hl hc (sizesOK_sound 22 32 _ p hs h22 h32)
    | argStr i =>
      simp only [Bool.and_eq_true, beq_iff_eq] at ho
      obtain ⟨⟨hrole, rfl⟩, hs⟩ := ho
      simp only [evalHole]
      exact okV_str _ _ _ hf _ _ (nonEmptyOK_sound _ p hs (hr.at hrole))
    | _ => simp at ho
  | len i p =>
    simp only [explicitOK, Bool.and_eq_true, beq_iff_eq] at ho
    obtain ⟨xs, hxs, h1, h256, _⟩ := hr.psilist i ⟨_, hmem, rfl⟩ ho.1
    simp only [Obl.ok, hxs, listOf, Bool.and_eq_true, decide_eq_true_eq]
    exact ⟨sizesOK_sound 1 256 _ p ho.2 h1 h256, by omega⟩
  | each i o' =>
    cases o' with
    | hole f ty p opt h =>
      cases h <;> try (simp [explicitOK] at ho; done)
      simp only [explicitOK, Bool.and_eq_true, beq_iff_eq, decide_eq_true_eq] at ho
      obtain ⟨⟨hrole, hf⟩, hp⟩ := ho
      obtain ⟨xs, hxs, _, _, hall⟩ := hr.psilist i ⟨_, hmem, rfl⟩ hrole
      simp only [Obl.ok, hxs, listOf, List.all_eq_true, Bool.or_eq_true]
      intro x hx
      obtain ⟨n, rfl, h0, h1⟩ := hall x hx
      right
      simp only [evalHole]
      exact okV_int _ _ _ hf _ _ _ hp (by decide) n h0 h1
    | _ => simp [explicitOK] at ho

end Stgutg.Proofs.BuildersRoles
