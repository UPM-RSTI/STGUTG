/-
  Noninterference of schedules (C20): independent steps do not see each other, so every interleaving leaves each
  thread with the result of running it alone, and the store with the union of the threads' own writes.

  A step changes the store only inside its write set (`step_frame`), and a thread run alone depends on the store only
  through its footprint (`solo_congr`). The invariant (`exec_eq_solo`) is proved by induction on the schedule: its first
  step is the first step of its own thread's solo run and writes outside every other thread's footprint
  (`outside_other`). Any two schedules therefore agree (`schedules_agree`), and the one-call-at-a-time run is a schedule
  (`sequential_interleaving`). A footprint table passes its check exactly when no entry writes
  (`footprintsDisjoint_iff`), so calls that stay within it form disjoint pools (`poolDisjoint_of_calls`).
-/
import Stgutg.Model.Interleave

namespace Stgutg.Proofs.Interleave
open Stgutg.Model.Interleave

variable {Val Local : Type}

theorem applyWrites_congr (ws : List (Loc × Val)) (σ σ' : Store Val) (l : Loc) (h : σ l = σ' l) :
    applyWrites σ ws l = applyWrites σ' ws l := by
  induction ws generalizing σ σ' with
  | nil => exact h
  | cons w ws ih =>
    apply ih
    simp only [setLoc]
    split <;> simp [h]

theorem applyWrites_frame (ws : List (Loc × Val)) (σ : Store Val) (l : Loc)
    (h : ∀ w, w ∈ ws → w.1 ≠ l) : applyWrites σ ws l = σ l := by
  induction ws generalizing σ with
  | nil => rfl
  | cons w ws ih =>
    simp only [applyWrites]
    rw [ih _ (fun w' hw' => h w' (List.mem_cons_of_mem _ hw'))]
    have : w.1 ≠ l := h w (List.mem_cons_self ..)
    simp only [setLoc]
    split
    · next heq => exact absurd heq.symm this
    · rfl

theorem step_frame {s : Step Val Local} (hs : Respects s) (σ : Store Val) (loc : Local) (l : Loc)
    (hl : l ∉ s.writes) : applyWrites σ (s.act σ loc).1 l = σ l := by
  apply applyWrites_frame
  intro w hw heq
  exact hl (heq ▸ hs.writes_only σ loc w hw)

theorem mem_writesOf {t : List (Step Val Local)} {l : Loc} :
    l ∈ writesOf t ↔ ∃ s, s ∈ t ∧ l ∈ s.writes := by
  induction t with
  | nil => simp [writesOf]
  | cons s ss ih => simp [writesOf, ih]

theorem mem_readsOf {t : List (Step Val Local)} {l : Loc} :
    l ∈ readsOf t ↔ ∃ s, s ∈ t ∧ l ∈ s.reads := by
  induction t with
  | nil => simp [readsOf]
  | cons s ss ih => simp [readsOf, ih]

theorem solo_frame (t : List (Step Val Local)) (ht : ∀ s, s ∈ t → Respects s) (σ : Store Val) (loc : Local)
    (l : Loc) (hl : l ∉ writesOf t) : (solo σ loc t).1 l = σ l := by
  induction t generalizing σ loc with
  | nil => rfl
  | cons s ss ih =>
    simp only [writesOf, List.mem_append, not_or] at hl
    simp only [solo]
    rw [ih (fun s' hs' => ht s' (List.mem_cons_of_mem _ hs')) _ _ hl.2]
    exact step_frame (ht s (List.mem_cons_self ..)) σ loc l hl.1

/-- the result of a thread run alone depends on the store only through the thread's own footprint, and the two
    final stores agree wherever the initial ones did -/
theorem solo_congr (t : List (Step Val Local)) (ht : ∀ s, s ∈ t → Respects s) (σ σ' : Store Val) (loc : Local)
    (h : ∀ l, (l ∈ readsOf t ∨ l ∈ writesOf t) → σ l = σ' l) :
    (solo σ loc t).2 = (solo σ' loc t).2 ∧ ∀ l, σ l = σ' l → (solo σ loc t).1 l = (solo σ' loc t).1 l := by
  induction t generalizing σ σ' loc with
  | nil => exact ⟨rfl, fun _ hl => hl⟩
  | cons s ss ih =>
    have hact : s.act σ loc = s.act σ' loc :=
      (ht s (List.mem_cons_self ..)).reads_only σ σ' loc (fun l hl => h l (Or.inl (by simp [readsOf, hl])))
    simp only [solo]
    rw [← hact]
    have ih' := ih (fun s' hs' => ht s' (List.mem_cons_of_mem _ hs')) (applyWrites σ (s.act σ loc).1)
      (applyWrites σ' (s.act σ loc).1) (s.act σ loc).2
      (fun l hl => applyWrites_congr _ _ _ _ (h l (hl.imp (by simp [readsOf, ·]) (by simp [writesOf, ·]))))
    exact ⟨ih'.1, fun l hl => ih'.2 l (applyWrites_congr _ _ _ _ hl)⟩

theorem upd_same {α : Type} (f : Nat → α) (i : Nat) (a : α) : upd f i a i = a := by simp [upd]
theorem upd_other {α : Type} (f : Nat → α) (i j : Nat) (a : α) (h : j ≠ i) : upd f i a j = f j := by simp [upd, h]

theorem upd_upd {α : Type} (f : Nat → α) (i : Nat) (a b : α) : upd (upd f i a) i b = upd f i b := by
  funext j; simp only [upd]; split <;> rfl

theorem upd_self {α : Type} (f : Nat → α) (i : Nat) (a : α) (h : f i = a) : upd f i a = f := by
  funext j; simp only [upd]; split
  · next hj => rw [hj, h]
  · rfl

theorem mem_upd_tail {p : Pool Val Local} {i : Tid} {s : Step Val Local} {rest : List (Step Val Local)}
    (hp : p i = s :: rest) {j : Tid} {s' : Step Val Local} (h : s' ∈ upd p i rest j) : s' ∈ p j := by
  by_cases hj : j = i
  · subst hj; rw [upd_same] at h; rw [hp]; exact List.mem_cons_of_mem _ h
  · rw [upd_other _ _ _ _ hj] at h; exact h

theorem poolRespects_tail {p : Pool Val Local} {i : Tid} {s : Step Val Local} {rest : List (Step Val Local)}
    (hp : p i = s :: rest) (h : PoolRespects p) : PoolRespects (upd p i rest) :=
  fun j s' hs' => h j s' (mem_upd_tail hp hs')

theorem poolDisjoint_tail {p : Pool Val Local} {i : Tid} {s : Step Val Local} {rest : List (Step Val Local)}
    (hp : p i = s :: rest) (h : PoolDisjoint p) : PoolDisjoint (upd p i rest) :=
  fun j k hjk a ha b hb => h j k hjk a (mem_upd_tail hp ha) b (mem_upd_tail hp hb)

theorem interleaving_mem {p : Pool Val Local} {tr : Trace Val Local} (h : Interleaving p tr) :
    ∀ e, e ∈ tr → e.2 ∈ p e.1 := by
  induction h with
  | done _ => intro e he; cases he
  | @pick p i s rest tr hp _ ih =>
    intro e he
    rcases List.mem_cons.mp he with rfl | he
    · show s ∈ p i
      rw [hp]; exact List.mem_cons_self ..
    · exact mem_upd_tail hp (ih e he)

theorem outside_other {p : Pool Val Local} (hD : PoolDisjoint p) {i j : Tid} (hij : i ≠ j) {s : Step Val Local}
    (hs : s ∈ p i) {l : Loc} (hl : l ∈ s.writes) : l ∉ readsOf (p j) ∧ l ∉ writesOf (p j) := by
  refine ⟨fun h => ?_, fun h => ?_⟩
  · obtain ⟨s', hs', hl'⟩ := mem_readsOf.mp h
    exact (hD i j hij s hs s' hs' l hl).1 hl'
  · obtain ⟨s', hs', hl'⟩ := mem_writesOf.mp h
    exact (hD i j hij s hs s' hs' l hl).2 hl'

/-- Under footprint respect and pairwise disjointness, after ANY schedule:
    every thread's local state is what it computes when run alone from the initial store, and every location that
    no thread other than `i` may write holds what thread `i` leaves there when run alone.
    The step at the head of the schedule, of thread `i₀`, is the first step of `i₀`'s solo run; to every other thread
    it is invisible, because it writes outside that thread's footprint (`solo_congr`). -/
theorem exec_eq_solo {p : Pool Val Local} {tr : Trace Val Local} (h : Interleaving p tr) :
    PoolRespects p → PoolDisjoint p → ∀ c : Config Val Local,
    (∀ i, (exec c tr).locals i = (solo c.store (c.locals i) (p i)).2) ∧
    (∀ i l, (∀ j, j ≠ i → l ∉ writesOf (p j)) → (exec c tr).store l = (solo c.store (c.locals i) (p i)).1 l) := by
  induction h with
  | done hall => intro _ _ c; simp [exec, hall, solo]
  | @pick p i₀ s rest tr hp _ ih =>
    intro hR hD c
    have hsp : s ∈ p i₀ := by rw [hp]; exact List.mem_cons_self ..
    obtain ⟨ih1, ih2⟩ := ih (poolRespects_tail hp hR) (poolDisjoint_tail hp hD) (stepCfg c i₀ s)
    -- thread `i₀`: the step is the head of its solo run
    have hself : solo (stepCfg c i₀ s).store ((stepCfg c i₀ s).locals i₀) (upd p i₀ rest i₀) =
        solo c.store (c.locals i₀) (p i₀) := by
      rw [upd_same, hp]; simp only [stepCfg, upd_same, solo]
    -- another thread: the store has changed only outside its footprint
    have hother : ∀ i, i ≠ i₀ →
        (solo (stepCfg c i₀ s).store ((stepCfg c i₀ s).locals i) (upd p i₀ rest i)).2 =
          (solo c.store (c.locals i) (p i)).2 ∧
        ∀ l, l ∉ s.writes → (solo (stepCfg c i₀ s).store ((stepCfg c i₀ s).locals i) (upd p i₀ rest i)).1 l =
          (solo c.store (c.locals i) (p i)).1 l := by
      intro i hi
      have hfr : ∀ l, l ∉ s.writes → (stepCfg c i₀ s).store l = c.store l :=
        fun l hl => step_frame (hR i₀ s hsp) c.store _ l hl
      rw [upd_other _ _ _ _ hi, show (stepCfg c i₀ s).locals i = c.locals i by simp [stepCfg, upd_other _ _ _ _ hi]]
      have := solo_congr (p i) (hR i) _ c.store (c.locals i) fun l hl => hfr l fun hw =>
        have ⟨hr, hw⟩ := outside_other hD (Ne.symm hi) hsp hw
        hl.elim hr hw
      exact ⟨this.1, fun l hl => this.2 l (hfr l hl)⟩
    refine ⟨fun i => ?_, fun i l hl => ?_⟩
    · show (exec (stepCfg c i₀ s) tr).locals i = _
      rw [ih1 i]
      by_cases hi : i = i₀
      · rw [hi, hself]
      · exact (hother i hi).1
    · show (exec (stepCfg c i₀ s) tr).store l = _
      rw [ih2 i l fun j hj hw => hl j hj (mem_writesOf.mpr
        (let ⟨s', hs', hl'⟩ := mem_writesOf.mp hw; ⟨s', mem_upd_tail hp hs', hl'⟩))]
      by_cases hi : i = i₀
      · rw [hi, hself]
      · exact (hother i hi).2 l fun hw => hl i₀ (Ne.symm hi) (mem_writesOf.mpr ⟨s, hsp, hw⟩)

theorem schedules_agree {p : Pool Val Local} (hR : PoolRespects p) (hD : PoolDisjoint p) (c : Config Val Local)
    {tr tr' : Trace Val Local} (h : Interleaving p tr) (h' : Interleaving p tr') :
    (exec c tr).locals = (exec c tr').locals ∧ (exec c tr).store = (exec c tr').store := by
  obtain ⟨a1, a2⟩ := exec_eq_solo h hR hD c
  obtain ⟨b1, b2⟩ := exec_eq_solo h' hR hD c
  refine ⟨funext fun i => (a1 i).trans (b1 i).symm, funext fun l => ?_⟩
  -- the one thread that may write `l`, or any thread if none does
  have ⟨i, hi⟩ : ∃ i, ∀ j, j ≠ i → l ∉ writesOf (p j) := by
    by_cases hw : ∃ i, l ∈ writesOf (p i)
    · refine hw.imp fun i hi j hj => ?_
      obtain ⟨s, hs, hls⟩ := mem_writesOf.mp hi
      exact (outside_other hD (Ne.symm hj) hs hls).2
    · exact ⟨0, fun j _ hj => hw ⟨j, hj⟩⟩
  exact (a2 i l hi).trans (b2 i l hi).symm

/-- no schedule contains a conflicting access pair -/
theorem raceFree {p : Pool Val Local} (hD : PoolDisjoint p) {tr : Trace Val Local} (h : Interleaving p tr) :
    RaceFree tr := by
  induction h with
  | done _ => exact List.Pairwise.nil
  | @pick p i s rest tr hp htr ih =>
    refine List.Pairwise.cons ?_ (ih (poolDisjoint_tail hp hD))
    intro e he hne
    have hmem : e.2 ∈ p e.1 := mem_upd_tail hp (interleaving_mem htr e he)
    have hsi : s ∈ p i := by rw [hp]; exact List.mem_cons_self ..
    exact ⟨hD i e.1 hne s hsi e.2 hmem, hD e.1 i (Ne.symm hne) e.2 hmem s hsi⟩

/-! ### the sequential run is one of the schedules -/

theorem run_thread (i : Tid) (steps : List (Step Val Local)) :
    ∀ (p : Pool Val Local) (tr : Trace Val Local), p i = steps → Interleaving (upd p i []) tr →
      Interleaving p (steps.map (fun s => (i, s)) ++ tr) := by
  induction steps with
  | nil =>
    intro p tr hp h
    rw [upd_self p i [] hp] at h
    exact h
  | cons s rest ih =>
    intro p tr hp h
    refine Interleaving.pick hp ?_
    apply ih (upd p i rest) tr (upd_same ..)
    rw [upd_upd]
    exact h

theorem seqTrace_congr (p q : Pool Val Local) (ids : List Tid) (h : ∀ i, i ∈ ids → p i = q i) :
    seqTrace p ids = seqTrace q ids := by
  induction ids with
  | nil => rfl
  | cons i ids ih =>
    simp only [seqTrace]
    rw [h i (List.mem_cons_self ..), ih (fun j hj => h j (List.mem_cons_of_mem _ hj))]

theorem seq_interleaving (ids : List Tid) : ∀ (p : Pool Val Local), ids.Nodup → (∀ i, i ∉ ids → p i = []) →
    Interleaving p (seqTrace p ids) := by
  induction ids with
  | nil => intro p _ hc; exact Interleaving.done (fun i => hc i (by simp))
  | cons i ids ih =>
    intro p hn hc
    have hn' := List.nodup_cons.mp hn
    simp only [seqTrace]
    apply run_thread i (p i) p _ rfl
    have hq : seqTrace p ids = seqTrace (upd p i []) ids :=
      seqTrace_congr _ _ _ (fun j hj => by
        have : j ≠ i := fun e => hn'.1 (e ▸ hj)
        rw [upd_other _ _ _ _ this])
    rw [hq]
    apply ih _ hn'.2
    intro j hj
    by_cases hji : j = i
    · subst hji; exact upd_same ..
    · rw [upd_other _ _ _ _ hji]
      exact hc j (by simp [hji, hj])

theorem pool_out_of_range (ts : List (List (Step Val Local))) (i : Tid) (h : i ∉ List.range ts.length) :
    pool ts i = [] := by
  have : ¬ i < ts.length := fun hlt => h (List.mem_range.mpr hlt)
  simp [pool, List.getElem?_eq_none (Nat.le_of_not_lt this)]

theorem sequential_interleaving (ts : List (List (Step Val Local))) : Interleaving (pool ts) (sequential ts) :=
  seq_interleaving _ _ List.nodup_range (pool_out_of_range ts)

theorem mem_pool {ts : List (List (Step Val Local))} {i : Tid} {s : Step Val Local} (h : s ∈ pool ts i) :
    ∃ t, t ∈ ts ∧ s ∈ t := by
  unfold pool at h
  cases hget : ts[i]? with
  | none => rw [hget] at h; simp at h
  | some t =>
    rw [hget] at h
    exact ⟨t, List.mem_of_getElem? hget, by simpa using h⟩

theorem poolRespects_pool (ts : List (List (Step Val Local))) (hR : ∀ t, t ∈ ts → ∀ s, s ∈ t → Respects s) :
    PoolRespects (pool ts) := by
  intro i s hs
  obtain ⟨t, ht, hst⟩ := mem_pool hs
  exact hR t ht s hst

/-- every schedule of a respectful, disjoint list of threads ends like the one-call-at-a-time run, without a
    conflicting access pair -/
theorem pool_noninterference {ts : List (List (Step Val Local))} (hR : PoolRespects (pool ts))
    (hD : PoolDisjoint (pool ts)) (c : Config Val Local) {tr : Trace Val Local} (h : Interleaving (pool ts) tr) :
    (exec c tr).locals = (exec c (sequential ts)).locals ∧ (exec c tr).store = (exec c (sequential ts)).store ∧
    RaceFree tr :=
  have := schedules_agree hR hD c h (sequential_interleaving ts)
  ⟨this.1, this.2, raceFree hD h⟩

/-! ### from the footprint table to disjoint pools -/

theorem not_interferes {a b : FP} (h : a.interferes b = false) :
    ∀ l, l ∈ a.writes → l ∉ b.reads ∧ l ∉ b.writes := by
  intro l hl
  simp only [FP.interferes, List.any_eq_false, Bool.or_eq_true, List.contains_eq_mem, decide_eq_true_eq,
    not_or] at h
  exact h l hl

/-- a footprint that writes interferes with itself, and the check pairs every entry with itself: it passes exactly when
    no entry writes anything -/
theorem footprintsDisjoint_iff (fps : List FP) : footprintsDisjoint fps = true ↔ ∀ a ∈ fps, a.writes = [] := by
  simp only [footprintsDisjoint, List.all_eq_true, Bool.not_eq_true']
  constructor
  · intro h a ha
    exact List.eq_nil_iff_forall_not_mem.mpr fun l hl => (not_interferes (h a ha a ha) l hl).2 hl
  · intro h a ha b _
    simp [FP.interferes, h a ha]

theorem mem_callSteps {cs : List (Call Val Local)} {s : Step Val Local} :
    s ∈ callSteps cs ↔ ∃ c, c ∈ cs ∧ s ∈ c.steps := by
  induction cs with
  | nil => simp [callSteps]
  | cons c cs ih => simp [callSteps, ih]

/-- threads made of calls that stay within a table that passes the check write no package-level variable at all -/
theorem poolDisjoint_of_calls {fps : List FP} (h : footprintsDisjoint fps = true)
    (threads : List (List (Call Val Local)))
    (hW : ∀ t, t ∈ threads → ∀ c, c ∈ t → c.Within fps) :
    PoolDisjoint (pool (threads.map callSteps)) := by
  intro i j _ s hs s' _ l hl
  obtain ⟨t, ht, hst⟩ := mem_pool hs
  obtain ⟨cs, hcs, rfl⟩ := List.mem_map.mp ht
  obtain ⟨c, hc, hsc⟩ := mem_callSteps.mp hst
  obtain ⟨e, he, hin⟩ := hW cs hcs c hc
  have := (hin s hsc).2 l hl
  simp [(footprintsDisjoint_iff fps).mp h e (List.mem_of_getElem? he)] at this

end Stgutg.Proofs.Interleave
