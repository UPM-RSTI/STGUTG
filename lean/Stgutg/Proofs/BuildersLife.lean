/-
  C02 helper: the NGAP messages of the life cycle after registration on the wire — PDU SESSION RESOURCE SETUP RESPONSE, INITIAL
  CONTEXT SETUP RESPONSE (service request), PDU SESSION RESOURCE RELEASE RESPONSE, UE CONTEXT RELEASE COMPLETE: for all in-range
  arguments the wrapper returns octets, the reference AMF decodes them to the built PDU, and what the judge reads from it
  (message, mandatory IEs, identifiers, PDU session identities) is what the wrapper was given.
-/
import Stgutg.Proofs.BuildersJudge

namespace Stgutg.Proofs.BuildersLife
open Stgutg Stgutg.Aper Stgutg.Builders Stgutg.Model.Convert Stgutg.Spec.NgapView
open Stgutg.Proofs.Builders Stgutg.Proofs.BuildersPath Stgutg.Proofs.BuildersRange Stgutg.Proofs.BuildersTm
open Stgutg.Proofs.BuildersRoles Stgutg.Proofs.BuildersJudge

/-- the explicit ranges of the life-cycle wrappers: both identifiers, a PDU session identity 0..255, an IPv4 text
    `net.ParseIP(..).To4()` accepts -/
structure LifeArgs (E : Ext) (amf ran psi : Int) (ip : Bytes) : Prop where
  ha0 : 0 ≤ amf
  ha1 : amf < 2 ^ 40
  hr0 : 0 ≤ ran
  hr1 : ran < 2 ^ 32
  hp0 : 0 ≤ psi
  hp1 : psi ≤ 255
  hip : cls E .ip (.str ip) = 2

open Spec.Ts38413 in
theorem setupResponse_wire (E : Ext) (plmn : Bytes) (hplmn : plmn.length = 3) (amf ran psi : Int) (ip : Bytes)
    (h : LifeArgs E amf ran psi ip) :
    ∃ pdu b, Wrapper.run E .GetPDUSessionResourceSetupResponse plmn [.int amf, .int ran, .int psi, .str ip] = .ok (.ok b) ∧
      Spec.Amf.decodeNgap b = some pdu ∧
      pduPresent pdu = some ((msgClass .PDUSessionResourceSetupResponse).index + 1) ∧
      pduProc pdu = some (procCode .PDUSessionResourceSetupResponse : Int) ∧
      Spec.Amf.missingMandatory .PDUSessionResourceSetupResponse pdu = none ∧
      Spec.Amf.ieInt pdu ieAMFUENGAPID = some amf ∧ Spec.Amf.ieInt pdu ieRANUENGAPID = some ran ∧
      Spec.Amf.iePsis pdu iePDUSessionResourceSetupListSURes = some [psi] := by
  have ht := Proofs.Emulator.mem_allTable_hand (t := tPDUSessionResourceSetupResponseForRegistrationTest) (by simp [handTable])
  have hsel : selected E tPDUSessionResourceSetupResponseForRegistrationTest plmn [.int amf, .int ran, .int psi, .str ip] =
      some ⟨[2], .val (skAt tPDUSessionResourceSetupResponseForRegistrationTest 2)⟩ := by
    simp [selected, classes, roleAt, effEnv, BEnv.arg, announced, tPDUSessionResourceSetupResponseForRegistrationTest, h.hip, skAt]
  obtain ⟨b, hrun, hsh, s⟩ := wire_of_roles E .GetPDUSessionResourceSetupResponse _ _ ht plmn _ rfl _ _ hsel rfl (by decide) hplmn
    (fun i => by
      rcases i with _ | _ | _ | _ | i
      exacts [⟨amf, rfl, h.ha0, h.ha1⟩, ⟨ran, rfl, h.hr0, h.hr1⟩, ⟨psi, rfl, h.hp0, h.hp1⟩, ⟨ip, rfl, h.hip⟩, trivial]) rfl _ rfl
  obtain ⟨id, hid, hpsi⟩ := iePsis_psi ht hsh (i := 2) (by decide) rfl
  cases hid
  exact ⟨_, b, hrun, s.1, s.2, s.3, s.4, ieInt_amf ht hsh (i := 0) (by decide) rfl, ieInt_ran ht hsh (i := 1) (by decide) rfl, hpsi⟩

open Spec.Ts38413 in
/-- INITIAL CONTEXT SETUP RESPONSE answering a service request (`GetInitialContextSetupResponseForServiceRequest`: nil failed list) -/
theorem icsResponseSvc_wire (E : Ext) (plmn : Bytes) (hplmn : plmn.length = 3) (amf ran psi : Int) (ip : Bytes)
    (h : LifeArgs E amf ran psi ip) :
    ∃ pdu b, Wrapper.run E .GetInitialContextSetupResponseForServiceRequest plmn [.int amf, .int ran, .int psi, .str ip]
        = .ok (.ok b) ∧
      Spec.Amf.decodeNgap b = some pdu ∧
      pduPresent pdu = some ((msgClass .InitialContextSetupResponse).index + 1) ∧
      pduProc pdu = some (procCode .InitialContextSetupResponse : Int) ∧
      Spec.Amf.missingMandatory .InitialContextSetupResponse pdu = none ∧
      Spec.Amf.ieInt pdu ieAMFUENGAPID = some amf ∧ Spec.Amf.ieInt pdu ieRANUENGAPID = some ran ∧
      Spec.Amf.iePsis pdu iePDUSessionResourceSetupListCxtRes = some [psi] := by
  have ht := Proofs.Emulator.mem_allTable_hand (t := tInitialContextSetupResponse) (by simp [handTable])
  have hsel : selected E tInitialContextSetupResponse plmn [.int amf, .int ran, .int psi, .str ip, .nil] =
      some ⟨[2, 0], .val (skAt tInitialContextSetupResponse 4)⟩ := by
    have hcl : classes E tInitialContextSetupResponse (effEnv tInitialContextSetupResponse plmn
        [.int amf, .int ran, .int psi, .str ip, .nil]) = [2, 0] := by
      have hip := h.hip
      simp only [classes, tInitialContextSetupResponse, List.map_cons, List.map_nil, roleAt, effEnv, BEnv.arg, announced]
      simp only [List.getElem?_cons_succ, List.getElem?_cons_zero, hip]
      rfl
    simp only [selected, hcl]
    rfl
  obtain ⟨b, hrun, hsh, s⟩ := wire_of_roles E .GetInitialContextSetupResponseForServiceRequest [.int amf, .int ran, .int psi, .str ip]
    _ ht plmn _ rfl _ _ hsel rfl (by decide) hplmn
    (fun i => by
      rcases i with _ | _ | _ | _ | _ | i
      exacts [⟨amf, rfl, h.ha0, h.ha1⟩, ⟨ran, rfl, h.hr0, h.hr1⟩, ⟨psi, rfl, h.hp0, h.hp1⟩, ⟨ip, rfl, h.hip⟩, trivial, trivial])
    rfl _ rfl
  obtain ⟨id, hid, hpsi⟩ := iePsis_psi ht hsh (i := 2) (by decide) rfl
  cases hid
  exact ⟨_, b, hrun, s.1, s.2, s.3, s.4, ieInt_amf ht hsh (i := 0) (by decide) rfl, ieInt_ran ht hsh (i := 1) (by decide) rfl, hpsi⟩

open Spec.Ts38413 in
theorem releaseResponse_wire (E : Ext) (plmn : Bytes) (hplmn : plmn.length = 3) (amf ran psi : Int)
    (ha0 : 0 ≤ amf) (ha1 : amf < 2 ^ 40) (hr0 : 0 ≤ ran) (hr1 : ran < 2 ^ 32) (hp0 : 0 ≤ psi) (hp1 : psi ≤ 255) :
    ∃ pdu b, Wrapper.run E .GetPDUSessionResourceReleaseResponse plmn [.int amf, .int ran, .int psi] = .ok (.ok b) ∧
      Spec.Amf.decodeNgap b = some pdu ∧
      pduPresent pdu = some ((msgClass .PDUSessionResourceReleaseResponse).index + 1) ∧
      pduProc pdu = some (procCode .PDUSessionResourceReleaseResponse : Int) ∧
      Spec.Amf.missingMandatory .PDUSessionResourceReleaseResponse pdu = none ∧
      Spec.Amf.ieInt pdu ieAMFUENGAPID = some amf ∧ Spec.Amf.ieInt pdu ieRANUENGAPID = some ran ∧
      Spec.Amf.iePsis pdu iePDUSessionResourceReleasedListRelRes = some [psi] := by
  have ht := Proofs.Emulator.mem_allTable_hand (t := tPDUSessionResourceReleaseResponseForReleaseTest) (by simp [handTable])
  obtain ⟨b, hrun, hsh, s⟩ := wire_of_roles E .GetPDUSessionResourceReleaseResponse [.int amf, .int ran, .int psi] _ ht plmn
    [.int amf, .int ran, .int psi] rfl ⟨[], .val (skAt tPDUSessionResourceReleaseResponseForReleaseTest 0)⟩ _ rfl rfl (by decide) hplmn
    (fun i => by
      rcases i with _ | _ | _ | i
      exacts [⟨amf, rfl, ha0, ha1⟩, ⟨ran, rfl, hr0, hr1⟩, ⟨psi, rfl, hp0, hp1⟩, trivial]) rfl _ rfl
  obtain ⟨id, hid, hpsi⟩ := iePsis_psi ht hsh (i := 2) (by decide) rfl
  cases hid
  exact ⟨_, b, hrun, s.1, s.2, s.3, s.4, ieInt_amf ht hsh (i := 0) (by decide) rfl, ieInt_ran ht hsh (i := 1) (by decide) rfl, hpsi⟩

open Spec.Ts38413 in
/-- UE CONTEXT RELEASE COMPLETE without a PDU session list (`pduSessionIDList == nil`) -/
theorem ueContextReleaseComplete_wire (E : Ext) (plmn : Bytes) (hplmn : plmn.length = 3) (amf ran : Int)
    (ha0 : 0 ≤ amf) (ha1 : amf < 2 ^ 40) (hr0 : 0 ≤ ran) (hr1 : ran < 2 ^ 32) :
    ∃ pdu b, Wrapper.run E .GetUEContextReleaseComplete plmn [.int amf, .int ran, .nil] = .ok (.ok b) ∧
      Spec.Amf.decodeNgap b = some pdu ∧
      pduPresent pdu = some ((msgClass .UEContextReleaseComplete).index + 1) ∧
      pduProc pdu = some (procCode .UEContextReleaseComplete : Int) ∧
      Spec.Amf.missingMandatory .UEContextReleaseComplete pdu = none ∧
      Spec.Amf.ieInt pdu ieAMFUENGAPID = some amf ∧ Spec.Amf.ieInt pdu ieRANUENGAPID = some ran := by
  have ht := Proofs.Emulator.mem_allTable_hand (t := tUEContextReleaseComplete) (by simp [handTable])
  obtain ⟨b, hrun, hsh, s⟩ := wire_of_roles E .GetUEContextReleaseComplete [.int amf, .int ran, .nil] _ ht plmn
    [.int amf, .int ran, .nil] rfl ⟨[0], .val (skAt tUEContextReleaseComplete 0)⟩ _ rfl rfl (by decide) hplmn
    (fun i => by
      rcases i with _ | _ | _ | i
      exacts [⟨amf, rfl, ha0, ha1⟩, ⟨ran, rfl, hr0, hr1⟩, trivial, trivial]) rfl _ rfl
  exact ⟨_, b, hrun, s.1, s.2, s.3, s.4, ieInt_amf ht hsh (i := 0) (by decide) rfl, ieInt_ran ht hsh (i := 1) (by decide) rfl⟩

end Stgutg.Proofs.BuildersLife
