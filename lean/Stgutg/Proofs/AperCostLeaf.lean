/-
  C14 (cost): the leaves of `parseField` — strings copy at most one octet per 8 bits read, the other kinds copy
  nothing; when a leaf is sure to consume a bit (the table's flag `d`).
-/
import Stgutg.Proofs.AperCostBound

namespace Stgutg.Proofs.AperCost
open Stgutg Stgutg.Aper

/-! ### strings -/

section
variable {ws wa : Nat}

theorem Bnd_octLoopC (sr lb : Int) : ∀ (fuel : Nat) (acc : Bytes),
    Bnd ws wa 0 wa 0 (parseOctetStringLoopC sr lb fuel acc) := by
  intro fuel
  induction fuel with
  | zero => intro acc; exact Bnd_fail _
  | succ fuel ih =>
    intro acc
    unfold parseOctetStringLoopC
    refine Bnd_bind0 (Bnd_lift (MonoD_parseLength sr)) fun x => Bnd_ite _ (Bnd_pure _) ?_
    refine Bnd_bind0 (Bnd_lift MonoD_align) fun _ => ?_
    exact Bnd_bind_l (Bnd_takeOctetsC _) fun b => Bnd_ite _ (ih _) (Bnd_pure _)

theorem Bnd_parseOctetStringC (ext : Bool) (lbP ubP : Option Int) :
    Bnd ws wa 0 wa 0 (parseOctetStringC ext lbP ubP) := by
  unfold parseOctetStringC
  generalize sizeBounds ext lbP ubP = sb
  obtain ⟨lb, ub, sr⟩ := sb
  dsimp only
  refine Bnd_ite _ (Bnd_ite _ ?_ ?_) ?_
  · exact Bnd_bind0 (Bnd_lift MonoD_align) (fun _ => Bnd_takeOctetsC _)
  · exact Bnd_map _ (Bnd_getBitsCopyC _)
  · exact Bnd_bind0 Bnd_get (fun r => Bnd_octLoopC sr lb _ _)

theorem Bnd_bitLoopC (sr lb : Int) : ∀ (fuel : Nat) (accB : Bytes) (accL : Nat),
    Bnd ws wa 0 wa 0 (parseBitStringLoopC sr lb fuel accB accL) := by
  intro fuel
  induction fuel with
  | zero => intro accB accL; exact Bnd_fail _
  | succ fuel ih =>
    intro accB accL
    unfold parseBitStringLoopC
    refine Bnd_bind0 (Bnd_lift (MonoD_parseLength sr)) fun x => Bnd_ite _ (Bnd_pure _) ?_
    refine Bnd_bind0 (Bnd_lift MonoD_align) fun _ => Bnd_bind0 Bnd_get fun r => Bnd_ite _ (Bnd_fail _) ?_
    exact Bnd_bind_l (Bnd_getBitsCopyC _) fun b => Bnd_ite _ (ih _ _) (Bnd_pure _)

theorem Bnd_parseBitStringC (ext : Bool) (lbP ubP : Option Int) :
    Bnd ws wa 0 wa 0 (parseBitStringC ext lbP ubP) := by
  unfold parseBitStringC
  generalize sizeBounds ext lbP ubP = sb
  obtain ⟨lb, ub, sr⟩ := sb
  dsimp only
  have hcopy : ∀ n, Bnd ws wa 0 wa 0 (getBitsCopyC n >>= fun b => (pure (bitsToBytes b, n) : DC (Bytes × Nat))) :=
    fun n => Bnd_map _ (Bnd_getBitsCopyC n)
  refine Bnd_ite _ (Bnd_ite _ ?_ (hcopy _)) ?_
  · exact Bnd_bind0 (Bnd_lift MonoD_align) fun _ => Bnd_bind0 Bnd_get fun r => Bnd_ite _ (Bnd_fail _) (hcopy _)
  · exact Bnd_bind0 Bnd_get (fun r => Bnd_bitLoopC sr lb _ _ _)

/-- leaf kinds of `parseField`: strings copy at most one octet per 8 bits consumed, the others nothing -/
theorem Bnd_decLeafC (ty : Ty) (params : Params) (se ve : Bool) :
    Bnd ws wa 0 wa 0 (decLeafC ty params se ve) := by
  unfold decLeafC
  cases ty with
  | bits => exact Bnd_map (fun (x : Bytes × Nat) => Val.bits x.1 x.2) (Bnd_parseBitStringC _ _ _)
  | octs => exact Bnd_map Val.octs (Bnd_parseOctetStringC _ _ _)
  | str => exact Bnd_map Val.str (Bnd_parseOctetStringC _ _ _)
  | enum => exact Bnd_map Val.enum (Bnd_lift (MonoD_of_eats
      (AperTotal.eats_parseEnumerated _ _ _ 0 (Nat.zero_le _) (fun h => nomatch h))))
  | bool => exact Bnd_map (fun b => Val.bool (decide (b = 1))) (Bnd_lift (MonoD_of_eats
      fun r => (AperTotal.eats_getBitsValue 1 (by decide) r).mono (Nat.zero_le _)))
  | int => exact Bnd_map Val.int (Bnd_lift (MonoD_of_eats
      (AperTotal.eats_parseInteger _ _ _ 0 (Nat.zero_le _) (fun h => nomatch h))))
  | _ => exact Bnd_fail _

end

theorem sizeBounds_fixed_eq (u : Int) (hu : u ≤ 65535) : sizeBounds false (some u) (some u) = (u, u, 1) := by
  unfold sizeBounds
  have h : ¬ u > 65535 := by omega
  simp [h]

/-- a fixed-size OCTET STRING is never read from nothing (size 0 traps in `getBitString`) -/
theorem Strict_parseOctetStringC_fixed (u : Int) (hu : u ≤ 65535) :
    Strict (parseOctetStringC false (some u) (some u)) := by
  unfold parseOctetStringC
  rw [sizeBounds_fixed_eq u hu]
  simp only [if_true]
  split
  · exact Strict_bind_r (MonoC_lift MonoD_align) (fun _ => Strict_takeOctetsC _ (by omega))
  · exact Strict_map _ (Strict_getBitsCopyC _)

theorem Strict_parseBitStringC_fixed (u : Int) (hu : u ≤ 65535) :
    Strict (parseBitStringC false (some u) (some u)) := by
  unfold parseBitStringC
  rw [sizeBounds_fixed_eq u hu]
  simp only [if_true]
  have hcopy : ∀ n, Strict (getBitsCopyC n >>= fun b => (pure (bitsToBytes b, n) : DC (Bytes × Nat))) :=
    fun n => Strict_map _ (Strict_getBitsCopyC n)
  split
  · exact Strict_bind_r (MonoC_lift MonoD_align) fun _ => Strict_bind_r MonoC_get fun r =>
      Strict_ite _ (Strict_fail _) (hcopy _)
  · exact hcopy _

/-! ### leaves -/

theorem Bnd_leafBody (ws wa : Nat) (ty : Ty) (params : Params) : Bnd ws wa 0 wa 0 (leafBodyC ty params) :=
  Bnd_bind0 (Bnd_lift (MonoD_extBits _ _)) (fun x => Bnd_decLeafC ty params x.1 x.2)

theorem extBits_none (p : Params) (isSlice : Bool) (hs : p.sizeExt = false) (hv : (p.valueExt && !isSlice) = false) :
    extBits p isSlice = (pure (false, false) : D (Bool × Bool)) := by
  unfold extBits
  simp only [hs, hv, Bool.false_eq_true, if_false]
  rfl

theorem or3_cases {a b c : Bool} (h : (a || b || c) = true) : (a = true ∨ b = true) ∨ (a = false ∧ b = false ∧ c = true) := by
  cases a <;> cases b <;> cases c <;> simp at h ⊢

/-- a leaf consumes a bit when it reads an extension bit, or else when its parser does -/
theorem Strict_leafBody (ty : Ty) (params : Params) (c : Bool) (hd : (params.valueExt || params.sizeExt || c) = true)
    (h : c = true → Strict (decLeafC ty params false false)) : Strict (leafBodyC ty params) := by
  rcases or3_cases hd with hx | ⟨hv, hs, h3⟩
  · refine Strict_bind_l (Strict_lift (StrictD_extBits params false ?_)) fun x => Bnd_toMono (Bnd_decLeafC (ws := 0) (wa := 0) ty params x.1 x.2)
    rcases hx with hx | hx
    · right; simp [hx]
    · left; exact hx
  · unfold leafBodyC
    rw [extBits_none params false hs (by simp [hv])]
    exact h h3

theorem fixed_of_flag (p : Params) (h : (match p.sizeLB, p.sizeUB with
      | some lb, some ub => decide (lb = ub) && decide (ub ≤ 65535) | _, _ => false) = true) :
    ∃ u, p.sizeLB = some u ∧ p.sizeUB = some u ∧ u ≤ 65535 := by
  cases hlb : p.sizeLB with
  | none => rw [hlb] at h; simp at h
  | some lb =>
    cases hub : p.sizeUB with
    | none => rw [hlb, hub] at h; simp at h
    | some ub =>
      rw [hlb, hub] at h
      simp only [Bool.and_eq_true, decide_eq_true_eq] at h
      exact ⟨ub, by rw [h.1], rfl, h.2⟩

/-- the static flag `d` of a leaf is sound -/
theorem leaf_strict (ws wa : Nat) (tab : List (Nat × CEntry)) (ty : Ty) (params : Params) (e : CEntry)
    (hl : AperTotal.isLeaf ty = true) (he : tyCost ws wa tab ty params = some e) (hd : e.d = true) :
    Strict (leafBodyC ty params) := by
  cases ty <;> simp only [tyCost, Option.some.injEq] at he <;> first | subst he | cases hl
  case int =>
    refine Strict_leafBody _ _ _ hd fun h3 => Strict_map Val.int (Strict_lift (StrictD_of_eats
      (AperTotal.eats_parseInteger _ _ _ 1 (Nat.le_refl _) fun _ lb ub hlb hub => ?_)))
    rw [hlb, hub] at h3
    simpa using h3
  case enum =>
    refine Strict_leafBody _ _ _ hd fun h3 => Strict_map Val.enum (Strict_lift (StrictD_of_eats
      (AperTotal.eats_parseEnumerated _ _ _ 1 (Nat.le_refl _) fun _ lb ub hlb hub => ?_)))
    rw [hlb, hub] at h3
    simpa using h3
  case bits =>
    refine Strict_leafBody _ _ _ hd fun h3 => ?_
    obtain ⟨u, hlb, hub, hu⟩ := fixed_of_flag params h3
    unfold decLeafC
    rw [hlb, hub]
    exact Strict_map (fun (x : Bytes × Nat) => Val.bits x.1 x.2) (Strict_parseBitStringC_fixed u hu)
  case octs =>
    refine Strict_leafBody _ _ _ hd fun h3 => ?_
    obtain ⟨u, hlb, hub, hu⟩ := fixed_of_flag params h3
    unfold decLeafC
    rw [hlb, hub]
    exact Strict_map Val.octs (Strict_parseOctetStringC_fixed u hu)
  case str =>
    refine Strict_leafBody _ _ _ hd fun h3 => ?_
    obtain ⟨u, hlb, hub, hu⟩ := fixed_of_flag params h3
    unfold decLeafC
    rw [hlb, hub]
    exact Strict_map Val.str (Strict_parseOctetStringC_fixed u hu)
  case bool =>
    exact Strict_bind_r (MonoC_lift (MonoD_extBits _ _)) fun x =>
      Strict_map (fun b => Val.bool (decide (b = 1))) (Strict_lift (StrictD_getBitsValue 1 (by decide)))
  case oid => exact Strict_bind_r (MonoC_lift (MonoD_extBits _ _)) fun x => Strict_fail _

end Stgutg.Proofs.AperCost
