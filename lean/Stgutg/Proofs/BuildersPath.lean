/-
  C13 / C01 helper: `InRange` from explicit argument ranges. `inRange_of_roles`: for every builder of the table, a row that finds
  every parameter without a fixed range absent, a 3-octet PLMN and `RoleOK` at every position. Its instances for the four NGAP
  messages of NG Setup + registration (NG SETUP REQUEST as the wrapper hands it to the encoder, INITIAL UE MESSAGE without
  5G-S-TMSI, UPLINK NAS TRANSPORT, INITIAL CONTEXT SETUP RESPONSE).
-/
import Stgutg.Props.C13
import Stgutg.Proofs.Emulator

namespace Stgutg.Proofs.BuildersPath
open Stgutg Stgutg.Aper Stgutg.Builders Stgutg.Model.Convert
open Stgutg.Proofs.BuildersOk Stgutg.Proofs.Builders Stgutg.Proofs.BuildersTm Stgutg.Proofs.BuildersRange
open Stgutg.Proofs.BuildersRoles

/-- `InRange` from the explicit ranges, role by role, for a row in which every parameter without a fixed range is absent -/
theorem inRange_of_roles (E : Ext) (t : Template) (ht : t ∈ allTable) (plmn : Bytes) (args : List Val) (c : Case) (tm : Tm)
    (hsel : selected E t plmn args = some c) (hout : c.out = .val tm) (hf : fixedRow t c = true)
    (hplmn : (effEnv t plmn args).plmn.length = 3)
    (H : ∀ i, RoleOK true E t (effEnv t plmn args) (roleAt t i) i) : InRange true E t plmn args := by
  have hx := List.all_eq_true.mp
    (Props.C13.plain_of_fixedRow t ht c (selected_mem E t plmn args c hsel) tm hout hf)
  refine Props.C13.C13_in_range true E t ht plmn args c tm hsel hout ⟨hplmn, H, ?_⟩ ?_
  · rintro i ⟨o, ho, hi⟩
    simpa [hi] using hx o ho
  · intro o ho hg
    simpa [hg] using hx o ho

/-- `GetNGSetupRequest` calls `BuildNGSetupRequest` and then overwrites gNB id and name in the PDU (`ngSetupSurgery`); what it
    hands to the encoder is what the one-skeleton template `tGetNGSetupRequest` builds -/
theorem ngsetup_wrapper_eq (E : Ext) (plmn : Bytes) (g m bl nm : Val) :
    Wrapper.pdu E .GetNGSetupRequest plmn [g, m, bl, nm] = build E tGetNGSetupRequest plmn [g, m, bl, nm] := rfl

def skAt (t : Template) (n : Nat) : Tm :=
  match t.cases[n]? with
  | some ⟨_, .val tm⟩ => tm
  | _ => .nil

/-- INITIAL UE MESSAGE as `RegisterUE` builds it (no 5G-S-TMSI) -/
def skInitialUE : Tm := initiating 15 ignore 29 (initialUEIEs false)

/-- UPLINK NAS TRANSPORT: AMF-UE-NGAP-ID in 0..2^40−1, RAN-UE-NGAP-ID in 0..2^32−1, any NAS-PDU, a 3-octet `TestPlmn` -/
theorem inRange_uplinkNasTransport (E : Ext) (plmn : Bytes) (hplmn : plmn.length = 3) (amf ran : Int) (nas : Bytes)
    (ha0 : 0 ≤ amf) (ha1 : amf < 2 ^ 40) (hr0 : 0 ≤ ran) (hr1 : ran < 2 ^ 32) :
    InRange true E tUplinkNasTransport plmn [.int amf, .int ran, .octs nas] := by
  refine inRange_of_roles E _ (Proofs.Emulator.mem_allTable_hand (by simp [handTable])) plmn _ ⟨[], .val _⟩ _ rfl rfl (by decide)
    hplmn fun i => ?_
  rcases i with _ | _ | _ | i
  exacts [⟨amf, rfl, ha0, ha1⟩, ⟨ran, rfl, hr0, hr1⟩, trivial, trivial]

/-- INITIAL CONTEXT SETUP RESPONSE (registration): both identifiers in range -/
theorem inRange_initialContextSetupResponse (E : Ext) (plmn : Bytes) (hplmn : plmn.length = 3) (amf ran : Int)
    (ha0 : 0 ≤ amf) (ha1 : amf < 2 ^ 40) (hr0 : 0 ≤ ran) (hr1 : ran < 2 ^ 32) :
    InRange true E tInitialContextSetupResponseForRegistraionTest plmn [.int amf, .int ran] := by
  refine inRange_of_roles E _ (Proofs.Emulator.mem_allTable_hand (by simp [handTable])) plmn _ ⟨[], .val _⟩ _ rfl rfl (by decide)
    hplmn fun i => ?_
  rcases i with _ | _ | i
  exacts [⟨amf, rfl, ha0, ha1⟩, ⟨ran, rfl, hr0, hr1⟩, trivial]

/-- INITIAL UE MESSAGE without 5G-S-TMSI (`fiveGSTmsi == ""`, as `RegisterUE` calls it): RAN-UE-NGAP-ID in range, any NAS-PDU -/
theorem inRange_initialUEMessage (E : Ext) (plmn : Bytes) (hplmn : plmn.length = 3) (ran : Int) (nas : Bytes)
    (hr0 : 0 ≤ ran) (hr1 : ran < 2 ^ 32) :
    InRange true E tInitialUEMessage plmn [.int ran, .octs nas, .str []] := by
  refine inRange_of_roles E _ (Proofs.Emulator.mem_allTable_hand (by simp [handTable])) plmn _ ⟨[1], .val skInitialUE⟩ skInitialUE rfl rfl
    (by decide) hplmn fun i => ?_
  rcases i with _ | _ | _ | i
  exacts [⟨ran, rfl, hr0, hr1⟩, trivial, trivial, trivial]

/-- NG SETUP REQUEST as `GetNGSetupRequest(gnbId, mobilePLMN, bitlength, name)` hands it to the encoder: gNB id of
    `bitlength` = 22..32 bits in ⌈bitlength/8⌉ octets with the unused bits clear, a 3-octet PLMN, a non-empty name -/
theorem inRange_ngSetupRequest (E : Ext) (plmn : Bytes) (g m name : Bytes) (bl : Int)
    (hm : m.length = 3) (h22 : 22 ≤ bl) (h32 : bl ≤ 32) (hg : g.length = (bl.toNat + 7) / 8)
    (hc : Canonical g bl.toNat) (hname : 1 ≤ name.length) :
    InRange true E tGetNGSetupRequest plmn [.octs g, .octs m, .int bl, .str name] := by
  refine inRange_of_roles E _ (List.mem_append_right _ (by simp)) plmn _ ⟨[], .val _⟩ _ rfl rfl (by decide) hm fun i => ?_
  rcases i with _ | _ | _ | _ | i
  · intro j
    rcases j with _ | _ | _ | _ | j <;> refine ⟨fun hj => ?_, fun hj => ?_⟩ <;> try cases hj
    exact ⟨by show 22 ≤ bl.toNat; omega, by show bl.toNat ≤ 32; omega, hg, fun _ => hc⟩
  exacts [trivial, trivial, hname, trivial]

end Stgutg.Proofs.BuildersPath
