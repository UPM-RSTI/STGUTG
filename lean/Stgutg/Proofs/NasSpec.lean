/-
  Helper lemmas for Props/C09: the NAS codec model and the TS 24.501 encoder of Spec/Ts24501.lean write the
  same octets for the same abstract message, for every layout that implements the table's wire structure; and the
  row-by-row form of `specWF` / `toSpec` in which Props/C09 evaluates them on the constructors' messages.
  Core Lean only.
-/
import Stgutg.Proofs.NasCodec
import Stgutg.Proofs.Ts24501
import Stgutg.Model.NasSpec
namespace Stgutg.Nas
open Stgutg Stgutg.Spec.Ts24501

theorem lenBytes_one (n : Nat) : lenBytes 1 n = [UInt8.ofNat n] := rfl
theorem lenBytes_two (n : Nat) : lenBytes 2 n = be16 n := rfl

/-- one mandatory field: the model writes what the standard's encoder writes for the element's value -/
theorem mandIE_spec (s : Shape) (e : List WOp) (d : List ROp) (v : Val) (mw : MWire) (impl : MWire)
    (hk : mandKindOK s e d = true) (hv : mandValOK s v e = true) (hs : specValOK s v e = true)
    (hw : mandWireOf s e = some impl) (hm : mandMatches impl mw = true) :
    ∃ a, encIE s v e = .ok a ∧ ∀ ws vals tail, Spec.Ts24501.encMand ws vals = some tail →
      Spec.Ts24501.encMand (mw :: ws) (mandToSpec v e :: vals) = some (a ++ tail) := by
  unfold mandKindOK at hk
  split at hk <;> simp [mandValOK, specValOK, lenFits, mandWireOf] at hk hv hs hw
  · subst hw
    cases mw <;> simp [mandMatches] at hm
    subst hm
    exact ⟨v.data, by simp [encIE, wop], fun ws vals tail ht => by simp [Spec.Ts24501.encMand, mandToSpec, hv.2, ht]⟩
  · obtain ⟨⟨hvi, hvl⟩, hf⟩ := hv
    refine ⟨lenBytes s.lenW v.len ++ v.data, by simp [encIE, wop], fun ws vals tail ht => ?_⟩
    rcases hf with ⟨h, hlt⟩ | ⟨h, hlt⟩ <;>
    · simp [h] at hw; subst hw
      cases mw <;> simp [mandMatches] at hm
      rename_i fx
      cases fx <;> simp at hm
      simp [Spec.Ts24501.encMand, mandToSpec, h, lenBytes_one, lenBytes_two, ← hvl, hlt, ht, fixedOK]
  · obtain ⟨⟨hvi, hf⟩, hd⟩ := hv
    refine ⟨lenBytes s.lenW v.len ++ v.data, by simp [encIE, wop], fun ws vals tail ht => ?_⟩
    rcases hf with ⟨h, hlt⟩ | ⟨h, hlt⟩ <;>
    · simp [h] at hw; subst hw
      cases mw <;> simp [mandMatches] at hm
      rename_i fx
      cases fx <;> simp at hm
      simp [Spec.Ts24501.encMand, mandToSpec, h, lenBytes_one, lenBytes_two, hd, ← hs, hlt, ht, fixedOK]
      omega
  · subst hw
    cases mw <;> simp [mandMatches] at hm
    subst hm
    exact ⟨[], by simp [encIE, wop], fun ws vals tail ht => by simp [Spec.Ts24501.encMand, mandToSpec, hv.2, ht]⟩

theorem u8_of_div_mod (b : UInt8) : UInt8.ofNat (b.toNat / 16) * 16 + UInt8.ofNat (b.toNat % 16) = b := by
  apply UInt8.toNat_inj.mp
  simp [UInt8.toNat_add, UInt8.toNat_mul, UInt8.toNat_ofNat']
  have := b.toNat_lt
  omega

/-- one optional IE: the model writes what the standard's encoder writes for (IEI, value) under the table row -/
theorem optIE_spec (s : Shape) (e : List WOp) (d : List ROp) (c : Nat) (v : Val) (w : Wire) (ow : OWire)
    (impl : OKind × Option Nat)
    (hk : optKindOK s e d = true) (hr : ieiRangeOK e c = true) (hv : optValOK s c v e = true)
    (hs : specValOK s v e = true) (hw : optKindOf s e = some impl) (hm : optMatches c impl ow = true)
    (hfind : w.opt.find? (fun x => x.iei == c) = some ow) :
    ∃ a val, encIE s v e = .ok a ∧ optToSpec w c v e = (c, val) ∧ Spec.Ts24501.encOptIE ow val = some a := by
  simp only [optMatches, Bool.and_eq_true, beq_iff_eq] at hm
  obtain ⟨⟨hiei, hkind⟩, hcap⟩ := hm
  unfold optKindOK at hk
  split at hk <;> simp [optValOK, specValOK, lenFits, ieiRangeOK, optKindOf] at hk hv hs hr hw
  · obtain ⟨⟨hvi, hvl⟩, hd⟩ := hv
    split at hd
    · rename_i b hb
      simp at hd
      simp [hk] at hw
      subst hw
      simp at hkind
      refine ⟨[b], [UInt8.ofNat (b.toNat % 16)], by simp [encIE, wop, hb], by simp [optToSpec, hb], ?_⟩
      have hlt : b.toNat % 16 < 16 := by omega
      simp [Spec.Ts24501.encOptIE, ← hkind, ← hiei, u8_toNat_lt (show b.toNat % 16 < 256 by omega), hlt, hr.1, hr.2]
      rw [← hd]; exact u8_of_div_mod b
    · simp at hd
  · obtain ⟨⟨hvi, hvl⟩, hd⟩ := hv
    subst hw
    simp at hkind
    refine ⟨UInt8.ofNat c :: v.data, v.data, by simp [encIE, wop, hvi], ?_,
      by simp [Spec.Ts24501.encOptIE, ← hkind, hd, ← hiei, hr]⟩
    simp only [optToSpec, hfind]
    cases ow with
    | mk i k mn mx =>
      simp at hkind
      subst hkind
      simp [← hd]
  · obtain ⟨⟨hvi, hf⟩, hd⟩ := hv
    refine ⟨UInt8.ofNat c :: (lenBytes s.lenW v.len ++ v.data), v.data, by simp [encIE, wop, hvi], by simp [optToSpec], ?_⟩
    rcases hf with ⟨h, hlt⟩ | ⟨h, hlt⟩ <;>
    · simp [h] at hw; subst hw
      simp at hkind
      simp [Spec.Ts24501.encOptIE, ← hkind, ← hiei, hr, h, lenBytes_one, lenBytes_two, hd, ← hs, hlt]
  · obtain ⟨⟨hvi, hvl⟩, hf⟩ := hv
    refine ⟨UInt8.ofNat c :: (lenBytes s.lenW v.len ++ v.data), v.data, by simp [encIE, wop, hvi], by simp [optToSpec], ?_⟩
    rcases hf with ⟨h, hlt⟩ | ⟨h, hlt⟩ <;>
    · simp [h] at hw; subst hw
      simp at hkind
      simp [Spec.Ts24501.encOptIE, ← hkind, ← hiei, hr, h, lenBytes_one, lenBytes_two, ← hvl, hlt]
  · obtain ⟨⟨⟨⟨hvi, hf⟩, hd⟩, hle⟩, hz⟩ := hv
    have hle' : v.len ≤ v.data.length := by omega
    refine ⟨UInt8.ofNat c :: (lenBytes s.lenW v.len ++ v.data.take v.len), v.data.take v.len,
      by simp [encIE, wop, hvi, hle'], by simp [optToSpec], ?_⟩
    rcases hf with ⟨h, hlt⟩ | ⟨h, hlt⟩ <;>
    · simp [h] at hw; subst hw
      simp at hkind
      simp [Spec.Ts24501.encOptIE, ← hkind, ← hiei, hr, h, lenBytes_one, lenBytes_two, hle', hlt]

theorem mand_spec (fields : List Field) (m : Msg) :
    ∀ (ge : List (Nat × List WOp)) (gd : List (Nat × List ROp)) (i : Nat), mandWF fields i ge gd = true →
    ∀ mws : List MWire, mandValsOK fields m ge = true → mandAgree fields ge mws = true →
    specValsOK fields m ge = true →
    ∃ a, encGroups fields m false ge = .ok a ∧
      Spec.Ts24501.encMand mws (ge.filterMap fun g => match m[g.1]? with
        | some (some v) => some (mandToSpec v g.2)
        | _ => none) = some a := by
  refine mandWF_induction (fun _ mws _ ha _ => ?_) ?_
  · cases mws with
    | nil => exact ⟨[], rfl, rfl⟩
    | cons _ _ => simp [mandAgree] at ha
  intro i e d ge gd f hf hk ih mws hv ha hs
  obtain ⟨v, hm, hv1, hv2⟩ := mandValsOK_cons hf hv
  cases mws with
  | nil => simp [mandAgree] at ha
  | cons mw mws =>
    simp only [mandAgree, hf, Bool.and_eq_true] at ha
    simp only [specValsOK, List.all_cons, hf, hm, Bool.and_eq_true] at hs
    cases hwo : mandWireOf f.shape e with
    | none => simp [hwo] at ha
    | some impl =>
      simp only [hwo] at ha
      obtain ⟨a, henc, hspec⟩ := mandIE_spec f.shape e d v mw impl hk hv1 hs.1 hwo ha.1
      obtain ⟨a', henc', hspec'⟩ := ih mws hv2 ha.2 (by simpa [specValsOK] using hs.2)
      refine ⟨a ++ a', by simp [encGroups, hf, hm, henc, henc'], ?_⟩
      simp only [List.filterMap_cons, hm]
      exact hspec _ _ _ hspec'

theorem opt_spec (fields : List Field) (m : Msg) (w : Wire) (skip : List Nat)
    (hnd : nodupNat (w.opt.map (·.iei)) = true) (hsk : skips m skip = true) :
    ∀ (ge : List (Nat × List WOp)) (cs : List DecCase) (i : Nat), optWF fields i ge cs = true →
    ∀ ows : List OWire, optValsOK fields m ge cs = true → optAgree fields skip ge cs ows = true →
    specValsOK fields m ge = true → (∀ ow ∈ ows, ow ∈ w.opt) →
    ∃ b, encGroups fields m true ge = .ok b ∧
      Spec.Ts24501.encOpts w.opt ((ge.zip cs).filterMap fun p => match m[p.1.1]? with
        | some (some v) => some (optToSpec w p.2.iei v p.1.2)
        | _ => none) = some b := by
  refine optWF_induction (fun _ _ _ _ _ => ⟨[], rfl, by simp [Spec.Ts24501.encOpts]⟩) ?_
  intro i e c ge cs f hf _ _ hk hr ih ows hv ha hs hmem
  obtain ⟨o, hm, hvo, hv2⟩ := optValsOK_cons hf hv
  cases ows with
  | nil => simp [optAgree] at ha
  | cons ow ows =>
    simp only [optAgree, Bool.and_eq_true, Bool.or_eq_true] at ha
    simp only [specValsOK, List.all_cons, hf, hm, Bool.and_eq_true] at hs
    obtain ⟨b', henc', hspec'⟩ := ih ows hv2 ha.2 (by simpa [specValsOK] using hs.2) fun x hx => hmem x (by simp [hx])
    cases o with
    | none =>
      refine ⟨b', by simp [encGroups, hf, hm, henc'], ?_⟩
      simp only [List.zip_cons_cons, List.filterMap_cons, hm]
      exact hspec'
    | some v =>
      have hns : i ∉ skip := fun h => by simpa [hm] using List.all_eq_true.mp hsk i h
      have ha1 := ha.1
      simp only [List.contains_eq_mem, hns, decide_false, Bool.false_eq_true, false_or, hf] at ha1
      cases hwo : optKindOf f.shape e with
      | none => simp [hwo] at ha1
      | some impl =>
        simp only [hwo] at ha1
        have hieq : ow.iei = c.iei := by
          simp only [optMatches, Bool.and_eq_true, beq_iff_eq] at ha1
          exact ha1.1.1.symm
        have hfind : w.opt.find? (fun x => x.iei == c.iei) = some ow := by
          rw [← hieq]; exact find?_of_nodupNat (·.iei) w.opt ow hnd (hmem ow (by simp))
        obtain ⟨a, val, henc, hsv, hspec⟩ :=
          optIE_spec f.shape e c.ops c.iei v w ow impl hk hr (hvo v rfl) hs.1 hwo ha1 hfind
        refine ⟨a ++ b', by simp [encGroups, hf, hm, henc, henc'], ?_⟩
        simp only [List.zip_cons_cons, List.filterMap_cons, hm, hsv, Spec.Ts24501.encOpts, hfind, hspec, hspec']

/-- for every well-formed layout that implements the wire structure `w` (outside the skipped fields) and every message
    that denotes an abstract message, the model's encoder and the standard's write the same octets; the standard's parser
    reads them back to the abstract message and the model's decoder to the message -/
theorem spec_agree (L : Layout) (w : Wire) (m : Msg) (skip : List Nat)
    (hL : LayoutWF L) (hm : specWF L m = true) (ha : agree L w skip = true) (hs : skips m skip = true) :
    ∃ bs, encode L m = .ok bs ∧ Spec.Ts24501.encode w (toSpec L w m) = some bs ∧
      parse w bs = some (toSpec L w m) ∧ decode L bs = .ok m := by
  obtain ⟨⟨hw1, hw2⟩, _⟩ := by simpa only [LayoutWF, layoutWF, Bool.and_eq_true] using hL
  simp only [specWF, msgWF, Bool.and_eq_true, beq_iff_eq] at hm
  obtain ⟨⟨⟨⟨hlen, hv1⟩, hv2⟩, hs1⟩, hs2⟩ := hm
  simp only [agree, Bool.and_eq_true] at ha
  obtain ⟨⟨⟨ha1, ha2⟩, hnd⟩, hnr⟩ := ha
  obtain ⟨a, henc1, hspec1⟩ := mand_spec L.fields m L.encMand L.decMand 0 hw1 w.mand hv1 ha1 hs1
  obtain ⟨b, henc2, hspec2⟩ := opt_spec L.fields m w skip hnd hs L.encOpt L.cases _ hw2 w.opt hv2 ha2 hs2
    (fun _ h => h)
  have hspec : Spec.Ts24501.encode w (toSpec L w m) = some (a ++ b) := by
    have e1 : Spec.Ts24501.encMand w.mand (toSpec L w m).mand = some a := hspec1
    have e2 : Spec.Ts24501.encOpts w.opt (toSpec L w m).opt = some b := hspec2
    simp only [Spec.Ts24501.encode, e1, e2]
  obtain ⟨bs, henc, hdec⟩ := encode_decode_ok L m hL (by simp [MsgWF, msgWF, hlen, hv1, hv2])
  obtain rfl : bs = a ++ b := by simpa [encode, henc1, henc2] using henc.symm
  exact ⟨_, henc, hspec, parse_encode w _ _ hnr hspec, hdec⟩

/-! ### a message against its layout, row by row

`specWF` and `toSpec` look field `g.1` up in the field list and in the message for every statement group `g`.  In a
well-formed layout the groups sit on the fields 0, 1, 2, … in this order, so both are computed by walking field list,
message and groups in step.  On a concrete layout and a message with symbolic entries that walk is linear, where every
lookup would traverse the lists again. -/

theorem drop_eq_cons {α} {l : List α} {i : Nat} {a : α} (h : l[i]? = some a) : l.drop i = a :: l.drop (i + 1) := by
  obtain ⟨hlt, rfl⟩ := List.getElem?_eq_some_iff.mp h
  exact List.drop_eq_getElem_cons hlt

theorem drop_eq_nil {α} {l : List α} {i : Nat} (h : l[i]? = none) : l.drop i = [] :=
  List.drop_eq_nil_of_le (List.getElem?_eq_none_iff.mp h)

def mandRowsOK : List Field → Msg → List (Nat × List WOp) → Bool
  | _, _, [] => true
  | f :: fs, some v :: m, (_, e) :: ge => mandValOK f.shape v e && specValOK f.shape v e && mandRowsOK fs m ge
  | _, _, _ => false

def optRowsOK : List Field → Msg → List (Nat × List WOp) → List DecCase → Bool
  | _, [], [], _ => true
  | f :: fs, o :: m, (_, e) :: ge, c :: cs =>
    (match o with
      | some v => optValOK f.shape c.iei v e && specValOK f.shape v e
      | none => true) && optRowsOK fs m ge cs
  | _, _, _, _ => false

def mandRowsSpec : Msg → List (Nat × List WOp) → List Bytes
  | some v :: m, (_, e) :: ge => mandToSpec v e :: mandRowsSpec m ge
  | _, _ => []

def optRowsSpec (w : Wire) : Msg → List (Nat × List WOp) → List DecCase → List (Nat × Bytes)
  | o :: m, (_, e) :: ge, c :: cs => (o.map fun v => optToSpec w c.iei v e).toList ++ optRowsSpec w m ge cs
  | _, _, _ => []

/-- the abstract message of `m`, computed row by row -/
def rowsSpec (L : Layout) (w : Wire) (m : Msg) : SMsg :=
  ⟨mandRowsSpec m L.encMand, optRowsSpec w (m.drop L.encMand.length) L.encOpt L.cases⟩

theorem optRowsSpec_none (w : Wire) : ∀ (n : Nat) (ge : List (Nat × List WOp)) (cs : List DecCase),
    optRowsSpec w (List.replicate n none) ge cs = [] := by
  intro n
  induction n with
  | zero => intro ge cs; simp [optRowsSpec]
  | succ n ih =>
    intro ge cs
    cases ge with
    | nil => simp [optRowsSpec]
    | cons g ge => cases cs <;> simp [List.replicate_succ, optRowsSpec, ih]

theorem mandRows_sound (fields : List Field) (m : Msg) :
    ∀ (ge : List (Nat × List WOp)) (gd : List (Nat × List ROp)) (i : Nat), mandWF fields i ge gd = true →
    i ≤ m.length → mandRowsOK (fields.drop i) (m.drop i) ge = true →
    i + ge.length ≤ m.length ∧ mandValsOK fields m ge = true ∧ specValsOK fields m ge = true ∧
    (ge.filterMap fun g => match m[g.1]? with
      | some (some v) => some (mandToSpec v g.2)
      | _ => none) = mandRowsSpec (m.drop i) ge := by
  refine mandWF_induction (fun i hle _ => by simpa [mandValsOK, specValsOK, mandRowsSpec] using hle) ?_
  intro i e d ge gd f hf _ ih _ h
  rw [drop_eq_cons hf] at h
  cases hm : m[i]? with
  | none => simp [drop_eq_nil hm, mandRowsOK] at h
  | some o =>
    rw [drop_eq_cons hm] at h ⊢
    cases o with
    | none => simp [mandRowsOK] at h
    | some v =>
      simp only [mandRowsOK, Bool.and_eq_true] at h
      obtain ⟨h0, h1, h2, h3⟩ := ih (List.getElem?_eq_some_iff.mp hm).1 h.2
      refine ⟨by rw [List.length_cons]; omega, by simp only [mandValsOK, hf, hm, h.1.1, h1, Bool.and_self], ?_, ?_⟩
      · simpa only [specValsOK, List.all_cons, hf, hm, h.1.2, Bool.true_and] using h2
      · simp only [List.filterMap_cons, hm, mandRowsSpec, h3]

theorem optRows_sound (fields : List Field) (m : Msg) (w : Wire) :
    ∀ (ge : List (Nat × List WOp)) (cs : List DecCase) (i : Nat), optWF fields i ge cs = true →
    i ≤ m.length → optRowsOK (fields.drop i) (m.drop i) ge cs = true →
    m.length = fields.length ∧ optValsOK fields m ge cs = true ∧ specValsOK fields m ge = true ∧
    ((ge.zip cs).filterMap fun p => match m[p.1.1]? with
      | some (some v) => some (optToSpec w p.2.iei v p.1.2)
      | _ => none) = optRowsSpec w (m.drop i) ge cs := by
  refine optWF_induction (fun hle h => ?_) ?_
  · cases hm : m[fields.length]? with
    | none => exact ⟨by have := List.getElem?_eq_none_iff.mp hm; omega, by simp [optValsOK, specValsOK, optRowsSpec]⟩
    | some _ => simp [drop_eq_cons hm, optRowsOK] at h
  intro i e c ge cs f hf _ _ _ _ ih _ h
  rw [drop_eq_cons hf] at h
  cases hm : m[i]? with
  | none => simp [drop_eq_nil hm, optRowsOK] at h
  | some o =>
    rw [drop_eq_cons hm] at h ⊢
    simp only [optRowsOK, Bool.and_eq_true] at h
    obtain ⟨h0, h1, h2, h3⟩ := ih (List.getElem?_eq_some_iff.mp hm).1 h.2
    cases o with
    | none =>
      exact ⟨h0, by simp only [optValsOK, hf, hm, h1, Bool.and_self],
        by simpa only [specValsOK, List.all_cons, hf, hm, Bool.true_and] using h2,
        by simp only [List.zip_cons_cons, List.filterMap_cons, hm, optRowsSpec, h3, Option.map, Option.toList, List.nil_append]⟩
    | some v =>
      simp only [Bool.and_eq_true] at h
      exact ⟨h0, by simp only [optValsOK, hf, hm, h1, h.1.1, Bool.and_self],
        by simpa only [specValsOK, List.all_cons, hf, hm, h.1.2, Bool.true_and] using h2,
        by simp only [List.zip_cons_cons, List.filterMap_cons, hm, optRowsSpec, h3, Option.map, Option.toList,
          List.singleton_append]⟩

theorem rows_sound (L : Layout) (m : Msg) (hL : LayoutWF L)
    (hm : mandRowsOK L.fields m L.encMand = true)
    (ho : optRowsOK (L.fields.drop L.encMand.length) (m.drop L.encMand.length) L.encOpt L.cases = true) :
    specWF L m = true ∧
    ∀ w, toSpec L w m = rowsSpec L w m := by
  simp only [LayoutWF, layoutWF, Bool.and_eq_true] at hL
  obtain ⟨hk, m1, m2, m3⟩ := mandRows_sound L.fields m L.encMand L.decMand 0 hL.1.1 (Nat.zero_le _) hm
  have hopt := fun w => optRows_sound L.fields m w L.encOpt L.cases _ hL.1.2 (by simpa using hk) ho
  obtain ⟨hlen, o1, o2, _⟩ := hopt default
  exact ⟨by simp [specWF, msgWF, m1, m2, o1, o2, hlen],
    fun w => by simp only [toSpec, rowsSpec, SMsg.mk.injEq]; exact ⟨m3, (hopt w).2.2.2⟩⟩

end Stgutg.Nas
