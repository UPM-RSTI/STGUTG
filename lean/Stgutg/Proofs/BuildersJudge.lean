/-
  C01 helper: the NGAP layer of the reference AMF's `step` (Spec/Amf.lean) on the PDUs of the registration path.
  What the judge reads from a built PDU — message, mandatory IEs (`Seen`, `wire`, `wire_of_roles`), AMF-UE-NGAP-ID, RAN-UE-NGAP-ID,
  NAS-PDU, PDU session identity, the PLMN of the Global RAN Node ID (`ieInt_amf` … `ngSetupPlmn_eq`) — is what the builder was
  given, for every builder of the table (the table facts of C13).
  Last, the first three octets of a plain 5GMM message that the TS 24.501 parser accepts.
-/
import Stgutg.Proofs.BuildersPath
import Stgutg.Proofs.Emulator
import Stgutg.Spec.Amf

namespace Stgutg.Proofs.BuildersJudge
open Stgutg Stgutg.Aper Stgutg.Builders Stgutg.Model.Convert Stgutg.Spec.NgapView
open Stgutg.Proofs.Builders Stgutg.Proofs.BuildersPath Stgutg.Proofs.BuildersRange Stgutg.Proofs.BuildersTm

/-- `hh`, `hall` are what `Props.C13.C13_mandatory` concludes -/
theorem missingMandatory_none (m : Spec.Ts38413.Msg) (v : Val) (ms : List (Nat × Nat)) (hms : Spec.Ts38413.mandatory m = some ms)
    (hs : List (Int × Nat)) (hh : headers v = some (hs.map some)) (hall : ∀ x ∈ ms, ((x.1 : Int), x.2) ∈ hs) :
    Spec.Amf.missingMandatory m v = none := by
  unfold Spec.Amf.missingMandatory
  rw [hms, hh]
  simp only [Option.map_eq_none_iff, List.find?_eq_none]
  intro x hx
  obtain ⟨id, crit⟩ := x
  have := hall (id, crit) hx
  simp only [Bool.not_eq_true']
  intro hf
  have ht : ((hs.map some).any fun h => h == some ((id : Int), crit)) = true :=
    List.any_eq_true.mpr ⟨_, List.mem_map.mpr ⟨_, this, rfl⟩, by simp⟩
  rw [ht] at hf
  cases hf

theorem inRange_row (canon : Bool) (E : Ext) (t : Template) (plmn : Bytes) (args : List Val)
    (h : InRange canon E t plmn args) (c : Case) (tm : Tm) (hsel : selected E t plmn args = some c) (hout : c.out = .val tm) :
    ∀ o ∈ skObls tm, Obl.ok Gen.Ngap.schema canon E (effEnv t plmn args) .nil o = true := by
  obtain ⟨c', tm', hsel', hout', hob⟩ := h
  rw [hsel] at hsel'
  cases hsel'
  rw [hout] at hout'
  cases hout'
  exact hob

/-- **what the reference AMF decodes is the evaluated skeleton**: for the row the in-range arguments select, the builder
    returns the evaluation of that row's skeleton, `ngap.Encoder` returns octets, and the reference AMF decodes them to it -/
theorem skeleton_seen (E : Ext) (t : Template) (ht : t ∈ allTable) (plmn : Bytes) (args : List Val)
    (h : InRange true E t plmn args) (c : Case) (tm : Tm) (hsel : selected E t plmn args = some c) (hout : c.out = .val tm)
    (hnc : Props.C13.NonCanonicalConst t = false) :
    ∃ b, build E t plmn args = .ok (eval E (effEnv t plmn args) .nil tm) ∧
      encodePdu (eval E (effEnv t plmn args) .nil tm) = .ok b ∧
      Spec.Amf.decodeNgap b = some (eval E (effEnv t plmn args) .nil tm) := by
  have hob := inRange_row true E t plmn args h c tm hsel hout
  have hsk : skOK true tm = true := by
    rcases (Props.C13.skeleton_facts t ht c (selected_mem E t plmn args c hsel) tm hout).1.2 with h2 | h2
    · exact h2
    · rw [hnc] at h2; cases h2
  obtain ⟨hb, hv⟩ := selected_builds true E t plmn args c tm hsel hout hsk hob
  obtain ⟨b, h1, _⟩ := okV_pdu_encodes true _ hv
  refine ⟨b, hb, h1, ?_⟩
  apply Proofs.Emulator.amf_sees_built_pdu _ b ?_ ?_ h1
  · rw [← Proofs.Emulator.fuel_eq]; exact Proofs.BuildersOk.okV_conf _ _ _ _ _ hv
  · rw [← Proofs.Emulator.fuel_eq]; exact Proofs.BuildersOk.okV_regular _ _ _ _ _ _ _ hv

open Spec.Ts38413 in
theorem msgOf_of (pdu : Val) (m : Spec.Ts38413.Msg) (h1 : pduPresent pdu = some ((msgClass m).index + 1))
    (h2 : pduProc pdu = some (procCode m : Int))
    (hfind : Spec.Amf.uplinkMsgs.find? (fun m' => (msgClass m').index + 1 == (msgClass m).index + 1 &&
      (procCode m' : Int) == (procCode m : Int)) = some m) : Spec.Amf.msgOf pdu = some m := by
  unfold Spec.Amf.msgOf
  rw [h1, h2]
  exact hfind

/-- `Spec.Amf.step` opened on a message that decodes (`hd : decodeNgap b = some pdu`). Not `unfold`: that leaves the kernel to
    compare `step … b` with a `match` on `decodeNgap b`, which it does by running the decoder as far as the variable `b` lets it;
    rewriting with `@step = fun …` (a constant against a λ-term) it only unfolds `step`. -/
macro "open_step " hd:term : tactic =>
  `(tactic| (have e := Eq.refl @Spec.Amf.step; conv at e => rhs; delta Spec.Amf.step
             rw [e]; beta_reduce; rw [$hd:term]))

/-- a PDU with the identifiers the AMF assigned to the known UE `u`: the judge finds `u` and raises no identifier clause -/
theorem known_ue (s : Spec.Amf.St) (k : Nat) (pdu : Val) (amf ran : Int)
    (hamf : Spec.Amf.ieInt pdu Spec.Ts38413.ieAMFUENGAPID = some amf) (hran : Spec.Amf.ieInt pdu Spec.Ts38413.ieRANUENGAPID = some ran)
    (u : Spec.Amf.UeSt) (hu : s.ues.find? (·.ran == ran) = some u) (hua : (u.ch.amfUeNgapId : Int) = amf) :
    Spec.Amf.ueByRan s pdu = some u ∧ Spec.Amf.checkIds s k pdu u = s := by
  have hur : u.ran = ran := by simpa using List.find?_some hu
  constructor
  · unfold Spec.Amf.ueByRan; rw [hran]; exact hu
  · unfold Spec.Amf.checkIds
    rw [hamf, hran, hua, hur]
    simp

open Spec.Ts38413 in
/-- UPLINK NAS TRANSPORT from a known UE with the assigned identifiers: the judge raises no NGAP clause and hands the
    NAS-PDU to the plain / protected NAS handler -/
theorem step_uplinkNasTransport (P : Prims) (cfg : Spec.Amf.Cfg) (chs : List Spec.Amf.Choice) (s : Spec.Amf.St) (k : Nat)
    (b : Bytes) (pdu : Val) (amf ran : Int) (nas : Bytes) (hd : Spec.Amf.decodeNgap b = some pdu)
    (h1 : pduPresent pdu = some ((msgClass .UplinkNASTransport).index + 1))
    (h2 : pduProc pdu = some (procCode .UplinkNASTransport : Int))
    (hmiss : Spec.Amf.missingMandatory .UplinkNASTransport pdu = none)
    (hamf : Spec.Amf.ieInt pdu ieAMFUENGAPID = some amf) (hran : Spec.Amf.ieInt pdu ieRANUENGAPID = some ran)
    (hnas : Spec.Amf.ieOcts pdu ieNASPDU = some nas)
    (u : Spec.Amf.UeSt) (hu : s.ues.find? (·.ran == ran) = some u) (hua : (u.ch.amfUeNgapId : Int) = amf) :
    Spec.Amf.step P cfg chs s k b =
      if Spec.Amf.byteAt nas 1 % 16 == 0 then Spec.Amf.onPlainUplink s k u nas
      else Spec.Amf.onProtectedUplink P cfg s k u false nas := by
  have hmsg := msgOf_of pdu .UplinkNASTransport h1 h2 (by decide)
  obtain ⟨hby, hck⟩ := known_ue s k pdu amf ran hamf hran u hu hua
  open_step hd
  simp only [hmsg, hmiss]
  rw [hby]
  simp only
  rw [hck, hnas]

open Spec.Ts38413 in
/-- INITIAL CONTEXT SETUP RESPONSE answering the registration's INITIAL CONTEXT SETUP REQUEST: no clause; the UE is
    registered once Registration Complete has been seen too -/
theorem step_initialContextSetupResponse (P : Prims) (cfg : Spec.Amf.Cfg) (chs : List Spec.Amf.Choice) (s : Spec.Amf.St)
    (k : Nat) (b : Bytes) (pdu : Val) (amf ran : Int) (hd : Spec.Amf.decodeNgap b = some pdu)
    (h1 : pduPresent pdu = some ((msgClass .InitialContextSetupResponse).index + 1))
    (h2 : pduProc pdu = some (procCode .InitialContextSetupResponse : Int))
    (hmiss : Spec.Amf.missingMandatory .InitialContextSetupResponse pdu = none)
    (hamf : Spec.Amf.ieInt pdu ieAMFUENGAPID = some amf) (hran : Spec.Amf.ieInt pdu ieRANUENGAPID = some ran)
    (u : Spec.Amf.UeSt) (hu : s.ues.find? (·.ran == ran) = some u) (hua : (u.ch.amfUeNgapId : Int) = amf)
    (hsvc : u.svcPending = false) (c : Bool) (hreg : u.reg = .ctxSetup false c) :
    Spec.Amf.step P cfg chs s k b = s.setUe { u with reg := if c then .registered else .ctxSetup true c } := by
  have hmsg := msgOf_of pdu .InitialContextSetupResponse h1 h2 (by decide)
  obtain ⟨hby, hck⟩ := known_ue s k pdu amf ran hamf hran u hu hua
  open_step hd
  simp only [hmsg, hmiss]
  rw [hby]
  simp only
  rw [hck]
  simp [hsvc, hreg]

open Spec.Ts38413 in
/-- NG SETUP REQUEST announcing the configured PLMN, first on the association: no clause, NG Setup done -/
theorem step_ngSetupRequest (P : Prims) (cfg : Spec.Amf.Cfg) (chs : List Spec.Amf.Choice) (s : Spec.Amf.St)
    (k : Nat) (b : Bytes) (pdu : Val) (m : Bytes) (hd : Spec.Amf.decodeNgap b = some pdu)
    (h1 : pduPresent pdu = some ((msgClass .NGSetupRequest).index + 1))
    (h2 : pduProc pdu = some (procCode .NGSetupRequest : Int))
    (hmiss : Spec.Amf.missingMandatory .NGSetupRequest pdu = none)
    (hplmn : Spec.Amf.ngSetupPlmn pdu = some m) (hcfg : Spec.Amf.plmnOf cfg = some m) (hfirst : s.ngSetup = false) :
    Spec.Amf.step P cfg chs s k b = { s with ngSetup := true } := by
  have hmsg := msgOf_of pdu .NGSetupRequest h1 h2 (by decide)
  open_step hd
  simp only [hmsg, hmiss]
  simp [hfirst, hplmn, hcfg]

open Spec.Ts38413 in
/-- INITIAL UE MESSAGE after NG Setup: no NGAP clause; a plain Registration Request goes to `onRegistrationRequest` -/
theorem step_initialUEMessage (P : Prims) (cfg : Spec.Amf.Cfg) (chs : List Spec.Amf.Choice) (s : Spec.Amf.St)
    (k : Nat) (b : Bytes) (pdu : Val) (nas : Bytes) (hd : Spec.Amf.decodeNgap b = some pdu)
    (h1 : pduPresent pdu = some ((msgClass .InitialUEMessage).index + 1))
    (h2 : pduProc pdu = some (procCode .InitialUEMessage : Int))
    (hmiss : Spec.Amf.missingMandatory .InitialUEMessage pdu = none)
    (hnas : Spec.Amf.ieOcts pdu ieNASPDU = some nas) (hsetup : s.ngSetup = true)
    (hplain : Spec.Amf.byteAt nas 1 % 16 = 0) (hty : Spec.Amf.byteAt nas 2 = 0x41) :
    Spec.Amf.step P cfg chs s k b = Spec.Amf.onRegistrationRequest P cfg chs s k pdu nas := by
  have hmsg := msgOf_of pdu .InitialUEMessage h1 h2 (by decide)
  open_step hd
  simp only [hmsg, hmiss]
  simp [hsetup, hnas, hplain, hty]

open Spec.Ts38413 in
/-- the facts the judge's NGAP layer needs of a PDU that is the evaluation of a skeleton of `t` -/
theorem shaped_facts (E : Ext) (t : Template) (ht : t ∈ allTable) (plmn : Bytes) (args : List Val) (pdu : Val)
    (hsh : Shaped E t plmn args pdu) (ms : List (Nat × Nat)) (hms : mandatory t.message = some ms) :
    pduPresent pdu = some ((msgClass t.message).index + 1) ∧ pduProc pdu = some (procCode t.message : Int) ∧
    Spec.Amf.missingMandatory t.message pdu = none := by
  obtain ⟨h1, h2⟩ := Props.C13.C13_class E t ht plmn args pdu hsh
  obtain ⟨hs, hh, hall⟩ := Props.C13.C13_mandatory E t ht ms hms plmn args pdu hsh
  exact ⟨h1, h2, missingMandatory_none t.message pdu ms hms hs hh hall⟩

/-- what the judge's NGAP layer asks of the octets `b`: they decode to `pdu`, which is the message `m` with its mandatory IEs -/
structure Seen (b : Bytes) (pdu : Val) (m : Spec.Ts38413.Msg) : Prop where
  decodes : Spec.Amf.decodeNgap b = some pdu
  present : pduPresent pdu = some ((Spec.Ts38413.msgClass m).index + 1)
  proc : pduProc pdu = some (Spec.Ts38413.procCode m : Int)
  mandatory : Spec.Amf.missingMandatory m pdu = none

open Spec.Ts38413 in
theorem uplink_find : ∀ m ∈ Spec.Amf.uplinkMsgs, Spec.Amf.uplinkMsgs.find? (fun m' =>
    (msgClass m').index + 1 == (msgClass m).index + 1 && (procCode m' : Int) == (procCode m : Int)) = some m := by decide

/-- class and procedure code identify the message among those the judge expects -/
theorem Seen.msgOf {b : Bytes} {pdu : Val} {m : Spec.Ts38413.Msg} (h : Seen b pdu m) (hm : m ∈ Spec.Amf.uplinkMsgs) :
    Spec.Amf.msgOf pdu = some m := msgOf_of pdu m h.present h.proc (uplink_find m hm)

open Spec.Ts38413 in
/-- **a wrapper's message on the wire**: for in-range arguments that select the row `c` with skeleton `tm`, the wrapper returns
    octets, the reference AMF decodes them to the evaluated skeleton, and finds there the class, the procedure code and every
    mandatory IE of the message -/
theorem wire (E : Ext) (w : Wrapper) (wargs : List Val) (t : Template) (ht : t ∈ allTable) (plmn : Bytes) (args : List Val)
    (hw : Wrapper.pdu E w plmn wargs = build E t plmn args) (h : InRange true E t plmn args) (c : Case) (tm : Tm)
    (hsel : selected E t plmn args = some c) (hout : c.out = .val tm) (hnc : Props.C13.NonCanonicalConst t = false)
    (ms : List (Nat × Nat)) (hms : mandatory t.message = some ms) :
    ∃ b, Wrapper.run E w plmn wargs = .ok (.ok b) ∧ Shaped E t plmn args (eval E (effEnv t plmn args) .nil tm) ∧
      Seen b (eval E (effEnv t plmn args) .nil tm) t.message := by
  obtain ⟨b, hb, he, hd⟩ := skeleton_seen E t ht plmn args h c tm hsel hout hnc
  have hsh : Shaped E t plmn args (eval E (effEnv t plmn args) .nil tm) :=
    ⟨tm, mem_skeletons t c (selected_mem E t plmn args c hsel) tm hout, rfl⟩
  obtain ⟨f1, f2, f3⟩ := shaped_facts E t ht plmn args _ hsh ms hms
  exact ⟨b, by unfold Wrapper.run; rw [hw, hb]; simp only [he], hsh, hd, f1, f2, f3⟩

open Spec.Ts38413 Stgutg.Proofs.BuildersRoles in
/-- … from the ranges of the arguments, role by role, for a row in which every parameter without a fixed range is absent -/
theorem wire_of_roles (E : Ext) (w : Wrapper) (wargs : List Val) (t : Template) (ht : t ∈ allTable) (plmn : Bytes) (args : List Val)
    (hw : Wrapper.pdu E w plmn wargs = build E t plmn args) (c : Case) (tm : Tm)
    (hsel : selected E t plmn args = some c) (hout : c.out = .val tm) (hf : fixedRow t c = true)
    (hplmn : (effEnv t plmn args).plmn.length = 3) (H : ∀ i, RoleOK true E t (effEnv t plmn args) (roleAt t i) i)
    (hnc : Props.C13.NonCanonicalConst t = false) (ms : List (Nat × Nat)) (hms : mandatory t.message = some ms) :
    ∃ b, Wrapper.run E w plmn wargs = .ok (.ok b) ∧ Shaped E t plmn args (eval E (effEnv t plmn args) .nil tm) ∧
      Seen b (eval E (effEnv t plmn args) .nil tm) t.message :=
  wire E w wargs t ht plmn args hw (inRange_of_roles E t ht plmn args c tm hsel hout hf hplmn H) c tm hsel hout hnc ms hms

/-! ### what the judge reads from a PDU of the builder table, for every builder with a parameter of that role -/

theorem ieInt_of_exact (pdu : Val) (id : Nat) (n : Int) (h : ieValuesById pdu (id : Int) = some [some (.struct [.int n])]) :
    Spec.Amf.ieInt pdu id = some n := by
  unfold Spec.Amf.ieInt; rw [h]

theorem ieOcts_of_exact (pdu : Val) (id : Nat) (b : Bytes) (h : ieValuesById pdu (id : Int) = some [some (.struct [.octs b])]) :
    Spec.Amf.ieOcts pdu id = some b := by
  unfold Spec.Amf.ieOcts; rw [h]

/-- the PDU session identities the judge reads from a list IE whose (single) item starts with the PDU Session ID `psi` -/
theorem iePsis_of (pdu : Val) (id : Nat) (psi : Int) (rest : List Val)
    (h : ieValuesById pdu (id : Int) = some [some (.struct [.slice [.struct (.struct [.int psi] :: rest)]])]) :
    Spec.Amf.iePsis pdu id = some [psi] := by
  unfold Spec.Amf.iePsis; rw [h]; rfl

section
open Spec.Ts38413
variable {E : Ext} {t : Template} (ht : t ∈ allTable) {plmn : Bytes} {args : List Val} {pdu : Val}
  (h : Shaped E t plmn args pdu)
include ht h

theorem ieInt_amf {i : Nat} (hi : roleIdx t .amf = some i) {n : Int} (ha : args[i]? = some (.int n)) :
    Spec.Amf.ieInt pdu (amfIe t.message) = some n :=
  ieInt_of_exact _ _ n (by rw [Props.C13.amf_exact E t ht i plmn args pdu h hi, effEnv_arg t plmn args i _ ha])

theorem ieInt_ran {i : Nat} (hi : roleIdx t .ran = some i) {n : Int} (ha : args[i]? = some (.int n)) :
    Spec.Amf.ieInt pdu ieRANUENGAPID = some n :=
  ieInt_of_exact _ _ n (by rw [Props.C13.ran_exact E t ht i plmn args pdu h hi, effEnv_arg t plmn args i _ ha])

/-- a builder that does not test its NAS-PDU argument always carries it -/
theorem ieOcts_nas {i : Nat} (hi : roleIdx t .nas = some i) (hd : i ∉ t.dims) {a : Val} (ha : args[i]? = some a) :
    Spec.Amf.ieOcts pdu ieNASPDU = some (bytesOf a) := by
  rcases Props.C13.nas_exact E t ht i plmn args pdu h hi with h1 | ⟨hd', _⟩
  · exact ieOcts_of_exact _ _ _ (by rw [h1, effEnv_arg t plmn args i _ ha])
  · exact absurd hd' hd

/-- the PDU session identities of the item list are the one PDU session id the builder was given -/
theorem iePsis_psi {i : Nat} (hi : roleIdx t .psi = some i) {n : Int} (ha : args[i]? = some (.int n)) :
    ∃ id, psiItemIe t.message = some id ∧ Spec.Amf.iePsis pdu id = some [n] := by
  obtain ⟨id, rest, hid, h1⟩ := Props.C13.psi_item E t ht i plmn args pdu h hi
  exact ⟨id, hid, iePsis_of _ _ n rest (by rw [h1, effEnv_arg t plmn args i _ ha])⟩

/-- the PLMN the judge reads from the Global RAN Node ID of NG SETUP REQUEST is `TestPlmn` as the call announces it -/
theorem ngSetupPlmn_eq {i j : Nat} (hi : roleIdx t .gnbid = some i) (hj : roleIdx t .bitlen = some j)
    (hc : roleIdx t .cellid = none) : Spec.Amf.ngSetupPlmn pdu = some (effEnv t plmn args).plmn := by
  obtain ⟨tm, htm, rfl⟩ := h
  have hT := List.all_eq_true.mp Props.C13.gnb_table t ht
  unfold gnbOK at hT
  simp only [hi, hj, hc, Bool.and_eq_true, List.all_eq_true] at hT
  obtain ⟨v, hv1, hv2⟩ := carriesHole_sound E (effEnv t plmn args) .nil tm _ _ _ (hT tm htm).2
  unfold Spec.Amf.ngSetupPlmn
  rw [hv1]
  simp only [hv2]
  rfl

end

/-! ### the four wrappers of NG Setup and registration -/

open Spec.Ts38413 in
theorem uplinkNasTransport_wire (E : Ext) (plmn : Bytes) (hplmn : plmn.length = 3) (amf ran : Int) (nas : Bytes)
    (ha0 : 0 ≤ amf) (ha1 : amf < 2 ^ 40) (hr0 : 0 ≤ ran) (hr1 : ran < 2 ^ 32) :
    ∃ pdu b, Wrapper.run E .GetUplinkNASTransport plmn [.int amf, .int ran, .octs nas] = .ok (.ok b) ∧
      Spec.Amf.decodeNgap b = some pdu ∧
      pduPresent pdu = some ((msgClass .UplinkNASTransport).index + 1) ∧
      pduProc pdu = some (procCode .UplinkNASTransport : Int) ∧
      Spec.Amf.missingMandatory .UplinkNASTransport pdu = none ∧
      Spec.Amf.ieInt pdu ieAMFUENGAPID = some amf ∧ Spec.Amf.ieInt pdu ieRANUENGAPID = some ran ∧
      Spec.Amf.ieOcts pdu ieNASPDU = some nas := by
  have ht := Proofs.Emulator.mem_allTable_hand (t := tUplinkNasTransport) (by simp [handTable])
  obtain ⟨b, hrun, hsh, s⟩ := wire E .GetUplinkNASTransport _ _ ht plmn _ rfl
    (inRange_uplinkNasTransport E plmn hplmn amf ran nas ha0 ha1 hr0 hr1) ⟨[], .val (skAt tUplinkNasTransport 0)⟩ _ rfl rfl rfl _ rfl
  exact ⟨_, b, hrun, s.1, s.2, s.3, s.4, ieInt_amf ht hsh (i := 0) (by decide) rfl, ieInt_ran ht hsh (i := 1) (by decide) rfl,
    ieOcts_nas ht hsh (i := 2) (by decide) (by decide) rfl⟩

open Spec.Ts38413 in
theorem initialContextSetupResponse_wire (E : Ext) (plmn : Bytes) (hplmn : plmn.length = 3) (amf ran : Int)
    (ha0 : 0 ≤ amf) (ha1 : amf < 2 ^ 40) (hr0 : 0 ≤ ran) (hr1 : ran < 2 ^ 32) :
    ∃ pdu b, Wrapper.run E .GetInitialContextSetupResponse plmn [.int amf, .int ran] = .ok (.ok b) ∧
      Spec.Amf.decodeNgap b = some pdu ∧
      pduPresent pdu = some ((msgClass .InitialContextSetupResponse).index + 1) ∧
      pduProc pdu = some (procCode .InitialContextSetupResponse : Int) ∧
      Spec.Amf.missingMandatory .InitialContextSetupResponse pdu = none ∧
      Spec.Amf.ieInt pdu ieAMFUENGAPID = some amf ∧ Spec.Amf.ieInt pdu ieRANUENGAPID = some ran := by
  have ht := Proofs.Emulator.mem_allTable_hand (t := tInitialContextSetupResponseForRegistraionTest) (by simp [handTable])
  obtain ⟨b, hrun, hsh, s⟩ := wire E .GetInitialContextSetupResponse _ _ ht plmn _ rfl
    (inRange_initialContextSetupResponse E plmn hplmn amf ran ha0 ha1 hr0 hr1)
    ⟨[], .val (skAt tInitialContextSetupResponseForRegistraionTest 0)⟩ _ rfl rfl rfl _ rfl
  exact ⟨_, b, hrun, s.1, s.2, s.3, s.4, ieInt_amf ht hsh (i := 0) (by decide) rfl, ieInt_ran ht hsh (i := 1) (by decide) rfl⟩

open Spec.Ts38413 in
theorem initialUEMessage_wire (E : Ext) (plmn : Bytes) (hplmn : plmn.length = 3) (ran : Int) (nas : Bytes)
    (hr0 : 0 ≤ ran) (hr1 : ran < 2 ^ 32) :
    ∃ pdu b, Wrapper.run E .GetInitialUEMessage plmn [.int ran, .octs nas, .str []] = .ok (.ok b) ∧
      Spec.Amf.decodeNgap b = some pdu ∧
      pduPresent pdu = some ((msgClass .InitialUEMessage).index + 1) ∧
      pduProc pdu = some (procCode .InitialUEMessage : Int) ∧
      Spec.Amf.missingMandatory .InitialUEMessage pdu = none ∧
      Spec.Amf.ieInt pdu ieRANUENGAPID = some ran ∧ Spec.Amf.ieOcts pdu ieNASPDU = some nas := by
  have ht := Proofs.Emulator.mem_allTable_hand (t := tInitialUEMessage) (by simp [handTable])
  obtain ⟨b, hrun, hsh, s⟩ := wire E .GetInitialUEMessage _ _ ht plmn _ rfl
    (inRange_initialUEMessage E plmn hplmn ran nas hr0 hr1) ⟨[1], .val skInitialUE⟩ _ rfl rfl rfl _ rfl
  exact ⟨_, b, hrun, s.1, s.2, s.3, s.4, ieInt_ran ht hsh (i := 0) (by decide) rfl,
    ieOcts_nas ht hsh (i := 1) (by decide) (by decide) rfl⟩

open Spec.Ts38413 Stgutg.Proofs.BuildersRoles in
/-- NG SETUP REQUEST on the wire: the PLMN the judge reads from the Global RAN Node ID is the announced one -/
theorem ngSetupRequest_wire (E : Ext) (plmn g m name : Bytes) (bl : Int)
    (hm : m.length = 3) (h22 : 22 ≤ bl) (h32 : bl ≤ 32) (hg : g.length = (bl.toNat + 7) / 8)
    (hcn : Canonical g bl.toNat) (hname : 1 ≤ name.length) :
    ∃ pdu b, Wrapper.run E .GetNGSetupRequest plmn [.octs g, .octs m, .int bl, .str name] = .ok (.ok b) ∧
      Spec.Amf.decodeNgap b = some pdu ∧
      pduPresent pdu = some ((msgClass .NGSetupRequest).index + 1) ∧
      pduProc pdu = some (procCode .NGSetupRequest : Int) ∧
      Spec.Amf.missingMandatory .NGSetupRequest pdu = none ∧
      Spec.Amf.ngSetupPlmn pdu = some m := by
  have ht : tGetNGSetupRequest ∈ allTable := List.mem_append_right _ (by simp)
  obtain ⟨b, hrun, hsh, s⟩ := wire E .GetNGSetupRequest _ _ ht plmn _
    (ngsetup_wrapper_eq E plmn _ _ _ _) (inRange_ngSetupRequest E plmn g m name bl hm h22 h32 hg hcn hname)
    ⟨[], .val (skAt tGetNGSetupRequest 0)⟩ _ rfl rfl rfl _ rfl
  exact ⟨_, b, hrun, s.1, s.2, s.3, s.4, ngSetupPlmn_eq ht hsh (i := 0) (j := 2) (by decide) (by decide) (by decide)⟩

open Spec.Ts24501 in
/-- a message whose imperative part starts with three one-octet elements (extended protocol discriminator, security header
    type + spare, message type — every plain 5GMM message) and parses to `m`: its first three octets are `m`'s first values -/
theorem parse_header_eq (w : Wire) (bs : Bytes) (m : SMsg) (rest : List MWire) (hw : w.mand = .v 1 :: .v 1 :: .v 1 :: rest)
    (h : parse w bs = some m) (a b c : UInt8) (tl : List Bytes) (hm : m.mand = [a] :: [b] :: [c] :: tl) :
    ∃ r, bs = a :: b :: c :: r := by
  unfold parse at h
  rw [hw] at h
  cases bs with
  | nil => simp [parseMand, takeN] at h
  | cons x0 r0 =>
    cases r0 with
    | nil => simp [parseMand, takeN] at h
    | cons x1 r1 =>
      cases r1 with
      | nil => simp [parseMand, takeN] at h
      | cons x2 r2 =>
        simp only [parseMand, takeN, List.length_cons, Nat.le_add_left, if_true, List.take_succ_cons, List.take_zero,
          List.drop_succ_cons, List.drop_zero] at h
        cases hp : parseMand rest r2 with
        | none => simp [hp] at h
        | some x =>
          obtain ⟨vs, r⟩ := x
          simp only [hp, Option.map_some] at h
          cases ho : parseOpts w.opt r.length r with
          | none => simp [ho] at h
          | some os =>
            simp only [ho, Option.map_some, Option.some.injEq] at h
            subst h
            simp only [List.cons.injEq] at hm
            obtain ⟨h0, h1, h2, _⟩ := hm
            simp only [and_true] at h0 h1 h2
            subst h0 h1 h2
            exact ⟨r2, rfl⟩

open Spec.Ts24501 in
theorem parse_header (w : Wire) (bs : Bytes) (m : SMsg) (rest : List MWire) (hw : w.mand = .v 1 :: .v 1 :: .v 1 :: rest)
    (h : parse w bs = some m) (a b c : UInt8) (tl : List Bytes) (hm : m.mand = [a] :: [b] :: [c] :: tl) :
    Spec.Amf.byteAt bs 0 = a.toNat ∧ Spec.Amf.byteAt bs 1 = b.toNat ∧ Spec.Amf.byteAt bs 2 = c.toNat := by
  obtain ⟨r, rfl⟩ := parse_header_eq w bs m rest hw h a b c tl hm
  exact ⟨rfl, rfl, rfl⟩

open Spec.Ts24501 in
theorem mand_of_take3 {w : Wire} (hw : w.mand.take 3 = [.v 1, .v 1, .v 1]) : w.mand = .v 1 :: .v 1 :: .v 1 :: w.mand.drop 3 := by
  conv_lhs => rw [← List.take_append_drop 3 w.mand, hw]
  rfl

open Spec.Ts24501 in
theorem parse_header' (w : Wire) (bs : Bytes) (m : SMsg) (hw : w.mand.take 3 = [.v 1, .v 1, .v 1])
    (h : parse w bs = some m) (a b c : UInt8) (tl : List Bytes) (hm : m.mand = [a] :: [b] :: [c] :: tl) :
    Spec.Amf.byteAt bs 0 = a.toNat ∧ Spec.Amf.byteAt bs 1 = b.toNat ∧ Spec.Amf.byteAt bs 2 = c.toNat :=
  parse_header w bs m _ (mand_of_take3 hw) h a b c tl hm

end Stgutg.Proofs.BuildersJudge
