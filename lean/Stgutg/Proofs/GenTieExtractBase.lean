import Stgutg.Gen.PureExtract
import Stgutg.Model.Extract
import Stgutg.Proofs.GenTieBase
/-!
  Tie by translation of the hand-written extractors of src/stgutg/pdu.go (C12, C02), part 1: the model's slice as the
  translator's carrier, and the runtime operations of Gen/PureRtSl.lean on it. The theorems are in Proofs/GenTieExtract.lean.
-/
namespace Stgutg.Proofs.GenTie.Extract
open Stgutg Stgutg.Gen
open Stgutg.Model.Extract

/-- the model's slice as the translator's carrier (the same two components) -/
def toGo (s : Sl) : Go.Sl := ⟨s.mem, s.len⟩
/-- … and back -/
def ofGo (s : Go.Sl) : Sl := ⟨s.mem, s.len⟩

@[simp] theorem ofGo_toGo (s : Sl) : ofGo (toGo s) = s := rfl
@[simp] theorem toGo_mem (s : Sl) : (toGo s).mem = s.mem := rfl
@[simp] theorem toGo_len (s : Sl) : (toGo s).len = s.len := rfl

@[simp] theorem map_ok {α β : Type} (f : α → β) (a : α) : Except.map f (Except.ok a : Res α) = .ok (f a) := rfl
@[simp] theorem map_error {α β : Type} (f : α → β) (e : Err) : Except.map f (Except.error e : Res α) = .error e := rfl
@[simp] theorem pure_eq {α : Type} (a : α) : (pure a : Res α) = .ok a := rfl

/-! ### the runtime operations on a model slice -/

theorem idx_eq (s : Sl) (i : Int) (n : Nat) (h : i = n) : Go.Sl.idx (toGo s) i = s.idx n := by
  subst h
  simp only [Go.Sl.idx, Sl.idx, toGo, Int.toNat_natCast]
  by_cases c : n < s.len
  · have : (0 : Int) ≤ (n : Int) ∧ (n : Int) < (s.len : Int) := by omega
    simp only [c, this, and_self, if_true]
    cases s.mem[n]? <;> rfl
  · have : ¬ ((0 : Int) ≤ (n : Int) ∧ (n : Int) < (s.len : Int)) := by omega
    simp only [c, this, if_false]

theorem sliceFrom_eq (s : Sl) (i : Int) (n : Nat) (h : i = n) :
    Go.Sl.sliceFrom (toGo s) i = (s.sliceFrom n).map toGo := by
  subst h
  unfold Go.Sl.sliceFrom Sl.sliceFrom
  by_cases c : n ≤ s.len
  · have : (n : Int) ≤ (s.len : Int) := by omega
    simp [c, this, toGo]
  · have : ¬ (n : Int) ≤ (s.len : Int) := by omega
    simp [c, this]

theorem sliceFrom_neg (s : Go.Sl) (i : Int) (h : i < 0) : Go.Sl.sliceFrom s i = .error .panic := by
  unfold Go.Sl.sliceFrom
  have : ¬ (0 ≤ i ∧ i ≤ (s.len : Int)) := by omega
  simp [this]

theorem slice_eq (s : Sl) (i j : Int) (a b : Nat) (hi : i = a) (hj : j = b) :
    Go.Sl.slice (toGo s) i j = (s.slice a b).map toGo := by
  subst hi hj
  unfold Go.Sl.slice Sl.slice
  by_cases c : a ≤ b ∧ b ≤ s.mem.length
  · have : (a : Int) ≤ (b : Int) ∧ (b : Int) ≤ (s.mem.length : Int) := by omega
    simp [c, this, toGo]
  · have : ¬ ((a : Int) ≤ (b : Int) ∧ (b : Int) ≤ (s.mem.length : Int)) := by omega
    simp [c]

theorem slice_neg (s : Go.Sl) (i j : Int) (h : i < 0) : Go.Sl.slice s i j = .error .panic := by
  unfold Go.Sl.slice
  have : ¬ (0 ≤ i ∧ i ≤ j ∧ j ≤ (s.mem.length : Int)) := by omega
  simp [this]

theorem be16_eq (s : Sl) : Go.Sl.be16 (toGo s) = (be16 s).map UInt16.ofNat := by
  unfold Go.Sl.be16 be16
  rw [idx_eq s 1 1 rfl, idx_eq s 0 0 rfl]
  refine Eq.symm (bind_congr_map _ _ _ _ fun b1 _ => ?_)
  exact bind_congr_map _ _ _ _ fun b0 _ => rfl

theorem be16_lt (s : Sl) (v : Nat) (h : be16 s = .ok v) : v < 65536 := by
  obtain ⟨b1, _, h⟩ := bind_ok h
  obtain ⟨b0, _, h⟩ := bind_ok h
  cases h
  have := b1.toNat_lt
  have := b0.toNat_lt
  omega

theorem be32_eq (s : Sl) : Go.Sl.be32 (toGo s) = (be32 s).map UInt32.ofNat := by
  unfold Go.Sl.be32 be32
  rw [idx_eq s 3 3 rfl, idx_eq s 0 0 rfl, idx_eq s 1 1 rfl, idx_eq s 2 2 rfl]
  refine Eq.symm (bind_congr_map _ _ _ _ fun b3 _ => ?_)
  refine bind_congr_map _ _ _ _ fun b0 _ => ?_
  refine bind_congr_map _ _ _ _ fun b1 _ => ?_
  exact bind_congr_map _ _ _ _ fun b2 _ => rfl

theorem be32_lt (s : Sl) (v : Nat) (h : be32 s = .ok v) : v < 4294967296 := by
  obtain ⟨b3, _, h⟩ := bind_ok h
  obtain ⟨b0, _, h⟩ := bind_ok h
  obtain ⟨b1, _, h⟩ := bind_ok h
  obtain ⟨b2, _, h⟩ := bind_ok h
  cases h
  have := b3.toNat_lt
  have := b0.toNat_lt
  have := b1.toNat_lt
  have := b2.toNat_lt
  omega

/-- what the model returns of the generated function's results: the TEID as a number, the visible octets of the address -/
def projXfer (r : UInt32 × Go.Sl) : Nat × Bytes := (r.1.toNat, (ofGo r.2).toBytes)

end Stgutg.Proofs.GenTie.Extract
