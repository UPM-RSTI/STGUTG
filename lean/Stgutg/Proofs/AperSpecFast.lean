/-
  C03: `specOK` in a form the kernel decides cheaply for a long schema. `tyParamsOK` and `nonEmptyEnc` look a struct type up
  with `env[id]?` (a walk of `id` cells) wherever a CHOICE or an open type is used; `tyParamsOKL` and `nonEmptyEncL` are the same
  text over a lookup function (the kinds that are not composite do not see the schema and are left to the original at the empty
  schema), equal to the originals for every lookup function that agrees with the schema (`tyParamsOKL_eq`, `nonEmptyEncL_eq`).
  `specOK_of_fast`: it suffices to decide the form at `Fast.get env` (Proofs/ListIndex.lean).
-/
import Stgutg.Proofs.ListIndex
import Stgutg.Proofs.AperSpecComp

namespace Stgutg.Proofs.AperSpec
open Stgutg Stgutg.Aper

def nonEmptyEncL (look : Nat → Option StructDef) : Nat → Ty → Params → Bool
  | 0, _, _ => false
  | k + 1, .ptr t, p => nonEmptyEncL look k t p
  | k + 1, .struct id, p =>
    p.valueExt ||
    match look id with
    | none => true
    | some sd =>
      if isChoice sd then true
      else sd.fields.any (fun fd => fd.params.optional || nonEmptyEncL look k fd.ty fd.params)
  | k + 1, ty, p => nonEmptyEnc [] (k + 1) ty p

-- `cases env[id]?` before `simp`: the two definitions compile their `match` on the looked-up struct to different
-- auxiliary functions, which agree only once the scrutinee is a constructor
theorem nonEmptyEncL_eq (env : Env) (look : Nat → Option StructDef) (h : ∀ id, look id = env[id]?) :
    ∀ k ty p, nonEmptyEncL look k ty p = nonEmptyEnc env k ty p := by
  intro k
  induction k with
  | zero => intro ty p; rfl
  | succ k ih =>
    intro ty p
    cases ty with
    | struct id =>
      simp only [nonEmptyEncL, nonEmptyEnc, h]
      cases env[id]? with
      | none => rfl
      | some sd => simp only [ih]
    | ptr t => simp only [nonEmptyEncL, nonEmptyEnc, ih]
    | _ => rfl

def tyParamsOKL (look : Nat → Option StructDef) : Ty → Params → Bool
  | .ptr t, p => tyParamsOKL look t p
  | .slice t, p => sliceOK p && tyParamsOKL look t (stripSizeE p)
  | .struct id, p =>
    if !p.openType && p.valueUB.isNone then true else
    match look id with
    | none => true
    | some sd =>
      if isChoice sd then
        if p.openType then sd.fields.tail.all (fun fd => nonEmptyEncL look 6 fd.ty fd.params)
        else
          match p.valueUB with
          | none => true
          | some ub => ub + 1 == ((sd.fields.length - 1 : Nat) : Int) && decide (3 ≤ sd.fields.length)
      else true
  | ty, p => tyParamsOK [] ty p

theorem tyParamsOKL_eq (env : Env) (look : Nat → Option StructDef) (h : ∀ id, look id = env[id]?) :
    ∀ ty p, tyParamsOKL look ty p = tyParamsOK env ty p := by
  intro ty
  induction ty with
  | struct id =>
    intro p
    simp only [tyParamsOKL, tyParamsOK, structOK, h]
    cases env[id]? with
    | none => rfl
    | some sd => simp only [nonEmptyEncL_eq env look h]; cases p.valueUB <;> rfl
  | ptr t ih => intro p; simp only [tyParamsOKL, tyParamsOK, ih]
  | slice t ih => intro p; simp only [tyParamsOKL, tyParamsOK, ih]
  | _ => intro p; rfl

theorem specOK_of_fast (env : Env)
    (h : env.all (fun sd => sd.fields.all (fun fd => tyParamsOKL (Fast.get env) fd.ty fd.params)) = true) :
    specOK env = true := by
  simpa only [specOK, tyParamsOKL_eq env (Fast.get env) (Fast.get_eq env)] using h

end Stgutg.Proofs.AperSpec
