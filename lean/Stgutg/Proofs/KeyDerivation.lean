/-
  For C05: the UeauCommon KDF vs. TS 33.220 B.2, the SUPI regexp on canonical
  SUPIs, the serving network name, the modelled wmnsk/milenage functions vs. TS 35.206 / TS 33.501 A.4.
-/
import Stgutg.Proofs.Milenage
import Stgutg.Model.KeyDerivation
import Stgutg.Spec.Ts33501A
namespace Stgutg.Proofs.KeyDerivation
open Stgutg Stgutg.Model.KeyDerivation Stgutg.Proofs.Milenage
open Stgutg.Spec.Ts35206 (BlockCipher)
open Stgutg.Spec (Ts33501A.kdf)
open Stgutg.Proofs.Hex (xorBytes_length)

/-- the MAC has 256-bit outputs (HMAC-SHA-256) -/
def MacLen (h : Bytes → Bytes → Bytes) : Prop := ∀ key msg : Bytes, (h key msg).length = 32

theorem fc_kausf : hexDecode FC_FOR_KAUSF_DERIVATION = some [Spec.Ts33501A.fcKausf] := by decide
theorem fc_kseaf : hexDecode FC_FOR_KSEAF_DERIVATION = some [Spec.Ts33501A.fcKseaf] := by decide
theorem fc_kamf : hexDecode FC_FOR_KAMF_DERIVATION = some [Spec.Ts33501A.fcKamf] := by decide
theorem fc_alg : hexDecode FC_FOR_ALGORITHM_KEY_DERIVATION = some [Spec.Ts33501A.fcAlgKey] := by decide
theorem fc_resstar : hexDecode FC_FOR_RES_STAR_XRES_STAR_DERIVATION = some [Spec.Ts33501A.fcResStar] := by decide

theorem KDFLen_eq {p : Bytes} (h : p.length < 65536) : KDFLen p = Spec.Ts33501A.lenField p := by
  rw [KDFLen, Spec.Ts33501A.lenField, Nat.mod_eq_of_lt h]

theorem flatten_params (ps : List Bytes) (h : ∀ p ∈ ps, p.length < 65536) :
    (ps.flatMap fun p => [p, KDFLen p]).flatten = ps.flatMap fun p => p ++ Spec.Ts33501A.lenField p := by
  induction ps with
  | nil => rfl
  | cons p ps ih =>
    have hp := h p (by simp)
    have := ih (fun q hq => h q (by simp [hq]))
    simp only [List.flatMap_cons, List.flatten_cons, List.cons_append, List.nil_append, this, KDFLen_eq hp,
      List.append_assoc]

/-- GetKDFValue with L_i = KDFLen(P_i) is the TS 33.220 B.2 KDF -/
theorem getKDFValue_eq (P : Prims) (key fcS : Bytes) (c : UInt8) (ps : List Bytes)
    (hfc : hexDecode fcS = some [c]) (h : ∀ p ∈ ps, p.length < 65536) :
    GetKDFValue P key fcS (ps.flatMap fun p => [p, KDFLen p]) = Spec.Ts33501A.kdf P.hmac key c ps := by
  simp only [GetKDFValue, hfc, flatten_params ps h, Spec.Ts33501A.kdf, Spec.Ts33501A.kdfInput]
  rfl

/-! the SUPI regexp on a canonical IMSI SUPI -/
theorem takeWhile_all {l : Bytes} (h : l.all isDigit = true) : l.takeWhile isDigit = l := by
  induction l with
  | nil => rfl
  | cons a l ih =>
    simp only [List.all_cons, Bool.and_eq_true] at h
    simp [h.1, ih h.2]

theorem supiFind_imsi {d : Bytes} (hd : d.all isDigit = true) (h5 : 5 ≤ d.length) (h15 : d.length ≤ 15) :
    supiFind (str ['i', 'm', 's', 'i', '-'] ++ d) = some d := by
  have hm : supiMatchAt (str ['i', 'm', 's', 'i', '-'] ++ d) = some d := by
    have h1 : (str ['i', 'm', 's', 'i', '-'] ++ d).take 5 = str ['i', 'm', 's', 'i', '-'] := List.take_left' rfl
    have h2 : (str ['i', 'm', 's', 'i', '-'] ++ d).drop 5 = d := List.drop_left' rfl
    simp only [supiMatchAt, h1, h2, takeWhile_all hd, true_or, if_true, h5]
    rw [List.take_of_length_le h15]
  have he : str ['i', 'm', 's', 'i', '-'] ++ d = (105 : UInt8) :: ([109, 115, 105, 45] ++ d) := rfl
  rw [he] at hm ⊢
  rw [supiFind, hm]

theorem snName_eq_spec {mnc mcc : Bytes} (hmnc : mnc.length = 2 ∨ mnc.length = 3) :
    snName mnc mcc = Spec.Ts33501A.snName mcc mnc := by
  rcases hmnc with h | h
  · simp [snName, Spec.Ts33501A.snName, h, str, Spec.Ts33501A.ascii]
  · simp [snName, Spec.Ts33501A.snName, h, str, Spec.Ts33501A.ascii]

theorem snName_length {mnc mcc : Bytes} (hmcc : mcc.length = 3) (hmnc : mnc.length = 2 ∨ mnc.length = 3) :
    (Spec.Ts33501A.snName mcc mnc).length = 32 := by
  rcases hmnc with h | h <;> simp [Spec.Ts33501A.snName, Spec.Ts33501A.ascii, h, hmcc]

theorem low128_32 {out : Bytes} (h : out.length = 32) : (out.drop 16).take 16 = Spec.Ts33501A.low128 out := by
  rw [Spec.Ts33501A.low128, h]
  exact List.take_of_length_le (by simp; omega)

/-- wmnsk F2345 with OPc configured = TS 35.206 f2, f3, f4, f5 -/
theorem mil_f2345_opc (P : Prims) (hE : BlockCipher P.aes) {k opc rand : Bytes} (op : Option Bytes)
    (hk : k.length = 16) (hopc : opc.length = 16) (hrand : rand.length = 16) (hop : ∀ o, op = some o → o.length = 16) :
    Mil.F2345 P { k := k, op := op, opc := some opc, rand := rand }
      = some { res := Spec.Ts35206.f2 P.aes k opc rand, ck := Spec.Ts35206.f3 P.aes k opc rand,
               ik := Spec.Ts35206.f4 P.aes k opc rand, ak := Spec.Ts35206.f5 P.aes k opc rand } := by
  have htemp : (P.aes k (xorBytes rand opc)).length = 16 := temp_length hE hk hopc hrand
  have hto : (xorBytes (P.aes k (xorBytes rand opc)) opc).length = 16 := tempOpc_length hE hk hopc hrand
  have hv : Mil.validateLength { k := k, op := op, opc := some opc, rand := rand } = true := by
    cases op with
    | none => simp [Mil.validateLength, hk, hopc, hrand]
    | some o => simp [Mil.validateLength, hk, hopc, hrand, hop o rfl]
  simp only [Mil.F2345, hv, not_true_eq_false, if_false,
    xor16_eq hrand hopc, xor16_eq htemp hopc, fN_block0 hto, fN_block hto (s := 8) (by decide), fN_block hto (s := 12) (by decide)]
  simp [Spec.Ts35206.f2, Spec.Ts35206.f3, Spec.Ts35206.f4, Spec.Ts35206.f5, Spec.Ts35206.out2, Spec.Ts35206.out3,
    Spec.Ts35206.out4, Spec.Ts35206.outN, Spec.Ts35206.temp, Spec.Ts35206.r2, Spec.Ts35206.r3, Spec.Ts35206.r4,
    c2_eq, c3_eq, c4_eq]

/-- wmnsk F2345 with only OP configured = the same with the corresponding OPc = OP xor E_K(OP) configured -/
theorem mil_f2345_op (P : Prims) (hE : BlockCipher P.aes) {k op rand : Bytes}
    (hk : k.length = 16) (hop : op.length = 16) (hrand : rand.length = 16) :
    Mil.F2345 P { k := k, op := some op, opc := none, rand := rand }
      = Mil.F2345 P { k := k, op := none, opc := some (Spec.Ts35206.opc P.aes k op), rand := rand } := by
  have ho : (Spec.Ts35206.opc P.aes k op).length = 16 := by
    rw [Spec.Ts35206.opc, xorBytes_length, hE _ _ hk hop]; omega
  have hc : Mil.computeOPc P { k := k, op := some op, opc := none, rand := rand } = Spec.Ts35206.opc P.aes k op := by
    simp [Mil.computeOPc, Spec.Ts35206.opc, xorBytes_comm]
  simp only [Mil.F2345, Mil.validateLength, hk, hop, hrand, ho, hc]
  rfl

/-- wmnsk ComputeRESStar = TS 33.501 A.4 over the serving network name of (MCC, MNC) -/
theorem computeRESStar_eq (P : Prims) (hH : MacLen P.hmac) {rand mcc mnc : Bytes} (o : MilOut)
    (hrand : rand.length = 16) (hres : o.res.length = 8) (hck : o.ck.length = 16) (hik : o.ik.length = 16)
    (hmcc : mcc.length = 3) (hmnc : mnc.length = 2 ∨ mnc.length = 3) :
    computeRESStar P rand o mcc mnc
      = .ok (some (Spec.Ts33501A.resStar P.hmac o.ck o.ik (Spec.Ts33501A.snName mcc mnc) rand o.res)) := by
  have hsn := snName_length hmcc hmnc
  have hl : ∀ key msg, ¬ (P.hmac key msg).length < 16 := fun key msg => by rw [hH]; omega
  have hne : ¬ (mnc.length ≠ 2 ∧ mnc.length ≠ 3) := by omega
  have hsnn : str ['5', 'G', ':', 'm', 'n', 'c'] ++ (if mnc.length = 2 then 0x30 :: mnc else mnc) ++ str ['.', 'm', 'c', 'c'] ++
      mcc ++ str ['.', '3', 'g', 'p', 'p', 'n', 'e', 't', 'w', 'o', 'r', 'k', '.', 'o', 'r', 'g']
        = Spec.Ts33501A.snName mcc mnc := by
    rcases hmnc with h | h <;> simp [Spec.Ts33501A.snName, h, str, Spec.Ts33501A.ascii]
  simp only [computeRESStar, hmcc, ne_eq, not_true_eq_false, if_false, hne, hsnn, hsn, hl]
  simp [Spec.Ts33501A.resStar, Spec.Ts33501A.kdf, Spec.Ts33501A.kdfInput, Spec.Ts33501A.low128,
    Spec.Ts33501A.lenField, Spec.Ts33501A.fcResStar, hrand, hres, hck, hik, hsn, List.take_of_length_le]

end Stgutg.Proofs.KeyDerivation
