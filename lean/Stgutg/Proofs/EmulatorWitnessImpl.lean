/-
  C02 — kernel-level tie on the recorded life-cycle conversation (THOROUGH tier only; a few minutes of kernel evaluation):
  the model `emulate`, with the executable AES-128 / SHA-256 / HMAC / CMAC of Crypto/, produces octet for octet the uplink
  messages the IMPLEMENTATION sent in the recorded run (and its reports), and the reference AMF accepts those octets.
  The same two facts about the registration conversation are in Proofs/EmulatorWitness.lean, with the data and the remark on
  re-generating it.
-/
import Stgutg.Proofs.EmulatorWitness

namespace Stgutg.Proofs.EmulatorWitness
open Stgutg Stgutg.Model.Emulator

/-- the model reproduces the fifteen uplink messages and the reported (UE IP, TEID, UPF IP) of the implementation -/
theorem life1_model_eq_impl :
    (emulate Crypto.prims Model.NetExt.goExt life1Cfg life1Dls).uls = life1ImplUls ∧
    (emulate Crypto.prims Model.NetExt.goExt life1Cfg life1Dls).reports = life1ImplReports ∧
    (emulate Crypto.prims Model.NetExt.goExt life1Cfg life1Dls).outcome = .completed := by
  rw [CryptoEval.prims_eq]; decide +kernel

/-- the reference AMF/SMF accepts the implementation's transcript and reports (C02's clauses) -/
theorem life1_accepted :
    Spec.Amf.judge Crypto.prims true (specOf life1Cfg life1Abba) life1Choices life1ImplUls (some (toReported life1ImplReports)) true
      = .accept := by
  rw [CryptoEval.prims_eq]; decide +kernel

/-- … and the reports are the values the network chose -/
theorem life1_reports_are_assigned :
    toReported life1ImplReports = life1Choices.map fun ch => { ip := ch.ueIp, teid := ch.teid, upf := ch.upfIp } := by decide

end Stgutg.Proofs.EmulatorWitness
