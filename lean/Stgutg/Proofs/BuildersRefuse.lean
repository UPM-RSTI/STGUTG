/-
  C13 helper, part 6: refusal. `badV env fuel ty params v`: somewhere on the encoder's path through `v` an INTEGER lies
  below its lower bound, or above the upper bound of a range without extension marker. `badV_refused`: the encoder model
  (`encField`, marshal.go) then returns an error — never bits — whatever the rest of the value looks like (no regularity
  or conformance hypothesis on the other components).
-/
import Stgutg.Proofs.AperRTCompNE

namespace Stgutg.Proofs.BuildersRefuse
open Stgutg Stgutg.Aper
open Stgutg.Proofs.AperRTComp (encField_struct_ok encSlice_ok)
open Stgutg.Proofs.AperSpec (encChoice_inv encSeq_ok)

def badFields (bad : Ty → Params → Val → Bool) : List Field → List Val → Bool
  | fd :: frest, v :: vrest => (!(fd.params.optional && isNil v) && bad fd.ty fd.params v) || badFields bad frest vrest
  | _, _ => false

def badV (env : Env) : Nat → Ty → Params → Val → Bool
  | 0, _, _, _ => false
  | fuel + 1, ty, params, v =>
    match ty, v with
    | .ptr t, .ptr v' => badV env fuel t params v'
    | .int, .int n =>
      (match params.valueLB, params.valueUB with
       | some lb, some ub => decide (n < lb) || (decide (ub < n) && !params.valueExt)
       | _, _ => false)
    | .slice t, .slice vs => vs.any (fun x => badV env fuel t (stripSizeE params) x)
    | .struct id, .struct fs =>
      (match env[id]? with
       | none => false
       | some sd =>
         if isChoice sd then
           (match fs with
            | .int p :: _ =>
              (match sd.fields[p.toNat]?, fs[p.toNat]? with
               | some fd, some alt => badV env fuel fd.ty fd.params alt
               | _, _ => false)
            | _ => false)
         else badFields (badV env fuel) sd.fields fs)
    | _, _ => false

def Refused (r : Res Bits) : Prop := ∀ bits, r ≠ .ok bits

theorem refused_error (e : Err) : Refused (.error e) := fun _ h => by cases h

theorem badV_refValue (env : Env) (x : Option Int) : ∀ (fuel : Nat) (ty : Ty) (p : Params) (v : Val),
    badV env fuel ty { p with refValue := x } v = badV env fuel ty p v := by
  intro fuel
  induction fuel with
  | zero => intro ty p v; rfl
  | succ fuel ih =>
    intro ty p v
    cases ty <;> cases v <;> try rfl
    · simp only [badV]; exact ih _ _ _
    · simp only [badV]
      congr 1
      funext v
      exact ih _ (stripSizeE p) _

theorem appendInteger_refused (pos : Nat) (n lb ub : Int) (ext : Bool) (h : n < lb ∨ (ub < n ∧ ext = false)) :
    Refused (appendInteger pos n ext (some lb) (some ub)) := by
  unfold appendInteger
  rcases h with h | ⟨h1, h2⟩
  · simp only [h, if_true]
    exact refused_error _
  · by_cases hl : n < lb
    · simp only [hl, if_true]; exact refused_error _
    · have hu : ¬ n ≤ ub := by omega
      simp only [hl, hu, if_false, h2, Bool.not_false, if_true]
      exact refused_error _

theorem encElems_refused (f : Nat → Val → Res Bits) : ∀ (vs : List Val) (pos : Nat),
    (∃ v ∈ vs, ∀ pos, Refused (f pos v)) → Refused (encElems f pos vs) := by
  intro vs
  induction vs with
  | nil => intro pos ⟨v, hv, _⟩; simp at hv
  | cons a rest ih =>
    intro pos ⟨v, hv, hr⟩
    unfold encElems
    cases ha : f pos a with
    | error e => exact refused_error _
    | ok ab =>
      simp only
      rcases List.mem_cons.mp hv with rfl | hv
      · exact absurd ha (hr pos ab)
      · have := ih (pos + ab.length) ⟨v, hv, hr⟩
        cases hb : encElems f (pos + ab.length) rest with
        | error e => exact refused_error _
        | ok b => exact absurd hb (this b)

theorem encSeqFields_refused (bad : Ty → Params → Val → Bool) (f : Nat → Ty → Params → Val → Res Bits)
    (rfv : Ty → Val → Res Int) (aF : List Field) (aV : List Val)
    (H : ∀ (fd : Field) (v : Val) (fp : Params), bad fd.ty fd.params v = true →
      (fp = fd.params ∨ ∃ x, fp = { fd.params with refValue := some x }) → ∀ pos, Refused (f pos fd.ty fp v)) :
    ∀ (fields : List Field) (fs : List Val) (i pos : Nat), badFields bad fields fs = true →
      Refused (encSeqFields f rfv aF aV i pos fields fs) := by
  intro fields
  induction fields with
  | nil => intro fs i pos h; simp [badFields] at h
  | cons fd frest ih =>
    intro fs i pos h
    cases fs with
    | nil => simp [badFields] at h
    | cons v vrest =>
      simp only [badFields, Bool.or_eq_true, Bool.and_eq_true, Bool.not_eq_true'] at h
      unfold encSeqFields
      by_cases hskip : fd.params.optional = true ∧ isNil v = true
      · rw [if_pos hskip]
        rcases h with ⟨hns, _⟩ | h
        · simp [hskip.1, hskip.2] at hns
        · exact ih vrest (i + 1) pos h
      · rw [if_neg hskip]
        cases hr : resolveRef rfv aF aV i fd with
        | error e => exact refused_error _
        | ok fp =>
          simp only
          cases hf : f pos fd.ty fp v with
          | error e => exact refused_error _
          | ok a =>
            simp only
            rcases h with ⟨_, hb⟩ | h
            · exact absurd hf (H fd v fp hb (AperTotal.resolveRef_shape rfv aF aV i fd fp hr) pos a)
            · have := ih vrest (i + 1) (pos + a.length) h
              cases hrest : encSeqFields f rfv aF aV (i + 1) (pos + a.length) frest vrest with
              | error e => exact refused_error _
              | ok b => exact absurd hrest (this b)

theorem badV_refused (env : Env) : ∀ (fuel : Nat) (ty : Ty) (p : Params) (v : Val),
    badV env fuel ty p v = true → ∀ pos, Refused (encField env fuel pos ty p v) := by
  intro fuel
  induction fuel with
  | zero => intro ty p v h; simp [badV] at h
  | succ fuel ih =>
    intro ty p v h pos
    cases ty <;> cases v <;> try (simp only [badV, Bool.false_eq_true] at h; done)
    · -- int
      rename_i n
      simp only [badV] at h
      simp only [encField]
      cases hl : p.valueLB with
      | none => simp [hl] at h
      | some lb =>
        cases hu : p.valueUB with
        | none => simp [hl, hu] at h
        | some ub =>
          simp only [hl, hu, Bool.or_eq_true, Bool.and_eq_true, decide_eq_true_eq, Bool.not_eq_true'] at h
          exact appendInteger_refused pos n lb ub _ h
    · -- struct
      rename_i id fs
      intro bits hb
      obtain ⟨fs', sd, b, hfs, hsd, hbody, _⟩ := encField_struct_ok hb
      cases hfs
      simp only [badV, hsd] at h
      by_cases hch : isChoice sd = true
      · simp only [hch, if_true] at h hbody
        obtain ⟨pv, rest, fd, alt, rfl, _, _, hfd, halt, hcase⟩ := encChoice_inv _ _ _ _ _ _ hbody
        simp only [hfd, halt] at h
        rcases hcase with ⟨_, rv, inner, _, _, hin, _⟩ | ⟨_, ib, ab, _, hab, _⟩
        · exact ih _ _ _ h 0 inner hin
        · exact ih _ _ _ h _ ab hab
      · simp only [hch, if_false, Bool.false_eq_true] at h hbody
        obtain ⟨_, bm, body, _, hbody, _⟩ := encSeq_ok hbody
        exact encSeqFields_refused (badV env fuel) (encField env fuel) (refFieldValue env fuel) sd.fields fs
          (fun fd v fp hb hfp pos => by
            rcases hfp with rfl | ⟨x, rfl⟩
            · exact ih _ _ _ hb pos
            · exact ih _ _ _ (by rw [badV_refValue]; exact hb) pos)
          sd.fields fs 0 _ h body hbody
    · -- ptr
      simp only [badV] at h
      simp only [encField]
      exact ih _ _ _ h pos
    · -- slice
      rename_i t vs
      simp only [badV, List.any_eq_true] at h
      obtain ⟨v, hv, hbv⟩ := h
      intro bits hb
      simp only [encField] at hb
      obtain ⟨pre, lb, ub, sr, cb, eb, _, _, he, _⟩ := encSlice_ok hb
      exact encElems_refused (fun q v => encField env fuel q t (stripSizeE p) v) vs _ ⟨v, hv, fun q => ih _ _ _ hbv q⟩ eb he

end Stgutg.Proofs.BuildersRefuse
