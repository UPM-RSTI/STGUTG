import Stgutg.Gen.PureSuci
import Stgutg.Model.Suci
import Stgutg.Proofs.GenTieBase
/-!
  Tie by translation (C11): `Gen/PureSuci.lean` is regenerated from src/stgutg/utils.go on every run by
  `gen pure-suci`; the theorems below prove that the translated `hexCharToByte` and `EncodeSuci` ARE the hand
  model `Model/Suci.lean` that the C11 theorems are about. A change to the Go text changes the generated
  definition, and these theorems stop checking.
-/
namespace Stgutg.Proofs.GenTie.Suci
open Stgutg Stgutg.Gen Stgutg.Proofs.GenTie
open Stgutg.Gen.Pure.Suci

/-- the translated `hexCharToByte` is the hand model, definitionally -/
theorem hexCharToByte_eq : Pure.Suci.hexCharToByte = Model.Suci.hexCharToByte := rfl

/-- the MSIN loop of the translated `EncodeSuci` appends `packMsin` of what is left of `msin`. The counter goes up by two and
    may step over `len(msin)`, so the induction is on the fuel itself and not by `forLt_ind`. -/
theorem loop1_spec (msin : Bytes) (hlen : msin.length + 2 < 2 ^ 63) :
    ∀ (fuel n : Nat) (suci : MobileIdentity5GS), n ≤ msin.length + 1 → msin.length - n < fuel →
      suci.Buffer.length + (msin.length - n) + 2 < 2 ^ 63 →
      ∃ i', EncodeSuci.loop1 msin fuel (n : Int) suci
        = .ok (i', { suci with Buffer := suci.Buffer ++ Model.Suci.packMsin (msin.drop n) }) := by
  intro fuel
  induction fuel with
  | zero => intro n suci _ h; omega
  | succ fuel ih =>
    intro n suci hn hf hb
    unfold EncodeSuci.loop1
    by_cases hlt : n < msin.length
    · -- the arithmetic first, while the context is small
      have b1 : n + 2 ≤ msin.length + 1 := by omega
      have b2 : msin.length - (n + 2) < fuel := by omega
      have b3 : ∀ x : UInt8, (suci.Buffer ++ [x]).length + (msin.length - (n + 2)) + 2 < 2 ^ 63 := fun x => by
        rw [List.length_append, List.length_singleton]; omega
      have hd : msin.drop n = msin[n] :: msin.drop (n + 1) := List.drop_eq_getElem_cons hlt
      have hj : Go.isub ((suci.Buffer.length : Int) + 1) 1 = (suci.Buffer.length : Int) := by
        rw [isub_of_range] <;> omega
      have hi1 : Go.iadd (n : Int) 1 = (n : Int) + 1 := by
        rw [iadd_of_range] <;> omega
      have hi2 : Go.iadd (n : Int) 2 = (n : Int) + 2 := by
        rw [iadd_of_range] <;> omega
      have h240 : ((15 : UInt8) <<< 4) = 240 := by decide
      by_cases hlast : n + 1 = msin.length
      · have hd1 : msin.drop (n + 1) = [] := by simp [hlast]
        have hd2 : msin.drop (n + 2) = [] := by simp; omega
        obtain ⟨i', hi'⟩ := ih (n + 2) { suci with Buffer := suci.Buffer ++ [(240 : UInt8) ||| Model.Suci.hexCharToByte msin[n]] }
          b1 b2 (b3 _)
        refine ⟨i', ?_⟩
        rw [show ((n + 2 : Nat) : Int) = (n : Int) + 2 by omega] at hi'
        simp only [List.append_assoc] at hi'
        have hl : (n : Int) + 1 = (msin.length : Int) := by omega
        simp [Go.len, hlt, hj, hi1, hi2, hl, idx_nat _ _ hlt, set_last, hd, hd1, hi', hd2, Model.Suci.packMsin, hexCharToByte_eq, h240]
      · have hlt1 : n + 1 < msin.length := by omega
        have hd1 : msin.drop (n + 1) = msin[n + 1] :: msin.drop (n + 2) := List.drop_eq_getElem_cons hlt1
        obtain ⟨i', hi'⟩ := ih (n + 2)
          { suci with Buffer := suci.Buffer ++ [Model.Suci.hexCharToByte msin[n + 1] <<< (4 : UInt8) ||| Model.Suci.hexCharToByte msin[n]] }
          b1 b2 (b3 _)
        refine ⟨i', ?_⟩
        rw [show ((n + 2 : Nat) : Int) = (n : Int) + 2 by omega] at hi'
        simp only [List.append_assoc] at hi'
        have hne : ¬ (n : Int) + 1 = (msin.length : Int) := by omega
        have hx := idx_nat _ _ hlt1
        push_cast at hx
        rw [hd, hd1, Model.Suci.packMsin]
        simp [Go.len, hlt, hj, hi1, hi2, hne, idx_nat _ _ hlt, hx, set_last, hi', Model.Suci.pack, hexCharToByte_eq]
    · have : msin.drop n = [] := by simp; omega
      simp [Go.len, hlt, this, Model.Suci.packMsin]

/-- how `EncodeSuci` ends, from the MSIN loop on: the buffer so far followed by the packed MSIN, and its length -/
theorem loop1_tail (msin buf : Bytes) (hlen : buf.length + msin.length + 2 < 2 ^ 63) :
    (EncodeSuci.loop1 msin (Int.toNat (Go.len msin - 0) + 1) 0 { Iei := 0, Len := 0, Buffer := buf } >>= fun t =>
        .ok { t.2 with Len := UInt16.ofInt (Go.len t.2.Buffer) }) =
      .ok { Iei := 0, Len := UInt16.ofInt ((buf ++ Model.Suci.packMsin msin).length : Int), Buffer := buf ++ Model.Suci.packMsin msin } := by
  obtain ⟨i', h⟩ := loop1_spec msin (by omega) (msin.length + 1) 0 { Iei := 0, Len := 0, Buffer := buf }
    (by omega) (by omega) (by simp only []; omega)
  rw [show Int.toNat (Go.len msin - 0) + 1 = msin.length + 1 by simp [Go.len], show ((0 : Nat) : Int) = 0 from rfl] at *
  rw [h]
  rfl

/-- **Tie.** The translated `EncodeSuci` returns exactly the hand model's buffer, `Len = uint16(len(Buffer))`,
    `Iei = 0` (the zero value: the composite literal does not set it), and panics exactly where the model does.
    The length hypothesis holds for every Go slice (`len` is an `int`). -/
theorem EncodeSuci_eq (imsi : Bytes) (mncLen : Int) (hlen : imsi.length + 10 < 2 ^ 63) :
    Pure.Suci.EncodeSuci imsi mncLen =
      (Model.Suci.encodeSuci imsi mncLen).map fun b =>
        { Iei := 0, Len := UInt16.ofInt (b.length : Int), Buffer := b } := by
  unfold Pure.Suci.EncodeSuci Model.Suci.encodeSuci
  by_cases hm : mncLen > 2
  · match imsi with
    | [] | [_] | [_, _] | [_, _, _] | [_, _, _, _] | [_, _, _, _, _] => simp only [hm, if_true]; rfl
    | i0 :: i1 :: i2 :: i3 :: i4 :: i5 :: msin =>
      have hs : Go.sliceFrom (i0 :: i1 :: i2 :: i3 :: i4 :: i5 :: msin) 6 = .ok msin := by
        rw [sliceFrom_nat _ 6 6 rfl, if_neg (by simp)]; rfl
      simp only [hm, if_true, hs, decide_true]
      exact loop1_tail msin _ (by simp at hlen ⊢; omega)
  · match imsi with
    | [] | [_] | [_, _] | [_, _, _] | [_, _, _, _] => simp only [hm, if_false]; rfl
    | i0 :: i1 :: i2 :: i3 :: i4 :: msin =>
      have hs : Go.sliceFrom (i0 :: i1 :: i2 :: i3 :: i4 :: msin) 5 = .ok msin := by
        rw [sliceFrom_nat _ 5 5 rfl, if_neg (by simp)]; rfl
      simp only [hm, if_false, hs, decide_false, Bool.false_eq_true]
      exact loop1_tail msin _ (by simp at hlen ⊢; omega)

/-- the buffer alone: what `Model.Suci.encodeSuci` (and so every C11 theorem) speaks about -/
theorem EncodeSuci_buffer (imsi : Bytes) (mncLen : Int) (hlen : imsi.length + 10 < 2 ^ 63) :
    (Pure.Suci.EncodeSuci imsi mncLen).map (·.Buffer) = Model.Suci.encodeSuci imsi mncLen := by
  rw [EncodeSuci_eq imsi mncLen hlen]
  cases Model.Suci.encodeSuci imsi mncLen <;> rfl

/-- the hypotheses are satisfiable by a non-trivial value: IMSI 208930000000003, 2-digit MNC -/
example : (Pure.Suci.EncodeSuci [50, 48, 56, 57, 51, 48, 48, 48, 48, 48, 48, 48, 48, 48, 51] 2).map (·.Buffer)
    = .ok [0x01, 0x02, 0xf8, 0x39, 0xf0, 0xff, 0x00, 0x00, 0x00, 0x00, 0x00, 0x00, 0x30] := by rfl

end Stgutg.Proofs.GenTie.Suci
