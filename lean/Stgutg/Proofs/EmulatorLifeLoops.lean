/-
  C02 helper: the loops of test mode for N UEs, emulator and judge together — the emulator's side of each procedure after
  registration as a `Runs` from the calls relation (`establishPDU_runs`, `serviceRequest_runs`, `releasePDU_runs`: the calls
  `procUls` describes, for arguments the UE context computes, `UeArgs`; `deregisterUE_runs`: those of `deregUls`), the
  de-registration loop, and the registration loop with the list `main` keeps and every UE's security state in step with the judge's
  record.
-/
import Stgutg.Proofs.EmulatorLifeN

namespace Stgutg.Proofs.EmulatorLifeN
open Stgutg Stgutg.Model.Emulator Stgutg.Proofs.Emulator Stgutg.Builders
open Stgutg.Model.NasProtect Stgutg.Proofs.NasProtect Stgutg.Spec.NasSecurity
open Stgutg.Proofs.EmulatorLife Stgutg.Proofs.EmulatorRun Stgutg.Props.C02 Stgutg.Props.C01 Stgutg.Proofs.EmulatorLifeReenc

/-- UE `j` in `ueList` after registration: created from the IMSI, with the AMF-UE-NGAP-ID of the AMF's choice and K_AMF -/
def mkUe (cfg : Cfg) (chf : Nat → Spec.Amf.Choice) (kamff : Nat → Bytes) (j : Nat) (sec : UeSec) : Ue :=
  { ctx := (createUE cfg j).ctx, amfUeNgapId := (chf j).amfUeNgapId, sec := sec, kamf := kamff j }

theorem mkUe_sec (cfg : Cfg) (chf : Nat → Spec.Amf.Choice) (kamff : Nat → Bytes) (j : Nat) (sec sec' : UeSec) :
    { mkUe cfg chf kamff j sec with sec := sec' } = mkUe cfg chf kamff j sec' := rfl

/-- the arguments `a` of the calls are those the procedures after registration compute from the context `ue` and the configuration:
    the PDU session identity from the SUPI number, the identifiers the context holds, the gNB address, S-NSSAI, request type and
    DNN -/
structure UeArgs (E : Model.Convert.Ext) (cfg : Cfg) (ue : Ue) (a : Args) : Prop where
  n : ∃ n, supiInt ue.ctx.supi = some (n, false) ∧ psi8 (pduIdOf n) = UInt8.ofNat a.psi ∧ (a.psi : Int) = pduIdOf n
  amf : ue.amfUeNgapId = a.amf
  ran : ue.ctx.ranUeNgapId = a.ran
  ip : cfg.gnbGtp = a.ip
  sn : ∃ s, snssaiOf E cfg = some s ∧ a.snVal = some s
  rt : a.rt = 1
  dnn : a.dnn = internet

/-- **`EstablishPDU`** makes the calls `procUls … .establish` describes, reads one downlink message and reports what it extracts
    from it; the security state moves one COUNT on -/
theorem establishPDU_runs (P : Prims) (E : Model.Convert.Ext) (cfg : Cfg) (ue : Ue) (a : Args) (ha : a.OK E) (hu : UeArgs E cfg ue a)
    (d : Bytes) (msg : Aper.Val) (rep : Report) (hdec : ngapDecode (d.take 2048) = .ok msg) (hrep : extractReport msg = .ok rep)
    (uls : List Bytes) (sec' : UeSec) (hp : procUls P E a .establish ue.sec uls sec') :
    Runs (establishPDU P E cfg ue) a.plmn [d] uls [rep] sec' := by
  obtain ⟨plain, o, b1, b2, e1, e2, e3, e4, rfl, rfl⟩ := hp
  obtain ⟨⟨n, hsupi, hp8, hpc⟩, hamf, hran, hip, ⟨sn, hsn, hsv⟩, hrt, hdnn⟩ := hu
  have hre : Reenc plain :=
    reenc_ulEstablishment a.psi a.rt a.dnn a.sn (Nat.lt_of_le_of_lt ha.h15 (by decide)) ha.hrt ha.hd ha.hs plain e1
  rw [← hamf, ← hran] at e3 e4
  rw [hpc, ← hip] at e4
  rw [← hp8, hrt, hdnn, hsv] at e1
  rw [establishPDU]
  simp only [hsupi, hsn]
  refine .bind_val (pure_apply _) <| .bind_val (pure_apply _) <| .bind_val (ctor_ok _ _ _ e1) <|
    .bind_val (protect_reenc P ue plain hre o e2) ?_
  dsimp only
  refine .bind_wrapperChecked e3 <| .bind_write _ <| .bind_read d ?_
  rw [hdec]
  refine .bind_val (checked_ok_apply _) <| .bind_val (a := rep) (fun w => by rw [hrep]) ?_
  exact .bind_wrapperChecked e4 <| .bind_write _ <| .bind_report rep <| .pure _

/-- **`ServiceRequest`** writes the INITIAL UE MESSAGE with the protected SERVICE REQUEST and the INITIAL CONTEXT SETUP RESPONSE,
    reading one downlink message in between -/
theorem serviceRequest_runs (P : Prims) (E : Model.Convert.Ext) (cfg : Cfg) (ue : Ue) (a : Args) (hu : UeArgs E cfg ue a)
    (d : Bytes) (msg : Aper.Val) (hdec : ngapDecode (d.take 2048) = .ok msg) (uls : List Bytes) (sec' : UeSec)
    (hp : procUls P E a .service ue.sec uls sec') :
    Runs (serviceRequest P E cfg ue) a.plmn [d] uls [] sec' := by
  obtain ⟨plain, o, b1, b2, e1, e2, e3, e4, rfl, rfl⟩ := hp
  obtain ⟨⟨n, hsupi, -, hpc⟩, hamf, hran, hip, -⟩ := hu
  rw [← hran] at e3 e4
  rw [← hamf, hpc, ← hip] at e4
  rw [serviceRequest]
  simp only [hsupi]
  refine .bind_val (pure_apply _) <| .bind_val (ctor_ok _ _ _ e1) <|
    .bind_val (protect_reenc P ue plain (reencOK_elim _ reenc_serviceRequest plain e1) o e2) ?_
  dsimp only
  refine .bind_wrapperChecked e3 <| .bind_write _ <| .bind_read d ?_
  rw [hdec]
  exact .bind_val (checked_ok_apply _) <| .bind_wrapperUnchecked e4 <| .bind_write _ <| .pure _

/-- **`ReleasePDU`** writes the release request, the PDU SESSION RESOURCE RELEASE RESPONSE and the release complete, reading
    nothing; the security state moves two COUNTs on -/
theorem releasePDU_runs (P : Prims) (E : Model.Convert.Ext) (cfg : Cfg) (ue : Ue) (a : Args) (ha : a.OK E) (hu : UeArgs E cfg ue a)
    (uls : List Bytes) (sec' : UeSec) (hp : procUls P E a .release ue.sec uls sec') :
    Runs (releasePDU P E cfg ue) a.plmn [] uls [] sec' := by
  obtain ⟨p1, o1, b1, b2, p3, o3, b3, g1, g2, g3, g4, g5, g6, g7, rfl, rfl⟩ := hp
  obtain ⟨⟨n, hsupi, hp8, hpc⟩, hamf, hran, -, ⟨sn, hsn, hsv⟩, hrt, hdnn⟩ := hu
  have h16 : a.psi < 16 := Nat.lt_of_le_of_lt ha.h15 (by decide)
  have hre1 : Reenc p1 := reencOK_elim _ (reenc_releaseRequest _ h16) p1 g1
  have hre3 : Reenc p3 :=
    reenc_ulReleaseComplete a.psi a.rt a.dnn a.sn (Nat.lt_trans h16 (by decide)) ha.hrt ha.hd ha.hs p3 g5
  rw [← hamf, ← hran] at g3 g4 g7
  rw [hpc] at g4
  rw [← hp8] at g1 g5
  rw [hrt, hdnn, hsv] at g5
  rw [releasePDU]
  simp only [hsupi, hsn]
  refine .bind_val (pure_apply _) <| .bind_val (ctor_ok _ _ _ g1) <| .bind_val (protect_reenc P ue p1 hre1 o1 g2) ?_
  dsimp only
  refine .bind_wrapperChecked g3 <| .bind_write _ <| .bind_wrapperChecked g4 <| .bind_write _ <| .bind_val (pure_apply _) <|
    .bind_val (ctor_ok _ _ _ g5) <| .bind_val (protect_reenc P { ue with sec := _ } p3 hre3 o3 g6) ?_
  dsimp only
  exact .bind_wrapperChecked g7 <| .bind_write _ <| .pure _

/-- **`DeregisterUE`** writes the protected DEREGISTRATION REQUEST and the UE CONTEXT RELEASE COMPLETE, reading two downlink
    messages in between -/
theorem deregisterUE_runs (P : Prims) (E : Model.Convert.Ext) (cfg : Cfg) (ue : Ue) (a : Args) (hamf : ue.amfUeNgapId = a.amf)
    (hran : ue.ctx.ranUeNgapId = a.ran) (suci : Bytes)
    (hsuci : Model.Suci.encodeSuci (Model.Suci.trimImsiPrefix ue.ctx.supi) cfg.mnc.length = .ok suci) (hlt : suci.length < 65536)
    (d d' : Bytes) (m1 m2 : Aper.Val) (hdec1 : ngapDecode (d.take 2048) = .ok m1) (hdec2 : ngapDecode (d'.take 2048) = .ok m2)
    (uls : List Bytes) (hp : deregUls P E a (suciVal suci) ue.sec uls) :
    ∃ sec', Runs (deregisterUE P E cfg ue) a.plmn [d, d'] uls [] sec' := by
  obtain ⟨plain, o, b1, b2, g1, g2, g3, g4, rfl⟩ := hp
  have hre : Reenc plain := reenc_deregistrationRequest 1 0 4 (suciVal suci) (by decide) (by decide) (by decide) (by decide)
    (Nat.mod_eq_of_lt hlt) hlt plain g1
  rw [← hamf, ← hran] at g3 g4
  refine ⟨(Model.NasProtect.encodeNasPduWithSecurity P ue.sec plain 2 true false).1, ?_⟩
  rw [deregisterUE, hsuci]
  refine .bind_val (orTrap_ok_apply _) <| .bind_val (ctor_ok _ _ _ g1) <| .bind_val (protect_reenc P ue plain hre o g2) ?_
  dsimp only
  refine .bind_wrapperChecked g3 <| .bind_write _ <| .bind_read d ?_
  rw [hdec1]
  refine .bind_val (checked_ok_apply _) <| .bind_read d' ?_
  rw [hdec2]
  exact .bind_val (checked_ok_apply _) <| .bind_wrapperChecked g4 <| .bind_write _ <| .pure _

/-- the model's procedure for `p` -/
def procFn (P : Prims) (E : Model.Convert.Ext) (cfg : Cfg) : Proc → Ue → M UeSec
  | .establish => establishPDU P E cfg
  | .service => serviceRequest P E cfg
  | .release => releasePDU P E cfg

/-- what the peer sends during procedure `p` and what the procedure makes of it: `dl` the messages read (decodable; `EstablishPDU`
    extracts a report from its one), `reps` what is reported -/
def DlFor : Proc → List Bytes → List Report → Prop
  | .establish, dl, reps => ∃ d msg rep, dl = [d] ∧ reps = [rep] ∧ ngapDecode (d.take 2048) = .ok msg ∧ extractReport msg = .ok rep
  | .service, dl, reps => ∃ d msg, dl = [d] ∧ reps = [] ∧ ngapDecode (d.take 2048) = .ok msg
  | .release, dl, reps => dl = [] ∧ reps = []

/-- **the emulator's side of any procedure after registration**: it makes exactly the calls `procUls` describes -/
theorem procFn_runs (P : Prims) (E : Model.Convert.Ext) (cfg : Cfg) (ue : Ue) (a : Args) (ha : a.OK E) (hu : UeArgs E cfg ue a) (p : Proc)
    (dl : List Bytes) (reps : List Report) (hdl : DlFor p dl reps) (uls : List Bytes) (sec' : UeSec)
    (hp : procUls P E a p ue.sec uls sec') : Runs (procFn P E cfg p ue) a.plmn dl uls reps sec' := by
  cases p with
  | establish => obtain ⟨d, msg, rep, rfl, rfl, h1, h2⟩ := hdl; exact establishPDU_runs P E cfg ue a ha hu d msg rep h1 h2 uls sec' hp
  | service => obtain ⟨d, msg, rfl, rfl, h1⟩ := hdl; exact serviceRequest_runs P E cfg ue a hu d msg h1 uls sec' hp
  | release => obtain ⟨rfl, rfl⟩ := hdl; exact releasePDU_runs P E cfg ue a ha hu uls sec' hp

/-- the context `main` keeps for UE `i` computes the arguments `argsOf … i` -/
theorem ueArgs_mkUe {cfg : Cfg} {E : Model.Convert.Ext} {N : Nat} {m : Bytes} {chf : Nat → Spec.Amf.Choice} (h : PopOK cfg E N m chf)
    (s1 s2 s3 : UInt8) (hsd : E.hexDecode cfg.sd = ([s1, s2, s3], false)) (kamff : Nat → Bytes) (i : Nat) (hi : i < N) (sec : UeSec) :
    UeArgs E cfg (mkUe cfg chf kamff i sec) (argsOf cfg m chf s1 s2 s3 i) := by
  obtain ⟨hsupi, hp8, hpc, -⟩ := psiOf_facts h i hi
  exact ⟨⟨_, hsupi, hp8, hpc⟩, rfl, (ranOf_eq cfg i).symm, rfl,
    ⟨_, (Proofs.EmulatorLifeArgs.snssai_facts E cfg s1 s2 s3 hsd).1, rfl⟩, rfl, rfl⟩

/-- **the loop over `DeregisterUE`** for UEs `0 … nEnd − 1`, emulator and judge together (`forUes_sim`; UEs below the loop index are
    de-registered): two downlink messages read and two uplink messages written per UE, no clause, every de-registration counted -/
theorem dereg_loop (P : Prims) (hP : PrimsOk P) (scfg : Spec.Amf.Cfg) (chs : List Spec.Amf.Choice) {cfg : Cfg}
    {E : Model.Convert.Ext} {m : Bytes} {chf : Nat → Spec.Amf.Choice} {N : Nat} (h : PopOK cfg E N m chf) (kamff : Nat → Bytes)
    (nEnd : Nat) (hN : nEnd ≤ N) (dd : Nat → Bytes × Bytes)
    (hdec : ∀ i, i < nEnd → ∃ m1 m2, ngapDecode ((dd i).1.take 2048) = .ok m1 ∧ ngapDecode ((dd i).2.take 2048) = .ok m2)
    (hsuci : ∀ i, i < nEnd → ∃ suci, Model.Suci.encodeSuci (Model.Suci.trimImsiPrefix (createUE cfg i).ctx.supi) cfg.mnc.length = .ok suci ∧
      suci.length < 65536 ∧ Spec.Amf.suciIs scfg i suci = true)
    (B : Nat) (hB : B + 2 < 2 ^ 24)
    (tail : List Bytes) (wd : World) (secf : Nat → UeSec) (s : Spec.Amf.St) (uf : Nat → Spec.Amf.UeSt) (cf : Nat → Nat)
    (hplmn : wd.plmn = m) (hdls : wd.dls = (List.range nEnd).flatMap (fun j => [(dd j).1, (dd j).2]) ++ tail)
    (hJ : Judged P scfg chs wd s) (G : Glob cfg chf N 0 s uf secf cf) (hcf : ∀ j, j < N → cf j ≤ B) :
    ∃ wd' secf' s', forUes (deregisterUE P E cfg) nEnd 0 (ueList N (mkUe cfg chf kamff) secf) wd =
        (wd', .ok (ueList N (mkUe cfg chf kamff) secf')) ∧
      wd'.dls = tail ∧ Judged P scfg chs wd' s' ∧ s'.fails = [] ∧ wd'.ulsRev.length = wd.ulsRev.length + nEnd * 2 ∧
      s'.established = s.established ∧ s'.services = s.services ∧ s'.releases = s.releases ∧ s'.deregs = s.deregs + nEnd ∧
      wd'.reportsRev = wd.reportsRev := by
  have key := forUes_sim P scfg chs N (mkUe cfg chf kamff) (mkUe_sec cfg chf kamff) (deregisterUE P E cfg) m nEnd hN
    (fun j => [(dd j).1, (dd j).2]) (fun _ => []) 2
    (fun i secf s' (y : (Nat → Spec.Amf.UeSt) × (Nat → Nat)) => Glob cfg chf N i s' y.1 secf y.2 ∧ (∀ j, i ≤ j → j < N → y.2 j ≤ B) ∧
      s'.established = s.established ∧ s'.services = s.services ∧ s'.releases = s.releases ∧ s'.deregs = s.deregs + i)
    ?body tail wd secf s (uf, cf) hplmn hdls hJ ⟨G, fun j _ hj => hcf j hj, rfl, rfl, rfl, rfl⟩
  case body =>
    rintro i secf s ⟨uf, cf⟩ k hi ⟨G, hcf, hE, hV, hR, hD⟩
    simp only at G hcf
    have hiN : i < N := by omega
    obtain ⟨suci, hs1, hs2, hs3⟩ := hsuci i hi
    obtain ⟨m1, m2, hdec1, hdec2⟩ := hdec i hi
    obtain ⟨hr0, hr1⟩ : 0 ≤ ranOf cfg i ∧ ranOf cfg i < 2 ^ 32 := by
      rw [ranOf_eq]; exact Proofs.EmulatorLifeArgs.ran_range cfg h.hd i (h.j62 i hiN)
    obtain ⟨hch, hl, hreg, _⟩ := G.per i (Nat.le_refl i) hiN
    have hci := hcf i (Nat.le_refl i) hiN
    have hamf : (uf i).ch.amfUeNgapId = (chf i).amfUeNgapId := by rw [hch]
    obtain ⟨plain, o, b1, b2, g1, g2, g3, g4, hrun⟩ := C02_deregister_block P hP true scfg chs s k E m h.hm (ranOf cfg i)
      hr0 hr1 G.clean (uf i) (G.find h i hiN) (by rw [hamf]; exact h.hamf i hiN) (secf i) (cf i) hl hreg (by omega)
      (suciVal suci) (Nat.mod_eq_of_lt hs2) hs2 (by rw [(G.idj i hiN).1]; exact hs3)
    rw [hamf] at g3 g4
    obtain ⟨sec', hruns⟩ := deregisterUE_runs P E cfg (mkUe cfg chf kamff i (secf i))
      ⟨m, (chf i).amfUeNgapId, ranOf cfg i, 0, [], 0, [], none⟩ rfl (ranOf_eq cfg i).symm suci hs1 hs2 (dd i).1 (dd i).2 m1 m2
      hdec1 hdec2 [b1, b2] ⟨plain, o, b1, b2, g1, g2, g3, g4, rfl⟩
    let u' : Spec.Amf.UeSt := { uf i with last := some (cf i + 1), used := (cf i + 1) :: (uf i).used, reg := .deregistered }
    let s' : Spec.Amf.St := { s.setUe u' with deregs := s.deregs + 1 }
    refine ⟨[b1, b2], sec', s', (upd uf i u', upd cf i (cf i)), rfl, hruns, hrun, ?_, ?_, hE, hV, hR,
      by show s.deregs + 1 = _; rw [hD]; omega⟩
    · exact G.update i (i + 1) (Nat.le_succ i) s' u' _ (cf i) G.clean G.setup rfl (G.idj i hiN).1 (G.idj i hiN).2
        (fun hle => absurd hle (Nat.not_succ_le_self i))
    · intro j hij hj
      show upd cf i (cf i) j ≤ B
      rw [upd_other _ _ _ _ (by omega)]
      exact hcf j (by omega) hj
  obtain ⟨wd', secf', s', ⟨uf', cf'⟩, hloop, -, hd', hJ', hl', hr', G', -, hE, hV, hR, hD⟩ := key
  rw [flatMap_nil'] at hr'
  exact ⟨wd', secf', s', hloop, hd', hJ', G'.clean, hl', hE, hV, hR, hD, hr'⟩

/-- the judge's record of UE `j` when its registration is complete -/
def u0 (cfg : Cfg) (chf : Nat → Spec.Amf.Choice) (akaf : Nat → Spec.Ts33501A.Aka) (j : Nat) : Spec.Amf.UeSt :=
  regUe j (createUE cfg j).ctx.ranUeNgapId (chf j) (akaf j) .registered (some 1) [1, 0]

theorem usOf_eq (cfg : Cfg) (chf : Nat → Spec.Amf.Choice) (akaf : Nat → Spec.Ts33501A.Aka) (i : Nat) :
    usOf cfg chf akaf i = (List.range i).map (u0 cfg chf akaf) := rfl

open Stgutg.Proofs.KeyDerivation in
/-- **the registration loop** for UEs `i … i + n − 1` with the C02 judge's state threaded (`Props.C01.register_loop`, `Judged.write`):
    the list `main` appends is UE `j` with the AMF-UE-NGAP-ID of the choice, K_AMF and a security state in step with the judge's
    record of `j`, last accepted COUNT 1 (`registration_live` on the two protected messages `regUls` names) -/
theorem register_loop (P : Prims) (hP : PrimsOk P) (hH : MacLen P.hmac) (cfg : Cfg) (scfg : Spec.Amf.Cfg)
    (chs : List Spec.Amf.Choice) (E : Model.Convert.Ext) (N : Nat) (hN4 : N ≤ 10000) {w : Nat} (W : Population cfg scfg w N)
    (m : Bytes) (hm : m.length = 3) (chf : Nat → Spec.Amf.Choice) (akaf : Nat → Spec.Ts33501A.Aka)
    (dn : Nat → Bytes × Bytes × Bytes × Bytes) (keysf : Nat → Model.KeyDerivation.UeKeys) (ue1f : Nat → Ue)
    (R : Reads P cfg scfg chs N chf akaf dn keysf ue1f) :
    ∀ (n i : Nat) (ues : List Ue) (wd : World) (tailDls : List Bytes), i + n ≤ N →
      wd.dls = dlsOf dn i n ++ tailDls → wd.plmn = m → Judged P scfg chs wd (regSt (usOf cfg chf akaf i)) →
      ∃ (wd' : World) (secf' : Nat → UeSec), registerLoop P E cfg n i ues wd =
          (wd', .ok (ues ++ (List.range' i n).map fun j => mkUe cfg chf (fun j => (keysf j).kamf) j (secf' j))) ∧
        wd'.dls = tailDls ∧ wd'.plmn = m ∧ wd'.reportsRev = wd.reportsRev ∧ wd'.ulsRev.length = wd.ulsRev.length + 5 * n ∧
        Judged P scfg chs wd' (regSt (usOf cfg chf akaf (i + n))) ∧
        ∀ j, i ≤ j → j < i + n → Live (secf' j) (u0 cfg chf akaf j) 1 := by
  intro n i ues wd tailDls hle hdls hplmn hJ
  obtain ⟨wd', secf', uls, hloop, h1, h2, h3, h4, h5, h6, hsteps⟩ :=
    Props.C01.register_loop P hP hH cfg scfg chs E N hN4 W m hm chf akaf dn keysf ue1f R n i ues wd tailDls hle hdls hplmn
  refine ⟨wd', secf', hloop, h1, h3, h4, by rw [h2]; simp [h5]; omega, hJ.write uls h2 (hsteps true _), fun j hij hjn => ?_⟩
  obtain ⟨_, _, _, _, _, _, _, smc, _, _, _, rc, _, _, -, -, -, -, -, -, -, -, -, -, -, -, -, he⟩ := h6 j hij hjn
  rw [he]
  exact registration_live P hP _ _ _ (inStep_afterKeys _ _ j (createUE cfg j).ctx.ranUeNgapId (chf j) (akaf j)
    (R.hue1 j (by omega)).2 (R.hkeys j (by omega)).2) smc rc rfl rfl rfl

end Stgutg.Proofs.EmulatorLifeN
