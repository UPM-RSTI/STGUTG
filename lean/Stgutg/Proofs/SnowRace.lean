/-
  C20 counter-model (finding F13): two SNOW 3G based calls (NEA1 / NIA1 shape: `InitSnow3g`, then
  `GenerateKeystream`) that share ONE generator state — what `snow3g.go` did with its package-level
  `lfsr` / `fsm` — at Init / Generate granularity.  Under the schedule

        thread 0: Init(key A)            Generate
        thread 1:            Init(key B)          Generate

  thread 0 receives the keystream of key B: a wrong result, and a conflicting access pair.
  Uses the C07 model of the generator (`Stgutg.Model.Snow3g`, state passed explicitly).
-/
import Stgutg.Model.Interleave
import Stgutg.Model.Snow3g
import Stgutg.Proofs.Interleave

namespace Stgutg.Proofs.SnowRace
open Stgutg.Model Stgutg.Model.Interleave

abbrev Val := Snow3g.State
abbrev Local := List UInt32

/-- location 0: the package-level generator state (`snow3g.lfsr` + `snow3g.fsm`) -/
def genLoc : Loc := 0

structure KeyIv where
  k0 : UInt32
  k1 : UInt32
  k2 : UInt32
  k3 : UInt32
  iv0 : UInt32
  iv1 : UInt32
  iv2 : UInt32
  iv3 : UInt32

def KeyIv.init (q : KeyIv) : Snow3g.State := Snow3g.initSnow3g q.k0 q.k1 q.k2 q.k3 q.iv0 q.iv1 q.iv2 q.iv3

/-- `snow3g.InitSnow3g(k, iv)`: overwrites the shared state -/
def initStep (q : KeyIv) : Step Val Local :=
  { reads := [], writes := [genLoc], act := fun _ loc => ([(genLoc, q.init)], loc) }

/-- `snow3g.GenerateKeystream(n, ks)`: reads and advances the shared state, the keystream goes to the caller -/
def genStep (n : Nat) : Step Val Local :=
  { reads := [genLoc], writes := [genLoc],
    act := fun σ _ => ([(genLoc, (Snow3g.generateKeystream n (σ genLoc)).2)], (Snow3g.generateKeystream n (σ genLoc)).1) }

/-- one NEA1-shaped call -/
def call (q : KeyIv) (n : Nat) : List (Step Val Local) := [initStep q, genStep n]

def keyA : KeyIv := ⟨1, 2, 3, 4, 5, 6, 7, 8⟩
def keyB : KeyIv := ⟨9, 2, 3, 4, 5, 6, 7, 8⟩

def threads : List (List (Step Val Local)) := [call keyA 1, call keyB 1]

def zeroState : Snow3g.State := ⟨0, 0, 0, 0, 0, 0, 0, 0, 0, 0, 0, 0, 0, 0, 0, 0, 0, 0, 0⟩
def c0 : Config Val Local := { store := fun _ => zeroState, locals := fun _ => [] }

def witness : Trace Val Local :=
  [(0, initStep keyA), (1, initStep keyB), (0, genStep 1), (1, genStep 1)]

theorem respects_init (q : KeyIv) : Respects (initStep q) :=
  ⟨fun _ _ _ _ => rfl, fun _ _ w hw => by simp [initStep] at hw; simp [hw, initStep]⟩

theorem respects_gen (n : Nat) : Respects (genStep n) := by
  refine ⟨fun σ σ' _ h => ?_, fun _ _ w hw => by simp [genStep] at hw; simp [hw, genStep]⟩
  have : σ genLoc = σ' genLoc := h genLoc (by simp [genStep])
  simp [genStep, this]

/-- every step respects its declared footprint: the ONLY hypothesis of the noninterference theorem that
    fails for this system is the disjointness of the footprints -/
theorem steps_respect : ∀ t, t ∈ threads → ∀ s, s ∈ t → Respects s := by
  intro t ht s hs
  simp only [threads, List.mem_cons, List.mem_nil_iff, or_false] at ht
  rcases ht with rfl | rfl <;>
  · simp only [call, List.mem_cons, List.mem_nil_iff, or_false] at hs
    rcases hs with rfl | rfl
    · exact respects_init _
    · exact respects_gen _

theorem threads_respect : PoolRespects (pool threads) := Proofs.Interleave.poolRespects_pool _ steps_respect

theorem witness_is_schedule : Interleaving (pool threads) witness := by
  refine Interleaving.pick (i := 0) (rest := [genStep 1]) rfl ?_
  refine Interleaving.pick (i := 1) (rest := [genStep 1]) rfl ?_
  refine Interleaving.pick (i := 0) (rest := []) rfl ?_
  refine Interleaving.pick (i := 1) (rest := []) rfl ?_
  refine Interleaving.done ?_
  intro i
  match i with
  | 0 => rfl
  | 1 => rfl
  | k + 2 => simp [upd, pool, threads]

/-- what thread 0 receives under the witness schedule: the keystream of thread 1's key -/
theorem witness_local0 : (exec c0 witness).locals 0 = (Snow3g.generateKeystream 1 keyB.init).1 := rfl

/-- what thread 0 receives when the calls run one at a time -/
theorem sequential_local0 : (exec c0 (sequential threads)).locals 0 = (Snow3g.generateKeystream 1 keyA.init).1 := rfl

theorem keystreams_differ :
    (Snow3g.generateKeystream 1 keyB.init).1 ≠ (Snow3g.generateKeystream 1 keyA.init).1 := by decide +kernel

/-- a schedule under which a call returns a wrong keystream -/
theorem witness_wrong_keystream :
    (exec c0 witness).locals 0 ≠ (exec c0 (sequential threads)).locals 0 := by
  rw [witness_local0, sequential_local0]
  exact keystreams_differ

/-- … and which contains a conflicting access pair -/
theorem witness_race : ¬ RaceFree witness := by
  intro h
  have h01 := (List.pairwise_cons.mp h).1 (1, initStep keyB) (by simp) (by decide)
  exact (h01.1 genLoc (by simp [initStep])).2 (by simp [initStep])

theorem threads_not_disjoint : ¬ PoolDisjoint (pool threads) :=
  fun hD => witness_race (Proofs.Interleave.raceFree hD witness_is_schedule)

end Stgutg.Proofs.SnowRace
