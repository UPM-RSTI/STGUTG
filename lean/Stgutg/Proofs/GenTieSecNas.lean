import Stgutg.Gen.PureSecNas
import Stgutg.Model.NasAlg
import Stgutg.Base.Words
import Stgutg.Proofs.GenTieSecAlg
/-!
  Tie by translation (C07): `Gen/PureSecNas.lean` is regenerated from src/free5gclib/nas/security/security.go on every run by
  `gen pure-secnas` (the word-machine grammar, harness/cmd/gen/pure_secalg*.go; the SNOW 3G functions it calls are those of
  `Gen/PureSecAlg.lean`). Proved here, for ALL arguments:
  * the three GF(2^64) helpers `mulx`, `mulxPow` (recursion on fuel), `mul` (a loop over a uint64 counter with a shift by the
    counter) are the hand model's `mulx64`, `mulxPow64`, `mul64` (Model/NasAlg.lean);
  * `NIA1(ik, countI, bearer, direction, msg, 8*len(msg))` is `Model.NasAlg.nia1` for every 16-octet key (the Go type is
    `[16]byte`), every count / bearer / direction and every message of fewer than 2^59 octets (inside the range where
    `uint64(len(msg))*8 + 63` does not wrap) incl. the empty one (a panic in both): `NIA1_eq`. The length argument is the one
    its only caller `NASMacCalculate` passes; the hand model has no other.
  * `NEA1(ck, countC, bearer, direction, ibs, 8*len(ibs))` is `Model.NasAlg.nea1` for every 16-octet key, every count / bearer /
    direction and every message of fewer than 2^28 octets (the hand model's stated bound is 2^29: `uint32(len)*8` must not
    wrap; here `length + 31` must not either): `NEA1_eq`. The length argument is the one its only caller `NASEncrypt` passes.
  NEA2 / NIA2 / NASEncrypt / NASMacCalculate are not translated.

  NIA1's loop over the full blocks is taken together with the zero-padded last block behind it (`evalLoop_eq`), which is how the
  model's `evalBlocks` recurses. NEA1's two xor loops (whole words, then 1..3 trailing octets) run the same octet step:
  `written ks ibs p` is the output buffer when they reach octet `p`, `byteLoop` is the loop `j < ll` of both (`loop3` is `loop4`
  with `ll = 4`), and the UInt32 arithmetic on the length argument is in the `len_*` lemmas.
-/
namespace Stgutg.Proofs.GenTie.SecNas
open Stgutg Stgutg.Gen Stgutg.Gen.Pure.SecNas
open Stgutg.Proofs.GenTie

theorem mulx_eq (v c : UInt64) : mulx v c = Model.NasAlg.mulx64 v c := by
  unfold mulx Model.NasAlg.mulx64
  by_cases h : v &&& 9223372036854775808 = 0 <;> simp [h]

theorem ofNat_toNat64 (n : Nat) (h : n < 2 ^ 64) : (UInt64.ofNat n).toNat = n :=
  UInt64.toNat_ofNat_of_lt' h

theorem ofNat_lt64 {k n : Nat} (h : k < n) (hn : n < 2 ^ 64) : UInt64.ofNat k < UInt64.ofNat n :=
  (UInt64.ofNat_lt_iff_lt (Nat.lt_trans h hn) hn).mpr h

theorem ofNat_succ64 (k : Nat) : UInt64.ofNat k + 1 = UInt64.ofNat (k + 1) :=
  (UInt64.ofNat_add k 1).symm

theorem mulxPow_rec (fuel : Nat) : ∀ (v i c : UInt64), i.toNat < fuel →
    mulxPow.rec_ fuel v i c = .ok (Model.NasAlg.mulxPow64 v i.toNat c) := by
  induction fuel with
  | zero => intro v i c h; omega
  | succ n ih =>
    intro v i c h
    unfold mulxPow.rec_
    by_cases hi : i = 0
    · subst hi; simp [Model.NasAlg.mulxPow64]
    · have hne : i.toNat ≠ 0 := by
        intro h0; apply hi; exact UInt64.toNat_inj.mp (by simpa using h0)
      have hsub : (i - 1).toNat = i.toNat - 1 := by
        have : (1 : UInt64) ≤ i := by
          rw [UInt64.le_iff_toNat_le]; simp; omega
        rw [UInt64.toNat_sub_of_le _ _ this]; simp
      simp only [hi, decide_false, Bool.false_eq_true, if_false]
      rw [ih v (i - 1) c (by omega), ok_bind, hsub, mulx_eq]
      obtain ⟨m, hm⟩ := Nat.exists_eq_succ_of_ne_zero hne
      rw [hm]; simp [Model.NasAlg.mulxPow64]

theorem mulxPow_eq (v i c : UInt64) : mulxPow v i c = .ok (Model.NasAlg.mulxPow64 v i.toNat c) :=
  mulxPow_rec _ v i c (by omega)

/-- the body of the hand model's fold -/
def step (v p c : UInt64) (rst : UInt64) (i : Nat) : UInt64 :=
  if (p >>> (UInt64.ofNat i)) &&& 1 == 1 then rst ^^^ Model.NasAlg.mulxPow64 v i c else rst

theorem mulLoop_eq (v p c : UInt64) : ∀ fuel k : Nat, k ≤ 64 → 64 - k < fuel → ∀ rst : UInt64,
    mul.loop1 v p c fuel (UInt64.ofNat k) rst = .ok ((List.range' k (64 - k)).foldl (step v p c) rst) := by
  refine forLt_ind (fun fuel rst => ?_) (fun fuel k hk ih rst => ?_)
  · simp [mul.loop1]
  · have hsh : Go.shrv64 p k = p >>> UInt64.ofNat k := by unfold Go.shrv64; rw [if_pos hk]
    unfold mul.loop1
    simp only [show UInt64.ofNat k < 64 from ofNat_lt64 (n := 64) hk (by decide), decide_true, if_true, mulxPow_eq,
      ofNat_toNat64 k (by omega), hsh, ofNat_succ64]
    rw [show 64 - k = (64 - (k + 1)) + 1 by omega, List.range'_succ, List.foldl_cons, ← ih]
    unfold step
    by_cases hb : p >>> UInt64.ofNat k &&& 1 = 1 <;> simp [hb, ok_bind]

theorem mul_eq (v p c : UInt64) : mul v p c = .ok (Model.NasAlg.mul64 v p c) := by
  unfold mul Model.NasAlg.mul64
  simp only [show mul.loop1 v p c 65 0 0 = _ from mulLoop_eq v p c 65 0 (by omega) (by omega) 0, ok_bind, List.range_eq_range']
  rfl

theorem be64_8 (a b c d e f g h : UInt8) :
    be64 [a, b, c, d, e, f, g, h] = (a.toUInt64 <<< 56) ||| (b.toUInt64 <<< 48) ||| (c.toUInt64 <<< 40) ||| (d.toUInt64 <<< 32) |||
      (e.toUInt64 <<< 24) ||| (f.toUInt64 <<< 16) ||| (g.toUInt64 <<< 8) ||| h.toUInt64 := by
  simp (disch := decide) only [be64, List.foldl_cons, List.foldl_nil, UInt64.zero_shiftLeft, UInt64.zero_or, UInt64.shiftLeft_or,
    ← UInt64.shiftLeft_add, UInt64.reduceAdd]

theorem beU64_eq (l : Bytes) (h : 8 ≤ l.length) : Go.beU64 l = .ok (be64 (l.take 8)) := by
  match l, h with
  | a :: b :: c :: d :: e :: f :: g :: hh :: rest, _ => simp [Go.beU64, be64_8]

theorem beU64_short (l : Bytes) (h : l.length < 8) : Go.beU64 l = .error .panic := by
  match l, h with
  | [], _ => rfl
  | [_], _ => rfl
  | [_, _], _ => rfl
  | [_, _, _], _ => rfl
  | [_, _, _, _], _ => rfl
  | [_, _, _, _, _], _ => rfl
  | [_, _, _, _, _, _], _ => rfl
  | [_, _, _, _, _, _, _], _ => rfl
  | _ :: _ :: _ :: _ :: _ :: _ :: _ :: _ :: rest, h => simp at h; omega

/-- `copy(tmp, m)` into eight zero octets pads `m` with zeros -/
theorem copy_pad (m : Bytes) (h8 : m.length ≤ 8) :
    Go.copy [0, 0, 0, 0, 0, 0, 0, 0] m = m ++ List.replicate (8 - m.length) 0 := by
  unfold Go.copy
  rw [List.take_of_length_le (by simpa using h8)]
  exact congrArg (m ++ ·) (List.drop_replicate (n := 8) (a := (0 : UInt8)))

theorem pos64 (j : Nat) (h : 8 * j < 2 ^ 64) : ((8 : UInt64) * UInt64.ofNat j).toNat = 8 * j := by
  rw [UInt64.toNat_mul, ofNat_toNat64 _ (by omega)]
  exact Nat.mod_eq_of_lt (by simpa using h)

/-- the loop over the full blocks, entered at block `j`, and the zero-padded last block behind it: the model's `evalBlocks` on
    the message from octet `8j` on, whatever fuel the model has left beyond the blocks that remain -/
theorem evalLoop_eq (msg : Bytes) (D P : UInt64) (nb : Nat) (hD : D - 2 = UInt64.ofNat nb) (hnb : 8 * nb + 8 < 2 ^ 63)
    (h1 : 8 * nb < msg.length) (h2 : msg.length ≤ 8 * nb + 8) {β : Type} (f : UInt64 → Res β) :
    ∀ fuel j : Nat, j ≤ nb → nb - j < fuel → ∀ (ev : UInt64) (g : Nat), nb - j < g →
    (NIA1.loop2 msg D P fuel (UInt64.ofNat j) ev >>= fun t15 =>
      Go.sliceFrom msg (((8 : UInt64) * (D - 2)).toNat : Int) >>= fun t17 =>
      Go.beU64 (Go.copy [0, 0, 0, 0, 0, 0, 0, 0] t17) >>= fun t18 =>
      mul (t15 ^^^ t18) P 27 >>= f)
      = f (Model.NasAlg.evalBlocks P g ev (msg.drop (8 * j))) := by
  refine forLt_ind (fun fuel ev g hg => ?_) (fun fuel j hj ih ev g hg => ?_)
  · obtain ⟨g, rfl⟩ := Nat.exists_eq_succ_of_ne_zero (by omega : g ≠ 0)
    have hl : (msg.drop (8 * nb)).length = msg.length - 8 * nb := List.length_drop
    unfold NIA1.loop2 Model.NasAlg.evalBlocks
    rw [hD, if_neg (by simp), ok_bind, pos64 nb (by omega), sliceFrom_nat _ _ _ rfl, if_neg (by omega), ok_bind,
      copy_pad _ (by omega), beU64_eq _ (by simp; omega), List.take_of_length_le (by simp; omega), ok_bind, mul_eq, ok_bind,
      if_pos (by omega)]
  · obtain ⟨g, rfl⟩ := Nat.exists_eq_succ_of_ne_zero (by omega : g ≠ 0)
    have hl : (msg.drop (8 * j)).length = msg.length - 8 * j := List.length_drop
    unfold NIA1.loop2
    conv => rhs; unfold Model.NasAlg.evalBlocks
    dsimp only
    rw [hD, if_pos (decide_eq_true (ofNat_lt64 hj (by omega))), pos64 j (by omega), sliceFrom_nat msg _ (8 * j) rfl, if_neg (by omega), ok_bind,
      beU64_eq _ (by omega : 8 ≤ (msg.drop (8 * j)).length), ok_bind, mul_eq, ok_bind, ofNat_succ64, ← hD, ih _ g (by omega),
      if_neg (by omega), List.drop_drop, show 8 * j + 8 = 8 * (j + 1) by omega]

theorem be32_4 (a b c d : UInt8) :
    be32 [a, b, c, d] = (a.toUInt32 <<< 24) ||| (b.toUInt32 <<< 16) ||| (c.toUInt32 <<< 8) ||| d.toUInt32 := by
  simp (disch := decide) only [be32, List.foldl_cons, List.foldl_nil, UInt32.zero_shiftLeft, UInt32.zero_or, UInt32.shiftLeft_or,
    ← UInt32.shiftLeft_add, UInt32.reduceAdd]

/-- `k[i] = binary.BigEndian.Uint32(ik[4*(3-i) : 4*(3-i+1)])`, i = 0..3, on a `[16]byte`: the model's `keyWords` -/
theorem keyLoop_eq (ck : Bytes) (h : ck.length = 16) :
    NIA1.loop1 ck 5 0 [0, 0, 0, 0] = .ok [(Model.NasAlg.keyWords ck).1, (Model.NasAlg.keyWords ck).2.1,
      (Model.NasAlg.keyWords ck).2.2.1, (Model.NasAlg.keyWords ck).2.2.2] := by
  obtain ⟨a0, a1, a2, a3, a4, a5, a6, a7, a8, a9, a10, a11, a12, a13, a14, a15, rfl⟩ := Hex.len16 h
  show _ = Except.ok [be32 [a12, a13, a14, a15], be32 [a8, a9, a10, a11], be32 [a4, a5, a6, a7], be32 [a0, a1, a2, a3]]
  simp only [be32_4]
  rfl

theorem genWords_length (n : Nat) : ∀ st, (Model.Snow3g.genWords n st).1.length = n := by
  induction n with
  | zero => intro st; rfl
  | succ n ih => intro st; simp [Model.Snow3g.genWords, ih]

theorem generateKeystream_length (n : Nat) (st : Model.Snow3g.State) : (Model.Snow3g.generateKeystream n st).1.length = n := by
  simp [Model.Snow3g.generateKeystream, genWords_length]

theorem len5 (l : List UInt32) (h : l.length = 5) : ∃ z0 z1 z2 z3 z4, l = [z0, z1, z2, z3, z4] := by
  match l, h with
  | [z0, z1, z2, z3, z4], _ => exact ⟨z0, z1, z2, z3, z4, rfl⟩

theorem make5 : Go.make (0 : UInt32) 5 = .ok [0, 0, 0, 0, 0] := rfl
theorem make8 : Go.make (0 : UInt8) 8 = .ok [0, 0, 0, 0, 0, 0, 0, 0] := rfl
theorem make4 : Go.make (0 : UInt8) 4 = .ok [0, 0, 0, 0] := rfl
theorem rep4 : List.replicate 4 (0 : UInt32) = [0, 0, 0, 0] := rfl

theorem putU32_eq (w : UInt32) : Go.putU32BE [0, 0, 0, 0] w = .ok (u32Bytes w) := rfl

/-- `D - 2`, the number of full blocks before the last, for the length argument `len = 8 * L` of a non-empty message -/
theorem len_blocks (L : Nat) (h0 : 0 < L) (hL : L < 2 ^ 59) (len : UInt64) (hlen : len.toNat = 8 * L) :
    (len + 63) / 64 + 1 - 2 = UInt64.ofNat ((8 * L + 63) / 64 - 1) := by
  have hD : ((len + 63) / 64 + 1).toNat = (8 * L + 63) / 64 + 1 := by
    rw [UInt64.toNat_add, UInt64.toNat_div, UInt64.toNat_add, hlen]
    simp only [UInt64.reduceToNat]
    rw [Nat.mod_eq_of_lt (show 8 * L + 63 < 2 ^ 64 by omega), Nat.mod_eq_of_lt (by omega)]
  apply UInt64.toNat_inj.mp
  rw [UInt64.toNat_sub_of_le _ _ (by rw [UInt64.le_iff_toNat_le, hD]; simp only [UInt64.reduceToNat]; omega), hD,
    ofNat_toNat64 _ (by omega)]
  rfl

theorem NIA1_eq (ik : Bytes) (hik : ik.length = 16) (count : UInt32) (bearer : UInt8) (dir : UInt32) (msg : Bytes)
    (hlen : msg.length < 2 ^ 59) :
    NIA1 ik count bearer dir msg (UInt64.ofNat (8 * msg.length))
      = (Model.NasAlg.nia1 ik count bearer dir msg).map (fun mac => (mac, false)) := by
  unfold NIA1 Model.NasAlg.nia1
  dsimp only
  rw [rep4, keyLoop_eq ik hik, ok_bind, make5, ok_bind, SecAlg.InitSnow3g_eq, ok_bind]
  generalize Model.NasAlg.keyWords ik = kw
  obtain ⟨k0, k1, k2, k3⟩ := kw
  simp only []
  generalize Model.Snow3g.initSnow3g _ _ _ _ _ _ _ _ = st
  rw [show (5 : Int) = ((5 : Nat) : Int) from rfl, SecAlg.GenerateKeystream_eq st 5 [0, 0, 0, 0, 0] (by simp) (by simp)]
  obtain ⟨z0, z1, z2, z3, z4, hz⟩ := len5 _ (generateKeystream_length 5 st)
  rw [hz, ok_bind]
  have hi0 : Go.idx ([z0, z1, z2, z3, z4] ++ List.drop 5 [(0 : UInt32), 0, 0, 0, 0]) 0 = .ok z0 := rfl
  have hi1 : Go.idx ([z0, z1, z2, z3, z4] ++ List.drop 5 [(0 : UInt32), 0, 0, 0, 0]) 1 = .ok z1 := rfl
  have hi2 : Go.idx ([z0, z1, z2, z3, z4] ++ List.drop 5 [(0 : UInt32), 0, 0, 0, 0]) 2 = .ok z2 := rfl
  have hi3 : Go.idx ([z0, z1, z2, z3, z4] ++ List.drop 5 [(0 : UInt32), 0, 0, 0, 0]) 3 = .ok z3 := rfl
  have hi4 : Go.idx ([z0, z1, z2, z3, z4] ++ List.drop 5 [(0 : UInt32), 0, 0, 0, 0]) 4 = .ok z4 := rfl
  simp only [hi0, hi1, hi2, hi3, hi4, ok_bind, make8, make4]
  clear hi0 hi1 hi2 hi3 hi4 hz
  generalize (z0.toUInt64 <<< 32 ||| z1.toUInt64) = P
  generalize (z2.toUInt64 <<< 32 ||| z3.toUInt64) = Q
  by_cases he : msg = []
  · -- `D - 2` wraps and the first `BigEndian.Uint64(msg[0:])` panics
    subst he
    rfl
  · have hpos : 0 < msg.length := List.length_pos_iff.mpr he
    have hD := len_blocks _ hpos hlen _ (ofNat_toNat64 (8 * msg.length) (by omega))
    generalize hnb : (8 * msg.length + 63) / 64 - 1 = nb at hD
    have h1 : 8 * nb < msg.length := by omega
    have h2 : msg.length ≤ 8 * nb + 8 := by omega
    clear hnb
    refine (evalLoop_eq msg _ P nb hD (by omega) h1 h2 _ _ 0 (Nat.zero_le _)
      (by rw [hD, UInt64.sub_zero, ofNat_toNat64 _ (by omega)]; omega) 0 (msg.length / 8 + 1) (by omega)).trans ?_
    rw [mul_eq, ok_bind, putU32_eq, ok_bind]
    simp [he, Except.map]

/-! ### NEA1 -/

theorem ofNat_toNat32 (n : Nat) (h : n < 2 ^ 32) : (UInt32.ofNat n).toNat = n :=
  UInt32.toNat_ofNat_of_lt' h

theorem ofNat_lt32 {k n : Nat} (h : k < n) (hn : n < 2 ^ 32) : UInt32.ofNat k < UInt32.ofNat n :=
  (UInt32.ofNat_lt_iff_lt (Nat.lt_trans h hn) hn).mpr h

theorem ofNat_succ32 (k : Nat) : UInt32.ofNat k + 1 = UInt32.ofNat (k + 1) :=
  (UInt32.ofNat_add k 1).symm

theorem toU8_and255 (x : UInt32) : (x &&& 255).toUInt8 = x.toUInt8 := by
  rw [UInt32.toUInt8_and]
  exact SecAlg.u8_and255 _

theorem shr24 (w : UInt32) : Go.shrv32 w 24 = w >>> 24 := rfl
theorem shr16 (w : UInt32) : Go.shrv32 w 16 = w >>> 16 := rfl
theorem shr8 (w : UInt32) : Go.shrv32 w 8 = w >>> 8 := rfl
theorem shr0 (w : UInt32) : Go.shrv32 w 0 = w := by unfold Go.shrv32; simp

/-- `byte(ks[i] >> (8 * (3 - j)))` is octet `j` of the word, most significant first -/
theorem byteOf (w : UInt32) (j : Nat) (hj : j < 4) :
    (u32Bytes w)[j]? = some ((Go.shrv32 w ((8 : UInt32) * (3 - UInt32.ofNat j)).toNat &&& 255).toUInt8) := by
  rw [toU8_and255]
  rcases (by omega : j = 0 ∨ j = 1 ∨ j = 2 ∨ j = 3) with rfl | rfl | rfl | rfl
  · exact congrArg (fun x => some x.toUInt8) (shr24 w).symm
  · exact congrArg (fun x => some x.toUInt8) (shr16 w).symm
  · exact congrArg (fun x => some x.toUInt8) (shr8 w).symm
  · exact congrArg (fun x => some x.toUInt8) (shr0 w).symm

theorem xorWords_length (ks : List UInt32) : ∀ ibs : Bytes,
    (Model.NasAlg.xorWords ks ibs).length = min (4 * ks.length) ibs.length := by
  induction ks with
  | nil => intro ibs; simp [Model.NasAlg.xorWords]
  | cons w ws ih => intro ibs; simp [Model.NasAlg.xorWords, ih]; omega

/-- octet `4i + j` of the model's output: the input octet xor octet `j` of keystream word `i` -/
theorem xorWords_get (ks : List UInt32) : ∀ (ibs : Bytes) (i j : Nat) (w : UInt32) (c b : UInt8), j < 4 →
    ks[i]? = some w → ibs[4 * i + j]? = some c → (u32Bytes w)[j]? = some b →
    (Model.NasAlg.xorWords ks ibs)[4 * i + j]? = some (c ^^^ b) := by
  induction ks with
  | nil => intro ibs i j w c b _ hw; simp at hw
  | cons x xs ih =>
    intro ibs i j w c b hj hw hc hb
    have hlen := (List.getElem?_eq_some_iff.mp hc).1
    unfold Model.NasAlg.xorWords
    cases i with
    | zero =>
      simp only [List.getElem?_cons_zero, Option.some.injEq] at hw
      subst hw
      simp only [Nat.mul_zero, Nat.zero_add] at hc hlen ⊢
      rw [List.getElem?_append_left (by simp; omega), List.getElem?_zipWith, List.getElem?_take_of_lt hj, hc, hb]
    | succ i =>
      rw [List.getElem?_append_right (by simp; omega)]
      have h4 : (List.zipWith (· ^^^ ·) (ibs.take 4) (u32Bytes x)).length = 4 := by simp; omega
      rw [h4, show 4 * (i + 1) + j - 4 = 4 * i + j by omega]
      exact ih (ibs.drop 4) i j w c b hj (by simpa using hw)
        (by rw [List.getElem?_drop, ← hc]; congr 1; omega) hb

theorem xorWords_append (a : List UInt32) (w : UInt32) : ∀ (ibs : Bytes), 4 * a.length ≤ ibs.length →
    Model.NasAlg.xorWords (a ++ [w]) ibs
      = Model.NasAlg.xorWords a ibs ++ List.zipWith (· ^^^ ·) ((ibs.drop (4 * a.length)).take 4) (u32Bytes w) := by
  induction a with
  | nil => intro ibs _; simp [Model.NasAlg.xorWords]
  | cons x xs ih =>
    intro ibs h
    simp only [List.cons_append, Model.NasAlg.xorWords, List.length_cons] at *
    rw [ih (ibs.drop 4) (by simp; omega), List.append_assoc, List.drop_drop]
    rw [show 4 + 4 * xs.length = 4 * (xs.length + 1) by omega]

/-- the output buffer of NEA1 when the xor loops reach octet `p`: the model's first `p` octets, zeros behind them -/
def written (ks : List UInt32) (ibs : Bytes) (p : Nat) : Bytes :=
  (Model.NasAlg.xorWords ks ibs).take p ++ List.replicate (ibs.length - p) 0

theorem written_length (ks : List UInt32) (ibs : Bytes) (p : Nat) (hp : p ≤ ibs.length) (hk : ibs.length ≤ 4 * ks.length) :
    (written ks ibs p).length = ibs.length := by
  simp [written, xorWords_length]; omega

theorem written_full (ks : List UInt32) (ibs : Bytes) (hk : ibs.length ≤ 4 * ks.length) :
    written ks ibs ibs.length = Model.NasAlg.xorWords ks ibs := by
  unfold written
  rw [List.take_of_length_le (by rw [xorWords_length]; omega), Nat.sub_self]
  simp

theorem written_succ (ks : List UInt32) (ibs : Bytes) (p : Nat) (v : UInt8) (hp : p < ibs.length)
    (hk : ibs.length ≤ 4 * ks.length) (hv : (Model.NasAlg.xorWords ks ibs)[p]? = some v) :
    (written ks ibs p).set p v = written ks ibs (p + 1) := by
  have hl : ((Model.NasAlg.xorWords ks ibs).take p).length = p := by simp [xorWords_length]; omega
  unfold written
  rw [List.set_append_right _ _ (by omega), hl, Nat.sub_self, List.take_add_one, hv,
    show ibs.length - p = (ibs.length - (p + 1)) + 1 by omega, List.replicate_succ]
  simp

/-- one round of either xor loop: `obs[4i+j] = ibs[4i+j] ^ byte(ks[i] >> (8 * (3 - j)))` -/
theorem byteStep (ks : List UInt32) (ibs : Bytes) (i j : Nat) (hj : j < 4) (hi : i < ks.length)
    (hp : 4 * i + j < ibs.length) (hk : ibs.length ≤ 4 * ks.length) (h32 : ibs.length < 2 ^ 32) {β : Type} (f : Bytes → Res β) :
    (Go.idx ibs ((((4 : UInt32) * UInt32.ofNat i) + UInt32.ofNat j).toNat : Int) >>= fun t12 =>
      Go.idx ks ((UInt32.ofNat i).toNat : Int) >>= fun t13 =>
      Go.set (written ks ibs (4 * i + j)) ((((4 : UInt32) * UInt32.ofNat i) + UInt32.ofNat j).toNat : Int)
        (t12 ^^^ ((Go.shrv32 t13 ((8 : UInt32) * (3 - UInt32.ofNat j)).toNat &&& 255).toUInt8)) >>= f)
      = f (written ks ibs (4 * i + j + 1)) := by
  have hpos : (((4 : UInt32) * UInt32.ofNat i) + UInt32.ofNat j).toNat = 4 * i + j := by
    rw [UInt32.toNat_add, UInt32.toNat_mul, ofNat_toNat32 _ (by omega), ofNat_toNat32 _ (by omega)]
    simp
    omega
  have hc := List.getElem?_eq_getElem hp
  have hw := List.getElem?_eq_getElem hi
  rw [hpos, ofNat_toNat32 i (by omega), idx_some _ _ _ hc, ok_bind, idx_some _ _ _ hw, ok_bind,
    set_nat, if_pos (by rw [written_length _ _ _ (by omega) hk]; exact hp), ok_bind,
    written_succ _ _ _ _ hp hk (xorWords_get _ _ _ _ _ _ _ hj hw hc (byteOf _ j hj))]

/-- the loop `j < ll` over the octets of keystream word `i`, entered at `j` -/
theorem byteLoop (ks : List UInt32) (ibs : Bytes) (i ll : Nat) (hll : ll ≤ 4) (hi : i < ks.length)
    (hp : 4 * i + ll ≤ ibs.length) (hk : ibs.length ≤ 4 * ks.length) (h32 : ibs.length < 2 ^ 32) :
    ∀ fuel j : Nat, j ≤ ll → ll - j < fuel →
    NEA1.loop4 ibs ks (UInt32.ofNat i) (UInt32.ofNat ll) fuel (UInt32.ofNat j) (written ks ibs (4 * i + j))
      = .ok (written ks ibs (4 * i + ll)) := by
  refine forLt_ind (fun fuel => ?_) (fun fuel j hj ih => ?_)
  · simp [NEA1.loop4]
  · unfold NEA1.loop4
    simp only [ofNat_lt32 hj (by omega), decide_true, if_true]
    rw [byteStep ks ibs i j (by omega) hi (by omega) hk h32, ofNat_succ32]
    exact ih

theorem loop3_eq_loop4 (ibs : Bytes) (ks : List UInt32) (i : UInt32) : ∀ (fuel : Nat) (j : UInt32) (obs : Bytes),
    NEA1.loop3 ibs ks i fuel j obs = NEA1.loop4 ibs ks i 4 fuel j obs := by
  intro fuel
  induction fuel with
  | zero => intro j obs; rfl
  | succ n ih => intro j obs; simp only [NEA1.loop3, NEA1.loop4, ih]

/-- the loop over the whole words -/
theorem wordLoop (ks : List UInt32) (ibs : Bytes) (len : UInt32) (nw : Nat) (hnw : len / 32 = UInt32.ofNat nw)
    (hn : nw ≤ ks.length) (hp : 4 * nw ≤ ibs.length) (hk : ibs.length ≤ 4 * ks.length) (h32 : ibs.length < 2 ^ 32) :
    ∀ fuel i : Nat, i ≤ nw → nw - i < fuel →
    NEA1.loop2 ibs len ks fuel (UInt32.ofNat i) (written ks ibs (4 * i))
      = .ok (UInt32.ofNat nw, written ks ibs (4 * nw)) := by
  refine forLt_ind (fun fuel => ?_) (fun fuel i hi ih => ?_)
  · simp [NEA1.loop2, hnw]
  · unfold NEA1.loop2
    simp only [hnw, ofNat_lt32 hi (by omega), decide_true, if_true, loop3_eq_loop4]
    rw [show NEA1.loop4 ibs ks (UInt32.ofNat i) 4 5 0 (written ks ibs (4 * i)) = _ from
      byteLoop ks ibs i 4 (Nat.le_refl 4) (by omega) (by omega) hk h32 5 0 (by omega) (by omega), ok_bind, ofNat_succ32]
    exact ih

theorem shlv32_eq (x : UInt32) (n : Nat) : Go.shlv32 x n = Model.NasAlg.shl32 x n := by
  unfold Go.shlv32 Model.NasAlg.shl32
  by_cases h : n < 32
  · rw [if_pos h, if_neg (by omega)]
  · rw [if_neg h, if_pos (by omega)]

theorem set_dropLast {α : Type} (v : α) : ∀ (l : List α) (q : Nat), l.length = q + 1 → l.set q v = l.dropLast ++ [v]
  | [_], 0, _ => rfl
  | a :: b :: t, q + 1, h => by
    rw [List.set_cons_succ, set_dropLast v (b :: t) q (by simpa using h)]; rfl
  | [], _, h | [_], _ + 1, h | _ :: _ :: _, 0, h => by simp at h

theorem maskLast_set (r : Nat) (hr : r ≠ 0) (zs : List UInt32) (q : Nat) (hq : zs.length = q + 1) (w : UInt32)
    (hw : zs[q]? = some w) :
    Model.NasAlg.maskLast r zs = zs.set q (w &&& ~~~(Model.NasAlg.shl32 1 (32 - r) - 1)) := by
  unfold Model.NasAlg.maskLast
  rw [if_neg hr, List.getLast?_eq_getElem?, hq, Nat.add_sub_cancel, hw]
  exact (set_dropLast _ _ _ hq).symm

theorem maskLast_length (r : Nat) (zs : List UInt32) : (Model.NasAlg.maskLast r zs).length = zs.length := by
  unfold Model.NasAlg.maskLast
  split
  · rfl
  · cases h : zs.getLast? with
    | none => rfl
    | some w =>
      obtain ⟨ys, rfl⟩ := List.getLast?_eq_some_iff.mp h
      simp

/-! The length argument `len = 8 * L` of NEA1 for a message of `L` octets, in the terms the Go code computes from it. -/

theorem len_mod (L : Nat) (len : UInt32) (hlen : len.toNat = 8 * L) : (len % 32).toNat = 8 * L % 32 := by
  rw [UInt32.toNat_mod, hlen]; rfl

theorem len_div (L : Nat) (hL : L < 2 ^ 28) (len : UInt32) (hlen : len.toNat = 8 * L) : len / 32 = UInt32.ofNat (L / 4) := by
  apply UInt32.toNat_inj.mp
  rw [UInt32.toNat_div, hlen, ofNat_toNat32 _ (by omega)]
  simp; omega

theorem len_words (L : Nat) (hL : L < 2 ^ 28) (len : UInt32) (hlen : len.toNat = 8 * L) :
    ((len + 31) / 32).toNat = (8 * L + 31) / 32 := by
  rw [UInt32.toNat_div, UInt32.toNat_add, hlen]
  simp only [UInt32.reduceToNat]
  rw [Nat.mod_eq_of_lt (by omega)]

theorem len_last (L : Nat) (hL : L < 2 ^ 28) (len : UInt32) (hlen : len.toNat = 8 * L) (h : L % 4 ≠ 0) :
    ((len + 31) / 32 - 1).toNat = L / 4 := by
  have hl := len_words L hL len hlen
  rw [UInt32.toNat_sub_of_le _ _ (by rw [UInt32.le_iff_toNat_le, hl]; simp only [UInt32.reduceToNat]; omega), hl]
  simp only [UInt32.reduceToNat]; omega

theorem len_shift (L : Nat) (len : UInt32) (hlen : len.toNat = 8 * L) : (32 - len % 32).toNat = 32 - 8 * L % 32 := by
  have hr := len_mod L len hlen
  rw [UInt32.toNat_sub_of_le _ _ (by rw [UInt32.le_iff_toNat_le, hr]; simp; omega), hr]
  rfl

theorem len_tail (L : Nat) (len : UInt32) (hlen : len.toNat = 8 * L) : (len % 32 + 7) / 8 = UInt32.ofNat (L % 4) := by
  apply UInt32.toNat_inj.mp
  rw [UInt32.toNat_div, UInt32.toNat_add, len_mod L len hlen, ofNat_toNat32 _ (by omega)]
  simp only [UInt32.reduceToNat]
  rw [Nat.mod_eq_of_lt (by omega)]
  omega

theorem len_mod_ne (L : Nat) (len : UInt32) (hlen : len.toNat = 8 * L) : len % 32 ≠ 0 ↔ L % 4 ≠ 0 := by
  rw [Ne, ← UInt32.toNat_inj, len_mod L len hlen]
  simp; omega

/-- `if r != 0 { ks[l-1] &= ^((1 << (32 - r)) - 1) }` -/
theorem nea1_mask (L : Nat) (hL : L < 2 ^ 28) (len : UInt32) (hlen : len.toNat = 8 * L) (zs : List UInt32)
    (hz : zs.length = (8 * L + 31) / 32) :
    (if decide (len % 32 ≠ 0) = true then
        Go.idx zs (((len + 31) / 32 - 1).toNat : Int) >>= fun t8 =>
        Go.set zs (((len + 31) / 32 - 1).toNat : Int) (t8 &&& ~~~(Go.shlv32 1 (32 - len % 32).toNat - 1)) >>= fun t9 =>
        Except.ok t9
      else Except.ok zs) = .ok (Model.NasAlg.maskLast (8 * L % 32) zs) := by
  by_cases h : L % 4 = 0
  · rw [if_neg (by simpa [len_mod_ne L len hlen] using h)]
    unfold Model.NasAlg.maskLast
    rw [if_pos (by omega)]
  · have hq : L / 4 < zs.length := by omega
    rw [if_pos (by simpa [len_mod_ne L len hlen] using h), len_last L hL len hlen h, idx_nat _ _ hq, ok_bind,
      set_nat, if_pos hq, ok_bind, len_shift L len hlen, shlv32_eq,
      maskLast_set _ (by omega) zs (L / 4) (by omega) _ (List.getElem?_eq_getElem hq)]

/-- the two xor loops of NEA1 over a keystream of `⌈L/4⌉` words -/
theorem nea1_xor (ibs : Bytes) (hL : ibs.length < 2 ^ 28) (len : UInt32) (hlen : len.toNat = 8 * ibs.length)
    (ks : List UInt32) (hks : ks.length = (8 * ibs.length + 31) / 32) :
    (Go.make (0 : UInt8) (Go.len ibs) >>= fun t11 =>
      NEA1.loop2 ibs len ks ((len / 32 - 0).toNat + 1) 0 t11 >>= fun t16 =>
      (if decide (len % 32 ≠ 0) = true then
          NEA1.loop4 ibs ks t16.1 ((len % 32 + 7) / 8) (((len % 32 + 7) / 8 - 0).toNat + 1) 0 t16.2 >>= fun t20 =>
          Except.ok t20
        else Except.ok t16.2) >>= fun t21 =>
      (Except.ok (t21, false) : Res (Bytes × Bool)))
    = .ok (Model.NasAlg.xorWords ks ibs, false) := by
  have hk : ibs.length ≤ 4 * ks.length := by omega
  have h32 : ibs.length < 2 ^ 32 := by omega
  have hmk : Go.make (0 : UInt8) (Go.len ibs) = .ok (written ks ibs 0) := by
    rw [Go.len, make_nat]; rfl
  -- `ibs` is `q` whole words and `r < 4` octets
  have hdiv := len_div _ hL len hlen
  have htail := len_tail _ len hlen
  have hne := len_mod_ne _ len hlen
  have hkq : ibs.length / 4 ≤ ks.length := by omega
  have hkr : ibs.length % 4 ≠ 0 → ibs.length / 4 < ks.length := by omega
  have hr : ibs.length % 4 < 4 := Nat.mod_lt _ (by decide)
  have hsplit : 4 * (ibs.length / 4) + ibs.length % 4 = ibs.length := by omega
  generalize ibs.length / 4 = q at *
  generalize ibs.length % 4 = r at *
  have hw : NEA1.loop2 ibs len ks (q + 1) 0 (written ks ibs 0) = _ :=
    wordLoop ks ibs len q hdiv hkq (by omega) hk h32 _ 0 (by omega) (by omega)
  rw [hmk, ok_bind, hdiv, UInt32.sub_zero, ofNat_toNat32 _ (by omega), hw, ok_bind, htail, UInt32.sub_zero, ofNat_toNat32 _ (by omega),
    ← written_full ks ibs hk, ← hsplit]
  by_cases h : r = 0
  · rw [if_neg (by simpa [hne] using h), ok_bind, h, Nat.add_zero]
  · rw [if_pos (by simpa [hne] using h),
      show NEA1.loop4 ibs ks (UInt32.ofNat q) (UInt32.ofNat r) (r + 1) 0 (written ks ibs (4 * q)) = _ from
        byteLoop ks ibs q r (by omega) (hkr h) (by omega) hk h32 _ 0 (by omega) (by omega),
      ok_bind, ok_bind]

/-- NEA1 and NIA1 share the text of their key loop -/
theorem keyLoopE_eq : NEA1.loop1 = NIA1.loop1 := by
  funext ck fuel
  induction fuel with
  | zero => rfl
  | succ n ih => funext i k; simp only [NEA1.loop1, NIA1.loop1, ih]

theorem NEA1_eq (ck : Bytes) (hck : ck.length = 16) (count bearer dir : UInt32) (ibs : Bytes)
    (hlen : ibs.length < 2 ^ 28) :
    NEA1 ck count bearer dir ibs (UInt32.ofNat (8 * ibs.length))
      = (Model.NasAlg.nea1 ck count bearer dir ibs).map (fun obs => (obs, false)) := by
  have h8 := ofNat_toNat32 (8 * ibs.length) (by omega)
  unfold NEA1 Model.NasAlg.nea1
  dsimp only
  rw [rep4, keyLoopE_eq, keyLoop_eq ck hck, ok_bind, SecAlg.InitSnow3g_eq, ok_bind, len_words _ hlen _ h8]
  generalize Model.NasAlg.keyWords ck = kw
  obtain ⟨k0, k1, k2, k3⟩ := kw
  simp only []
  generalize Model.Snow3g.initSnow3g _ _ _ _ _ _ _ _ = st
  generalize hl : (8 * ibs.length + 31) / 32 = l
  rw [make_nat, ok_bind, SecAlg.GenerateKeystream_eq st l _ (by simp) (by simp; omega), ok_bind]
  have hz := generateKeystream_length l st
  generalize (Model.Snow3g.generateKeystream l st).1 = zs at hz
  simp only [List.drop_replicate, Nat.sub_self, List.replicate_zero, List.append_nil]
  rw [nea1_mask _ hlen _ h8 zs (by omega), ok_bind,
    nea1_xor ibs hlen _ h8 _ (by rw [maskLast_length]; omega)]
  rfl

/-- the hypotheses of `NEA1_eq` are satisfiable (a 16-octet key, a 5-octet message: one whole word and one octet) -/
example : ([0, 1, 2, 3, 4, 5, 6, 7, 8, 9, 10, 11, 12, 13, 14, 15] : Bytes).length = 16 ∧ ([1, 2, 3, 4, 5] : Bytes).length < 2 ^ 28 := by
  decide

/-- the hypotheses of `NIA1_eq` are satisfiable (a 16-octet key, a 3-octet message) -/
example : ([0, 1, 2, 3, 4, 5, 6, 7, 8, 9, 10, 11, 12, 13, 14, 15] : Bytes).length = 16 ∧ ([1, 2, 3] : Bytes).length < 2 ^ 59 := by
  decide

end Stgutg.Proofs.GenTie.SecNas
