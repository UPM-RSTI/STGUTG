/-
  C01 helper: the emulator's reading of the specified DOWNLINK NAS TRANSPORT that carries the AUTHENTICATION REQUEST
  (Spec/AmfDownlink.lean): `GetNasPdu` hands the plain 5GMM octets to `PlainNasDecode`, which produces a message from which
  `RegisterUE` takes exactly the AUTN and RAND the specification encoder was given (C09: the TS 24.501 encoder and the code's
  decoder agree), and the first IE of the transport is the AMF-UE-NGAP-ID. Props/C01.lean assembles the `DlReads` for
  `Spec.AmfDl.dl` from these.
-/
import Stgutg.Props.C09
import Stgutg.Spec.AmfDownlink
import Stgutg.Proofs.EmulatorReencode
import Stgutg.Proofs.EmulatorDownlink

namespace Stgutg.Proofs.EmulatorDownlink
open Stgutg Stgutg.Nas Stgutg.Spec.Ts24501 Stgutg.Gen.Nas Stgutg.Gen Stgutg.Model.Emulator

/-- the message `PlainNasDecode` produces for the Authentication Request -/
def mAR (ngKsi : Nat) (abba rand autn : Bytes) : Msg :=
  [some ⟨0, 0, [0x7E]⟩, some ⟨0, 0, [0x00]⟩, some ⟨0, 0, [0x56]⟩, some ⟨0, 0, [UInt8.ofNat ngKsi]⟩,
   some ⟨0, abba.length, abba⟩, some ⟨0x21, 0, rand⟩, some ⟨0x20, 16, autn⟩, none]

/-- **the emulator reads the specified AUTHENTICATION REQUEST**: the octets the TS 24.501 encoder produces for (ngKSI, ABBA, RAND,
    AUTN) are plain 5GMM octets that `PlainNasDecode` reads as a message from which `RegisterUE` takes exactly this AUTN and RAND.
    `mAR` is checked against the layout row by row and denotes the specified message, so it is `Props.C09.Sent`: what the
    standard's encoder writes for it is what `PlainNasDecode` reads back to `mAR` -/
theorem ar_decodes (ngKsi : Nat) (abba rand autn : Bytes) (hab2 : abba.length < 256) (hab : 2 ≤ abba.length)
    (hr : rand.length = 16) (ha : autn.length = 16) (ar : Bytes)
    (h : Spec.AmfDl.nas Spec.Ts24501.authenticationRequest (Spec.AmfDl.authenticationRequest ngKsi abba rand autn) = some ar) :
    ∃ pm r, Nas.plainDecode nasCodec ar = .ok pm ∧ authParams (some pm) = some (autn, rand) ∧ ar = 0x7E :: 0x00 :: 0x56 :: r := by
  have hd16 : autn.drop 16 = [] := List.drop_eq_nil_of_le (by omega)
  obtain ⟨bs, -, hs⟩ := Props.C09.sent Props.C09.tabled_authenticationRequest (model := .ok (mAR ngKsi abba rand autn)) rfl (by rfl)
    (by simp [mAR, layout_AuthenticationRequest, mandRowsOK, mandValOK, specValOK, lenFits, sh_ExtendedProtocolDiscriminator,
          sh_SpareHalfOctetAndSecurityHeaderType, sh_AuthenticationRequestMessageIdentity, sh_SpareHalfOctetAndNgksi, sh_ABBA,
          Body.size, hab2])
    (by simp [mAR, layout_AuthenticationRequest, optRowsOK, optValOK, specValOK, lenFits, sh_AuthenticationParameterRAND,
          sh_AuthenticationParameterAUTN, Body.size, hr, ha, allZero, hd16])
    (expected := Spec.AmfDl.authenticationRequest ngKsi abba rand autn) (fun w hw => by
      -- the RAND row is TV: `toSpec` cuts the value to the length the table gives it
      have hf : w.opt.find? (fun x => x.iei == 33) = some ⟨0x21, .tv 16, 16, some 16⟩ := by
        have : ((Props.C09.wireOf layout_AuthenticationRequest).map fun x => x.opt.find? (fun x => x.iei == 33))
            = some (some ⟨0x21, .tv 16, 16, some 16⟩) := by decide +kernel
        rw [hw] at this
        simpa using this
      simp [mAR, rowsSpec, layout_AuthenticationRequest, mandRowsSpec, optRowsSpec, mandToSpec, optToSpec, hf,
        Spec.AmfDl.authenticationRequest]
      exact ⟨by rw [← hr, List.take_length], by rw [← ha, List.take_length]⟩) rfl
  cases hs.written.symm.trans h
  obtain ⟨r, rfl⟩ := hs.head _ _ _ _ rfl
  have hdis : Gen.Nas.dispatchGmm.dec.lookup 0x56 = some 2 := Props.C09.tabled_authenticationRequest.dispatch
  refine ⟨_, r, hs.decodes, ?_, rfl⟩
  simp [authParams, mAR, idx_AuthenticationRequest_AuthenticationParameterAUTN,
    idx_AuthenticationRequest_AuthenticationParameterRAND, hdis]
  exact ⟨by rw [← ha, List.take_length], by rw [← hr, List.take_length]⟩

open Stgutg.Aper in
/-- the DOWNLINK NAS TRANSPORT message value inside the PDU -/
def dntMsg (amf ran : Int) (nas : Bytes) : Aper.Val :=
  .struct [.struct [.slice [
    Spec.AmfDl.ieV 10 Spec.AmfDl.reject 9 1 (.struct [.int amf]),
    Spec.AmfDl.ieV 85 Spec.AmfDl.reject 9 2 (.struct [.int ran]),
    Spec.AmfDl.ieV 38 Spec.AmfDl.reject 9 5 (.struct [.octs nas])]]]

theorem dnt_alt (amf ran : Int) (nas : Bytes) :
    initiatingAlt altDownlinkNASTransport (Spec.AmfDl.downlinkNasTransport amf ran nas) = some (some (dntMsg amf ran nas)) := rfl

theorem dnt_amf (amf ran : Int) (nas : Bytes) :
    ((ieList (dntMsg amf ran nas)).bind (·[0]?) |>.bind (ieAlt altDnAMFUENGAPID) |>.bind deref |>.bind (field 0)) = some (.int amf) := rfl

theorem dnt_getNasPdu (P : Prims) (ue : Ue) (amf ran : Int) (r : Bytes) (pm : Nas.PlainMsg)
    (hpd : Nas.plainDecode nasCodec (0x7E :: 0x00 :: 0x56 :: r) = .ok pm) (w : World) :
    getNasPdu P ue (dntMsg amf ran (0x7E :: 0x00 :: 0x56 :: r)) w = (w, .ok (ue, some pm)) := by
  have hl : ieList (dntMsg amf ran (0x7E :: 0x00 :: 0x56 :: r)) = some [
      Spec.AmfDl.ieV 10 Spec.AmfDl.reject 9 1 (.struct [.int amf]),
      Spec.AmfDl.ieV 85 Spec.AmfDl.reject 9 2 (.struct [.int ran]),
      Spec.AmfDl.ieV 38 Spec.AmfDl.reject 9 5 (.struct [.octs (0x7E :: 0x00 :: 0x56 :: r)])] := rfl
  unfold getNasPdu
  rw [hl]
  simp [Spec.AmfDl.ieV, Spec.AmfDl.choiceV, ieId, ieAlt, field, deref, altDnNASPDU, Model.NasProtect.getNasPdu,
    Model.NasProtect.getNasPduWith, Model.NasProtect.nasDecode, Model.NasProtect.nasDecodeCore, Model.NasProtect.nilOnError,
    Model.NasProtect.handToPlainDecode, hpd]
  rfl

theorem dl_some (P : Prims) (cfg : Spec.Amf.Cfg) (j : Nat) (ch : Spec.Amf.Choice) (ran : Int) (cap : Bytes) (dls : List Bytes)
    (h : Spec.AmfDl.dl P cfg j ch ran cap = some dls) :
    ∃ plmn aka autn ar n3 n4 n5 d1 d2 d3 d4 d5,
      Spec.Amf.plmnOf cfg = some plmn ∧ Spec.Amf.vector P cfg j ch = some aka ∧ Spec.Amf.autnOf P cfg ch = some autn ∧
      Spec.AmfDl.ngap (Spec.AmfDl.ngSetupResponse plmn) = some d1 ∧
      Spec.AmfDl.nas Spec.Ts24501.authenticationRequest (Spec.AmfDl.authenticationRequest ch.ngKsi cfg.abba ch.rand autn) = some ar ∧
      Spec.AmfDl.ngap (Spec.AmfDl.downlinkNasTransport ch.amfUeNgapId ran ar) = some d2 ∧
      Spec.AmfDl.ngap (Spec.AmfDl.downlinkNasTransport ch.amfUeNgapId ran n3) = some d3 ∧
      Spec.AmfDl.ngap (Spec.AmfDl.initialContextSetupRequest ch.amfUeNgapId ran plmn (Spec.AmfDl.kgnb P aka.kamf) n4) = some d4 ∧
      Spec.AmfDl.ngap (Spec.AmfDl.downlinkNasTransport ch.amfUeNgapId ran n5) = some d5 ∧
      dls = [d1, d2, d3, d4, d5] := by
  rw [Spec.AmfDl.dl] at h
  obtain ⟨plmn, h1, h⟩ := Option.bind_eq_some_iff.mp h
  obtain ⟨aka, h2, h⟩ := Option.bind_eq_some_iff.mp h
  obtain ⟨autn, h3, h⟩ := Option.bind_eq_some_iff.mp h
  obtain ⟨d1, h4, h⟩ := Option.bind_eq_some_iff.mp h
  obtain ⟨ar, h5, h⟩ := Option.bind_eq_some_iff.mp h
  obtain ⟨d2, h6, h⟩ := Option.bind_eq_some_iff.mp h
  obtain ⟨pn, -, h⟩ := Option.bind_eq_some_iff.mp h
  obtain ⟨d3, h8, h⟩ := Option.bind_eq_some_iff.mp h
  obtain ⟨d4, h9, h⟩ := Option.bind_eq_some_iff.mp h
  obtain ⟨d5, h10, h⟩ := Option.bind_eq_some_iff.mp h
  exact ⟨plmn, aka, autn, ar, pn.1, pn.2.1, pn.2.2, d1, d2, d3, d4, d5, h1, h2, h3, h4, h5, h6, h8, h9, h10,
    (Option.some.inj h).symm⟩

end Stgutg.Proofs.EmulatorDownlink
