/-
  C02 helper: the arguments the procedures after registration compute from the UE context `CreateUE` made — the number
  `strconv.Atoi(strings.Split(ue.Supi, "-")[1])` of UE `j` is the configured IMSI plus `j`, in the range where the PDU session
  identity derived from it is what `C02_calls_are_the_emulators` says; its RAN-UE-NGAP-ID is in range; the S-NSSAI and DNN the
  configuration gives are in the ranges the NAS constructors ask for.
-/
import Stgutg.Proofs.EmulatorLife
import Stgutg.Proofs.UeIdentity
import Stgutg.Props.C01

namespace Stgutg.Proofs.EmulatorLifeArgs
open Stgutg Stgutg.Model.Emulator Stgutg.Model.UeIdentity Stgutg.Proofs.UeIdentity

theorem splitDash_go_nodash (cur s : Bytes) (h : ∀ c ∈ s, c ≠ 45) : splitDash.go cur s = [cur ++ s] := by
  induction s generalizing cur with
  | nil => simp [splitDash.go]
  | cons c rest ih =>
    have hc : c ≠ 45 := h c (by simp)
    simp only [splitDash.go, hc, if_false]
    rw [ih (cur ++ [c]) (fun x hx => h x (by simp [hx]))]
    simp

/-- `strings.Split("imsi-" + digits, "-")[1]` is the digit string -/
theorem supiInt_prefix (ds : Bytes) (h : ∀ c ∈ ds, isDigitByte c = true) : supiInt (imsiPrefix ++ ds) = some (atoi ds) := by
  have hnd : ∀ c ∈ ds, c ≠ 45 := by
    intro c hc e
    subst e
    exact absurd (digit_byte 45 (h 45 hc)) (by decide)
  have : splitDash (imsiPrefix ++ ds) = [[105, 109, 115, 105], ds] := by
    show splitDash.go [] (105 :: 109 :: 115 :: 105 :: 45 :: ds) = _
    simp [splitDash.go, splitDash_go_nodash [] ds hnd]
  simp [supiInt, this]

/-- **the SUPI number of UE `j`**: IMSI + j, no conversion error -/
theorem supiInt_created (cfg : Cfg) (hd : DecimalImsi cfg.imsi) (j : Nat) (hfit : decVal cfg.imsi + j < 10 ^ cfg.imsi.length) :
    supiInt (createUE cfg j).ctx.supi = some (((decVal cfg.imsi + j : Nat) : Int), false) := by
  have hs : (createUE cfg j).ctx.supi = imsiPrefix ++ decW cfg.imsi.length (decVal cfg.imsi + j) :=
    createUE_supi hd j hfit cfg.k cfg.opc cfg.op
  rw [hs, supiInt_prefix _ (decW_digits _ _)]
  have hD : DecimalImsi (decW cfg.imsi.length (decVal cfg.imsi + j)) :=
    ⟨decW_digits _ _, by rw [decW_length]; exact hd.nonempty, by rw [decW_length]; exact hd.short⟩
  rw [atoi_decimal hD, decVal_decW, Nat.mod_eq_of_lt hfit]

/-- the number is in the range where `pduId := (supiInt+14)%15 + 1` does not wrap -/
theorem supi_range (cfg : Cfg) (hd : DecimalImsi cfg.imsi) (j : Nat) (hfit : decVal cfg.imsi + j < 10 ^ cfg.imsi.length) :
    (0 : Int) ≤ ((decVal cfg.imsi + j : Nat) : Int) ∧ ((decVal cfg.imsi + j : Nat) : Int) + 14 < 2 ^ 63 := by
  have h18 := hd.short
  have h10 : 10 ^ cfg.imsi.length ≤ 10 ^ 18 := Nat.pow_le_pow_right (by omega) h18
  have : (10 : Nat) ^ 18 + 14 < 2 ^ 63 := by decide
  constructor <;> omega

/-- the RAN-UE-NGAP-ID `CreateUE` assigns is in the range of the NGAP type -/
theorem ran_range (cfg : Cfg) (hd : DecimalImsi cfg.imsi) (j : Nat) (hj : j < 2 ^ 62) :
    0 ≤ (createUE cfg j).ctx.ranUeNgapId ∧ (createUE cfg j).ctx.ranUeNgapId < 2 ^ 32 :=
  Props.C01.createUE_ran_range cfg hd j hj

/-- the S-NSSAI (SST modulo 256, SD of three octets) and the DNN "internet" the procedures pass are in the constructors' ranges -/
theorem sst_dnn_ok (cfg : Cfg) (s1 s2 s3 : UInt8) :
    (∀ x, some ((cfg.sst % 256).toNat, s1, s2, s3) = some x → x.1 < 256) ∧
    (internet.length ≤ 99 ∧ ∀ c ∈ internet, c ≠ 0x2E) := by
  refine ⟨fun x hx => ?_, by decide, by decide⟩
  cases hx; show (cfg.sst % 256).toNat < 256; omega

theorem snssai_facts (E : Model.Convert.Ext) (cfg : Cfg) (s1 s2 s3 : UInt8) (hsd : E.hexDecode cfg.sd = ([s1, s2, s3], false)) :
    snssaiOf E cfg = some ⟨UInt8.ofNat (cfg.sst % 256).toNat, [s1, s2, s3]⟩ ∧
    (∀ x, some ((cfg.sst % 256).toNat, s1, s2, s3) = some x → x.1 < 256) ∧
    (internet.length ≤ 99 ∧ ∀ c ∈ internet, c ≠ 0x2E) :=
  ⟨by simp [snssaiOf, hsd], sst_dnn_ok cfg s1 s2 s3⟩

end Stgutg.Proofs.EmulatorLifeArgs
