/-
  C13 helper, part 2: `okV_spec` — the X.691 specification (Spec/X691.lean) encodes every `okV` value, at every bit position.
  Each `…_some` lemma says of one X.691 clause, in the form Proofs/AperSpec*.lean gives it (`strSpec` for both string types,
  `sliceHdrSpec`, `components` by `components_skip` / `components_cons`), that it returns bits inside the constraint `okV`
  checks; `okV_spec` puts them together along `okV_rec` and the equations `encode_slice`, `encode_struct`. With C03
  (`Proofs.AperSpec.marshal_iff`, from `encode_complete`) the encoder model then returns the same octets (`okV_marshal`).
-/
import Stgutg.Proofs.BuildersOk

namespace Stgutg.Proofs.BuildersOk
open Stgutg Stgutg.Aper
open Stgutg.Spec.X691 (constrainedWholeNumber lengthDeterminant integer enumerated sizeConstraint bitString octetString
  components elements encode governor)

theorem cwn_some (pos n r : Nat) (h : n < r) : ∃ b, constrainedWholeNumber pos n r = some b := by
  unfold constrainedWholeNumber
  have : ¬ (r = 0 ∨ n ≥ r) := by omega
  rw [if_neg this]
  split
  · exact ⟨_, rfl⟩
  · split
    · exact ⟨_, rfl⟩
    · split
      · exact ⟨_, rfl⟩
      · split
        · exact ⟨_, rfl⟩
        · exact ⟨_, rfl⟩

theorem integer_some (pos : Nat) (n lb ub : Int) (ext : Bool) (h1 : lb ≤ n) (h2 : n ≤ ub ∨ ext = true) :
    ∃ b, integer pos n ext (some lb) (some ub) = some b := by
  unfold integer
  by_cases hu : n ≤ ub
  · simp only [h1, hu, and_self, if_true]
    obtain ⟨b, hb⟩ := cwn_some (pos + (if ext then 1 else 0)) (n - lb).toNat (ub - lb + 1).toNat (by omega)
    rw [hb]
    exact ⟨_, rfl⟩
  · have he : ext = true := by rcases h2 with h2 | h2; exact absurd h2 hu; exact h2
    simp only
    rw [if_neg (by omega), if_pos ⟨he, by omega⟩]
    exact ⟨_, rfl⟩

theorem enumerated_some (pos n : Nat) (ub : Int) (ext : Bool) (h : (n : Int) ≤ ub) :
    ∃ b, enumerated pos n ext (some 0) (some ub) = some b := by
  unfold enumerated
  simp only [h, if_true]
  obtain ⟨b, hb⟩ := cwn_some (pos + (if ext then 1 else 0)) n (ub + 1).toNat (by omega)
  rw [hb]
  exact ⟨_, rfl⟩

/-- what a size constraint that admits `n` looks like -/
theorem sizeConstraint_some (n : Nat) (ext : Bool) (lbP ubP : Option Int) (x : Bits × Nat × Option Nat)
    (h : sizeConstraint n ext lbP ubP = some x) :
    (∃ u, x.2.2 = some u ∧ x.2.1 ≤ n ∧ n ≤ u) ∨ x.2.2 = none := by
  unfold sizeConstraint at h
  split at h
  · rename_i lb ub
    split at h
    · simp at h
    · split at h
      · rename_i hr
        simp only [Option.some.injEq] at h; subst h
        left; exact ⟨ub.toNat, rfl, by simp only; omega, by omega⟩
      · split at h
        · simp only [Option.some.injEq] at h; subst h; right; rfl
        · simp at h
  · split at h
    · simp at h
    · simp only [Option.some.injEq] at h; subst h; right; rfl
  · simp only [Option.some.injEq] at h; subst h; right; rfl

theorem lengthDeterminant_some (pos n lb u : Nat) (h1 : lb ≤ n) (h2 : n ≤ u) (hu : u < 65536) :
    ∃ b, lengthDeterminant pos n lb (some u) = some b := by
  rw [AperSpec.lengthDeterminant_con pos n lb u h1 h2 hu]
  exact cwn_some pos (n - lb) (u - lb + 1) (by omega)

theorem lengthDeterminant_some_small (pos n lb : Nat) (ub : Option Nat) (hn : n < 16384)
    (hr : ∀ u, ub = some u → lb ≤ n ∧ n ≤ u) : ∃ b, lengthDeterminant pos n lb ub = some b := by
  by_cases hub : ∀ u, ub = some u → 65536 ≤ u
  · exact ⟨_, AperSpec.lengthDeterminant_unc pos n lb ub hn hub⟩
  · obtain ⟨u, rfl, hu⟩ : ∃ u, ub = some u ∧ u < 65536 := by simpa using hub
    exact lengthDeterminant_some pos n lb u (hr u rfl).1 (hr u rfl).2 hu

/-- 16 / 17: the string clause (both string types) encodes every size the constraint admits -/
theorem strSpec_some (unit pos len octs : Nat) (content : Bits) (p : Params) (h : sizeOKn len p = true) :
    ∃ bits, AperSpec.strSpec unit pos len octs content p.sizeExt p.sizeLB p.sizeUB = some bits := by
  unfold sizeOKn at h
  unfold AperSpec.strSpec
  cases hs : sizeConstraint len p.sizeExt p.sizeLB p.sizeUB with
  | none => simp [hs] at h
  | some x =>
    obtain ⟨pre, lb, ub⟩ := x
    dsimp only
    split
    · split <;> exact ⟨_, rfl⟩
    · cases ub with
      | none => exact ⟨_, rfl⟩
      | some u =>
        by_cases hsmall : u < 65536
        · rcases sizeConstraint_some _ _ _ _ _ hs with ⟨u', hu', hl, hh⟩ | hnone
          · cases hu'
            obtain ⟨l, hl'⟩ := lengthDeterminant_some (pos + pre.length) len lb u hl hh hsmall
            simp only [AperSpec.isCon, hsmall, decide_true, if_true, hl']
            split <;> exact ⟨_, rfl⟩
          · cases hnone
        · simp only [AperSpec.isCon, hsmall, decide_false, Bool.false_eq_true, if_false]
          exact ⟨_, rfl⟩

theorem octetString_some (pos : Nat) (b : Bytes) (p : Params) (h : sizeOKn b.length p = true) :
    ∃ bits, octetString pos b p.sizeExt p.sizeLB p.sizeUB = some bits :=
  AperSpec.octetString_eq .. ▸ strSpec_some 8 pos _ _ _ p h

theorem bitString_some (pos : Nat) (content : Bits) (p : Params) (h : sizeOKn content.length p = true) :
    ∃ bits, bitString pos content p.sizeExt p.sizeLB p.sizeUB = some bits :=
  AperSpec.bitString_eq .. ▸ strSpec_some 1 pos _ _ _ p h

/-- 20.5 / 20.6: extension bit and count of a SEQUENCE OF of an admitted size below 16K -/
theorem sliceHdrSpec_some (p : Params) (pos n : Nat) (h : sizeOKn n p = true) (hn : n < 16384) :
    ∃ x, AperSpec.sliceHdrSpec p pos n = some x := by
  unfold sizeOKn at h
  unfold AperSpec.sliceHdrSpec
  cases hs : sizeConstraint n p.sizeExt p.sizeLB p.sizeUB with
  | none => simp [hs] at h
  | some x =>
    obtain ⟨pre, lb, ub⟩ := x
    dsimp only
    split
    · exact ⟨_, rfl⟩
    · obtain ⟨c, hc⟩ := lengthDeterminant_some_small (pos + pre.length) n lb ub hn fun u hu => by
        rcases sizeConstraint_some _ _ _ _ _ hs with ⟨u', hu', hl, hh⟩ | hnone
        · cases hu.symm.trans hu'; exact ⟨hl, hh⟩
        · rw [hu] at hnone; cases hnone
      rw [hc]
      exact ⟨_, rfl⟩

theorem elements_some (enc : Nat → Val → Option Bits) : ∀ (vs : List Val) (pos : Nat),
    (∀ v ∈ vs, ∀ pos, ∃ b, enc pos v = some b) → ∃ b, elements enc pos vs = some b := by
  intro vs
  induction vs with
  | nil => intro pos _; exact ⟨_, rfl⟩
  | cons v rest ih =>
    intro pos h
    obtain ⟨a, ha⟩ := h v (List.mem_cons_self ..) pos
    obtain ⟨b, hb⟩ := ih (pos + a.length) (fun x hx => h x (List.mem_cons_of_mem _ hx))
    exact ⟨a ++ b, by simp [elements, ha, hb]⟩

theorem components_some (ok : Ty → Params → Val → Bool) (enc : Nat → Ty → Params → Val → Option Bits)
    (gov : Ty → Val → Option Int) (aF : List Field) (aV : List Val)
    (H : ∀ ty p v, ok ty p v = true → ∀ pos, ∃ b, enc pos ty p v = some b) :
    ∀ (fields : List Field) (fs : List Val), okFields ok gov aF aV fields fs = true →
      ∀ pos, ∃ b, components enc gov aF aV pos fields fs = some b := by
  intro fields
  induction fields with
  | nil =>
    intro fs h pos
    cases fs with
    | nil => exact ⟨_, rfl⟩
    | cons _ _ => simp [okFields] at h
  | cons fd frest ih =>
    intro fs h pos
    cases fs with
    | nil => simp [okFields] at h
    | cons v vrest =>
      simp only [okFields, okField, Bool.and_eq_true, Bool.or_eq_true] at h
      by_cases hskip : fd.params.optional = true ∧ isNil v = true
      · rw [AperSpec.components_skip _ _ _ _ _ _ _ _ _ hskip]; exact ih vrest h.2 pos
      · rw [AperSpec.components_cons _ _ _ _ _ _ _ _ _ hskip]
        rcases h.1 with h1 | h1
        · exact absurd h1 hskip
        · cases hr : resolveP gov aF aV fd with
          | none => simp [hr] at h1
          | some p =>
            simp only [hr] at h1
            -- `resolveP` is the text of `AperSpec.specParams`
            rw [show AperSpec.specParams gov aF aV fd = some p from hr]
            obtain ⟨a, ha⟩ := H _ _ _ h1 pos
            obtain ⟨b, hb⟩ := ih vrest h.2 (pos + a.length)
            exact ⟨a ++ b, by simp [ha, hb]⟩

theorem mandatory_present (ok : Ty → Params → Val → Bool) (gov : Ty → Val → Option Int) (aF : List Field) (aV : List Val)
    (hnil : ∀ ty p, ok ty p .nil = false) :
    ∀ (fields : List Field) (fs : List Val), okFields ok gov aF aV fields fs = true →
      (List.zip fields fs).all (fun (fd, v) => fd.params.optional || (match v with | .nil => false | _ => true)) = true := by
  intro fields fs h
  rw [List.all_eq_true]
  intro x hx
  rcases okFields_zip ok gov aF aV fields fs h x hx with h1 | ⟨p, _, h1⟩
  · simp [h1.1]
  · obtain ⟨fd, v⟩ := x
    cases v <;> simp at h1 ⊢
    simp [hnil] at h1

/-- **the specification encodes every `okV` value**, at every bit position -/
theorem okV_spec (env : Env) (canon : Bool) : ∀ (fuel : Nat) (ty : Ty) (p : Params) (v : Val),
    okV env canon fuel ty p v = true → ∀ pos, ∃ bits, encode env fuel pos ty p v = some bits := by
  refine okV_rec env canon (Q := fun f ty p v => ∀ pos, ∃ bits, encode env f pos ty p v = some bits)
    ?_ ?_ ?_ ?_ ?_ ?_ ?_ ?_ ?_ ?_
  · intro f t p v ih pos; simp only [encode]; exact ih pos
  · intro f p n lb ub hl hu h0 h1 _ _ pos; simp only [encode, hl, hu]; exact integer_some pos n lb ub _ h0 h1
  · intro f p n ub hl hu h1 pos; simp only [encode, hl, hu]; exact enumerated_some pos n ub _ h1
  · intro f p b pos; exact ⟨_, rfl⟩
  · intro f p bytes len hl _ hs pos
    simp only [encode]
    rw [if_neg (by simp [hl])]
    have hlen : ((bytesToBits bytes).take len).length = len := by
      rw [List.length_take, Proofs.Bits.bytesToBits_length, hl]; omega
    exact bitString_some pos ((bytesToBits bytes).take len) p (by rw [hlen]; exact hs)
  · intro f p b hs pos; simp only [encode]; exact octetString_some pos _ p hs
  · intro f p b hs pos; simp only [encode]; exact octetString_some pos _ p hs
  · intro f t p vs hsz hn ih pos
    rw [AperSpec.encode_slice]
    obtain ⟨⟨pre, c⟩, hc⟩ := sliceHdrSpec_some p pos vs.length hsz hn
    obtain ⟨es, hes⟩ := elements_some (fun q e => encode env f q t (stripSizeE p) e) vs (pos + pre.length + c.length)
      (fun v hv q => ih v hv q)
    rw [hc]
    dsimp only
    rw [hes]
    exact ⟨_, rfl⟩
  · intro f id sd p pv alts fd alt hsd hch hlen hp1 hp2 hnil hfd halt _ ih hpar pos
    rw [AperSpec.encode_struct env f pos id p _ sd hsd, if_pos hch]
    unfold AperSpec.specChoice
    dsimp only
    rw [if_neg (by omega)]
    rw [if_neg (fun hc => hc (nilExceptFrom_zipIdx alts 0 pv.toNat hnil))]
    simp only [hfd, halt]
    by_cases hot : p.openType = true
    · simp only [hot, if_true, Bool.and_eq_true, beq_iff_eq] at hpar ⊢
      rw [if_neg (by
        intro hc
        rcases hc with hc | hc
        · rw [Option.isNone_iff_eq_none] at hc; rw [hc] at hpar; simp at hpar
        · exact hc hpar.2)]
      obtain ⟨inner, hin⟩ := ih 0
      rw [hin]
      exact ⟨_, rfl⟩
    · simp only [hot, if_false, Bool.false_eq_true] at hpar ⊢
      cases hub : p.valueUB with
      | none => simp [hub] at hpar
      | some ub =>
        simp only [hub, beq_iff_eq] at hpar ⊢
        rw [if_neg (by simp [hpar])]
        obtain ⟨ib, hib⟩ := cwn_some (pos + (if p.valueExt = true then [false] else []).length) (pv.toNat - 1)
          (sd.fields.length - 1) (by omega)
        rw [hib]
        obtain ⟨ab, hab⟩ := ih (pos + (if p.valueExt = true then [false] else []).length + ib.length)
        simp only [hab]
        exact ⟨_, rfl⟩
  · intro f id sd p fs hsd hch hlen hf ih pos
    rw [AperSpec.encode_struct env f pos id p _ sd hsd, if_neg (by simp [hch])]
    unfold AperSpec.specSeq
    rw [if_neg (by simp [hlen])]
    rw [if_neg (fun hc => hc (mandatory_present _ _ _ _ (fun ty q => okV_nil env canon f ty q) _ _ hf))]
    dsimp only
    have hcomp := components_some (okV env canon f) (encode env f) (governor env f) sd.fields fs
      (fun ty q v hv pos => ih ty q v hv pos) sd.fields fs hf
    exact Exists.elim (hcomp _) fun body hb => by rw [hb]; exact ⟨_, rfl⟩

/-- **every `okV` value is encoded**: `aper.MarshalWithParams` (model) returns octets, and they are the complete X.691
    encoding of the value (C03: `encode_complete`) -/
theorem okV_marshal (env : Env) (canon : Bool) (hwf : AperSpec.specOK env = true) (hwfc : AperSpec.specOKc env = true)
    (fuel : Nat) (ty : Ty) (p : Params) (v : Val)
    (hp : AperSpec.tyParamsOK env ty p = true) (hpc : AperSpec.tyParamsOKc ty p = true)
    (h : okV env canon fuel ty p v = true) :
    ∃ bs, marshal env fuel ty p v = .ok bs ∧ Spec.X691.encodePdu env fuel ty p v = some bs := by
  obtain ⟨bits, hb⟩ := okV_spec env canon fuel ty p v h 0
  have hs : ∃ bs, Spec.X691.encodePdu env fuel ty p v = some bs := by
    unfold Spec.X691.encodePdu
    rw [hb]
    dsimp only
    split <;> exact ⟨_, rfl⟩
  obtain ⟨bs, hbs⟩ := hs
  exact ⟨bs, (AperSpec.marshal_iff env hwf hwfc fuel ty p v bs hp hpc (okV_regular env canon fuel ty p v _ h)).mpr hbs, hbs⟩

end Stgutg.Proofs.BuildersOk
