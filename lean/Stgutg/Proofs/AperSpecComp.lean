/-
  C03 helper lemmas, part 2: composite types. The decidable schema predicates `specOK` / `tyParamsOK` (and `specOKc` /
  `tyParamsOKc`, which only the converse needs), the value predicate `regular`, and `encode_ref`: for every schema passing
  `specOK` the computation of `encField` on a regular value refines what `Spec.X691.encode` prescribes (`Ref c`,
  AperSpec.lean) — SEQUENCE with OPTIONAL bitmap and open-type components, SEQUENCE OF, CHOICE, open types — by ONE
  induction on the fuel both encoders share. `c` switches the converse on, and with it the hypotheses `specOKc` /
  `tyParamsOKc` (`OKc`). `encode_eq_spec` is `c := False`; `encode_iff` (AperSpecTotal.lean) is `c := True`.
  `nonEmptyEnc_sound`: an open type's content is never empty. Corollaries `encode_refuses`, `marshal_ref`,
  `marshal_eq_spec`, `marshal_refuses`.
  Each branch of the two recursive functions has its text under a name (`specSeq`, `specChoice`, `specParams`,
  `sliceHdr` / `sliceHdrSpec`, `regChoice`, `regularFields`, `choiceOK`) with the equation that exposes it
  (`encode_struct`, `encode_slice`, `encSlice_eq`, `regular_struct`, `structOK_eq`; what a successful `encSeq` /
  `encChoice` went through: `encSeq_ok`, `encChoice_inv`) and a `…_ref` lemma stated over ANY pair of component
  encoders related by a hypothesis `H` (`optBitmap_ref`, `encElems_ref`, `resolveRef_ref`, `encSeqFields_ref`, `encSeq_ref`,
  `encChoice_ref`; `sliceHdr_iff`, `encOpenType_eq`, `refFieldValue_iff` where nothing depends on `c`); `encode_ref` supplies
  `H` from its induction hypothesis. Sequenced steps are taken one at a time with `Ref.elim`.
-/
import Stgutg.Proofs.AperSpec

namespace Stgutg.Proofs.AperSpec
open Stgutg Stgutg.Aper Stgutg.Proofs.Bits
open Stgutg.Spec.X691 (bitsFor octetsFor pad constrainedWholeNumber lengthDeterminant lengthAndItems twosComplement octetsForSigned
  integer enumerated sizeConstraint bitString octetString)

/-! ## What must hold of the schema (decidable, closed for `Gen.Ngap.schema` by the kernel) -/

def intOK (p : Params) : Bool := intOK' p.valueLB p.valueUB
def enumOK (p : Params) : Bool := enumOK' p.valueLB
def strOK (p : Params) : Bool := strOK' p.sizeLB p.sizeUB

/-- SEQUENCE OF: bounds both absent, or a lower bound in 0..65535 and (if present) an upper bound ≥ it;
    an upper bound of 64K or more (treated as absent by the library) must not be extensible -/
def sliceOK (p : Params) : Bool :=
  match p.sizeLB, p.sizeUB with
  | none, none => true
  | none, some _ => false
  | some l, none => decide (0 ≤ l) && decide (l < 65536)
  | some l, some u => decide (0 ≤ l) && decide (l ≤ u) && decide (l < 65536) && (decide (u < 65536) || !p.sizeExt)

/-- a sufficient condition for "whatever the model emits for this type is at least one bit"
    (an open type must not have an empty content: X.691 11.2 then wants one zero octet, the library writes none) -/
def nonEmptyEnc (env : Env) : Nat → Ty → Params → Bool
  | 0, _, _ => false
  | k + 1, ty, p =>
    match ty with
    | .ptr t => nonEmptyEnc env k t p
    | .bool => true
    | .oid => true
    | .int => p.valueExt || (match p.valueLB, p.valueUB with | some l, some u => decide (l < u) | _, _ => true)
    | .enum => p.valueExt || (match p.valueLB, p.valueUB with | some l, some u => decide (l < u) | _, _ => true)
    | .bits => (match p.sizeLB, p.sizeUB with | some _, some u => decide (0 < u) | _, _ => true)
    | .octs => (match p.sizeLB, p.sizeUB with | some _, some u => decide (0 < u) | _, _ => true)
    | .str => (match p.sizeLB, p.sizeUB with | some _, some u => decide (0 < u) | _, _ => true)
    | .slice _ => (match p.sizeLB, p.sizeUB with | some l, some u => decide (l < u) && decide (l < 65536) | _, _ => false)
    | .struct id =>
      p.valueExt ||
      match env[id]? with
      | none => true
      | some sd =>
        if isChoice sd then true
        else sd.fields.any (fun fd => fd.params.optional || nonEmptyEnc env k fd.ty fd.params)

/-- a struct type used with parameters `p`: a CHOICE that is not an open type carries `valueUB = #alternatives − 1`
    with at least two alternatives (or no `valueUB` at all: then the library refuses every value);
    the alternatives of an open type never have an empty encoding -/
def structOK (env : Env) (id : Nat) (p : Params) : Bool :=
  -- nothing to check for a struct type used without `openType` and without `valueUB` (the common case;
  -- tested first so that the kernel does not look the type up)
  if !p.openType && p.valueUB.isNone then true else
  match env[id]? with
  | none => true
  | some sd =>
    if isChoice sd then
      if p.openType then sd.fields.tail.all (fun fd => nonEmptyEnc env 6 fd.ty fd.params)
      else
        match p.valueUB with
        | none => true
        | some ub => ub + 1 == ((sd.fields.length - 1 : Nat) : Int) && decide (3 ≤ sd.fields.length)
    else true

def tyParamsOK (env : Env) : Ty → Params → Bool
  | .int, p => intOK p
  | .enum, p => enumOK p
  | .bits, p => strOK p
  | .octs, p => strOK p
  | .str, p => strOK p
  | .bool, _ => true
  | .oid, _ => true
  | .ptr t, p => tyParamsOK env t p
  | .slice t, p => sliceOK p && tyParamsOK env t (stripSizeE p)
  | .struct id, p => structOK env id p

/-- every field of every struct type is declared with parameters the proof can handle -/
def specOK (env : Env) : Bool :=
  env.all (fun sd => sd.fields.all (fun fd => tyParamsOK env fd.ty fd.params))

/-! ## What the converse asks of the schema in addition (`specOKc`) -/

/-- * INTEGER bounds are ordered (with `ub < lb` and an extension marker the library refuses values below `lb`
      that X.691 would code as extension values);
    * at most 65536 root enumerations / CHOICE alternatives (the library's constrained form ends there). -/
def tyParamsOKc : Ty → Params → Bool
  | .int, p => (match p.valueLB, p.valueUB with | some l, some u => decide (l ≤ u) | _, _ => true)
  | .enum, p => (match p.valueUB with | some u => decide (u < 65536) | none => true)
  | .ptr t, p => tyParamsOKc t p
  | .slice t, p => tyParamsOKc t (stripSizeE p)
  | .struct _, p => p.openType || (match p.valueUB with | some u => decide (u < 65536) | none => true)
  | _, _ => true

/-- the component that governs an open type precedes it (`getReferenceFieldValue` only looks at earlier fields) -/
def refsPrecede (fields : List Field) : Bool :=
  fields.zipIdx.all (fun (fd, i) => !fd.params.openType || (fields.take i).any (fun g => g.name == fd.params.refField))

/-- an OPTIONAL component has a Go type that can be nil (the library asks `IsNil` of it, a trap on any other kind) -/
def optsNillable (fields : List Field) : Bool := fields.all (fun fd => !fd.params.optional || nillable fd.ty)

def specOKc (env : Env) : Bool :=
  env.all (fun sd => refsPrecede sd.fields && optsNillable sd.fields && sd.fields.all (fun fd => tyParamsOKc fd.ty fd.params))

/-! ## What must hold of the value (its Go representation is regular) -/

def isNilV : Val → Bool
  | .nil => true
  | _ => false

/-- `regular env fuel ty ot v` (`ot`: the type is used as an open type; kept for the shape of the recursion):
    * INTEGER values are int64;
    * a BIT STRING's `Bytes` holds exactly ⌈BitLength/8⌉ octets;
    * in a CHOICE value only the selected alternative is set.
    (No bound on lengths: strings and open types of 16K items or more are fragmented, X.691 11.9.3.8.) -/
def regular (env : Env) : Nat → Ty → Bool → Val → Bool
  | 0, _, _, _ => true
  | fuel + 1, ty, ot, v =>
    match ty, v with
    | .ptr t, .ptr v' => regular env fuel t ot v'
    | .int, .int n => decide (-(2 ^ 63) ≤ n) && decide (n < 2 ^ 63)
    | .bits, .bits bytes len => decide (bytes.length = (len + 7) / 8)
    | .slice t, .slice vs => vs.all (fun e => regular env fuel t ot e)
    | .struct id, .struct fs =>
      match env[id]? with
      | none => true
      | some sd =>
        if isChoice sd then
          match fs with
          | .int p :: alts =>
            (alts.zipIdx.all fun (a, i) => i + 1 = p.toNat || (match a with | .nil => true | _ => false)) &&
            (match sd.fields[p.toNat]?, fs[p.toNat]? with
             | some fd, some alt => regular env fuel fd.ty fd.params.openType alt
             | _, _ => true)
          | _ => true
        else
          (List.zip sd.fields fs).all (fun (fd, v) =>
            (fd.params.optional && isNilV v) || regular env fuel fd.ty fd.params.openType v)
    | _, _ => true

theorem tyParamsOK_refValue (env : Env) (x : Option Int) : ∀ (ty : Ty) (p : Params),
    tyParamsOK env ty { p with refValue := x } = tyParamsOK env ty p := by
  intro ty
  induction ty with
  | ptr t ih => intro p; simp only [tyParamsOK]; exact ih p
  | slice t ih =>
    intro p
    simp only [tyParamsOK]
    have := ih (stripSizeE p)
    simp only [stripSizeE] at this ⊢
    rw [this]
    rfl
  | _ => intro p; rfl

theorem tyParamsOKc_refValue (x : Option Int) : ∀ (ty : Ty) (p : Params),
    tyParamsOKc ty { p with refValue := x } = tyParamsOKc ty p := by
  intro ty
  induction ty with
  | ptr t ih => intro p; simp only [tyParamsOKc]; exact ih p
  | slice t ih =>
    intro p
    simp only [tyParamsOKc]
    have := ih (stripSizeE p)
    simp only [stripSizeE] at this ⊢
    rw [this]
  | _ => intro p; rfl

/-- the schema conditions on a type used with parameters `p`: `specOK`'s always, `specOKc`'s where the converse is wanted -/
def OKc (env : Env) (c : Prop) (ty : Ty) (p : Params) : Prop :=
  tyParamsOK env ty p = true ∧ (c → tyParamsOKc ty p = true)

theorem OKc.refValue {env : Env} {c : Prop} {ty : Ty} {p : Params} (x : Option Int) (h : OKc env c ty p) :
    OKc env c ty { p with refValue := x } :=
  ⟨by rw [tyParamsOK_refValue]; exact h.1, fun hc => by rw [tyParamsOKc_refValue]; exact h.2 hc⟩

theorem isChoice_eq (sd : StructDef) : Spec.X691.isChoice sd = Aper.isChoice sd := rfl

/-- the governing value of an open type: `getReferenceFieldValue` returns a value exactly when the specification
    reads one, and then that one -/
theorem refFieldValue_iff (env : Env) : ∀ (fuel : Nat) (ty : Ty) (v : Val) (x : Int),
    refFieldValue env fuel ty v = .ok x ↔ Spec.X691.governor env fuel ty v = some x := by
  intro fuel
  induction fuel with
  | zero => intro ty v x; simp [refFieldValue, Spec.X691.governor, hang]
  | succ fuel ih =>
    intro ty v x
    -- only a struct and an INTEGER have a governing value
    cases ty with
    | struct id => cases v with
      | struct fs =>
        simp only [refFieldValue, Spec.X691.governor]
        cases env[id]? with
        | none => simp [err]
        | some sd =>
          dsimp only
          cases hf : sd.fields with
          | nil => simp [Spec.X691.isChoice, hf, Aper.panic]
          | cons f0 frest =>
            have hch : Spec.X691.isChoice sd = (f0.name == "Present") := by
              unfold Spec.X691.isChoice; rw [hf]
            rw [hch]
            dsimp only
            by_cases hp : (f0.name == "Present") = true
            · simp only [hp, if_true]
              split
              · rename_i p tl
                by_cases hp0 : p ≤ 0
                · simp [hp0, err]
                · simp only [hp0, if_false]
                  by_cases hlen : p.toNat ≥ (f0 :: frest).length
                  · simp [List.getElem?_eq_none hlen, err]
                  · simp only [hlen, if_false]
                    cases (f0 :: frest)[p.toNat]? <;> cases (Val.int p :: tl)[p.toNat]? <;> simp [err, ih]
              · simp [err]
            · simp only [hp, if_false, Bool.false_eq_true]
              split
              · rename_i v0 tl
                simp [ih]
              · simp [err]
      | _ => exact ⟨nofun, nofun⟩
    | int => cases v with
      | int n => simp [refFieldValue, Spec.X691.governor]
      | _ => exact ⟨nofun, nofun⟩
    | _ => exact ⟨nofun, nofun⟩

theorem findIdx?_take_of_any {α : Type} (p : α → Bool) : ∀ (l : List α) (i : Nat),
    (l.take i).any p = true → (l.take i).findIdx? p = l.findIdx? p := by
  intro l
  induction l with
  | nil => intro i h; simp at h
  | cons a l ih =>
    intro i h
    cases i with
    | zero => simp at h
    | succ i =>
      rw [List.take_succ_cons] at h ⊢
      rw [List.findIdx?_cons, List.findIdx?_cons]
      by_cases hp : p a = true
      · simp [hp]
      · simp only [hp, if_false, Bool.false_eq_true]
        rw [List.any_cons] at h
        simp only [hp, Bool.false_or] at h
        rw [ih i h]

theorem findIdx?_take {α : Type} (p : α → Bool) (l : List α) (i k : Nat)
    (h : (l.take i).findIdx? p = some k) : l.findIdx? p = some k := by
  rw [← findIdx?_take_of_any p l i (by rw [← List.findIdx?_isSome, h]; rfl)]
  exact h

theorem notNil_eq (v : Val) : (!(isNil v)) = (match v with | .nil => false | _ => true) := by
  cases v <;> rfl

def presentB (v : Val) : Bool := match v with | .nil => false | _ => true

theorem notNil_of (v : Val) (hn : ¬ isNil v = true) : presentB v = true := by
  cases v <;> first | rfl | exact absurd rfl hn

theorem isNil_iff (v : Val) : isNil v = true ↔ v = .nil := by
  cases v <;> simp [isNil]

/-- 19.2/19.3: the OPTIONAL bitmap and the "mandatory components are present" check -/
theorem optBitmap_ref {c : Prop} : ∀ (fields : List Field) (fs : List Val), fs.length = fields.length →
    (c → optsNillable fields = true) →
    Ref c (optBitmap fields fs)
      (if (List.zip fields fs).all (fun (fd, v) => fd.params.optional || (match v with | .nil => false | _ => true)) = true then
        some ((List.zip fields fs).filterMap (fun (fd, v) =>
          if fd.params.optional then some (match v with | .nil => false | _ => true) else none))
       else none) := by
  intro fields
  induction fields with
  | nil =>
    intro fs hl _
    cases fs with
    | nil => exact Ref.ok []
    | cons v vs => simp at hl
  | cons fd frest ih =>
    intro fs hl hnil
    cases fs with
    | nil => simp at hl
    | cons v vs =>
      simp only [List.length_cons, Nat.add_right_cancel_iff] at hl
      have hnil' : c → nillable fd.ty = true ∨ fd.params.optional = false := fun hc => by
        have := hnil hc
        simp only [optsNillable, List.all_cons, Bool.and_eq_true, Bool.or_eq_true, Bool.not_eq_true'] at this
        exact this.1.symm
      have ih' := ih vs hl fun hc => by
        have := hnil hc
        simp only [optsNillable, List.all_cons, Bool.and_eq_true] at this
        exact this.2
      simp only [optBitmap, List.zip_cons_cons, List.all_cons, List.filterMap_cons, Bool.and_eq_true]
      by_cases ho : fd.params.optional = true
      · simp only [ho, if_true, Bool.true_or, true_and]
        by_cases hn : nillable fd.ty = true
        · simp only [hn, Bool.not_true, Bool.false_eq_true, if_false]
          rcases ih'.cases with ⟨b, hm, hs⟩ | ⟨e, hm, hs⟩
          · rw [hm]
            split at hs
            · cases hs; rename_i hall; rw [if_pos hall, notNil_eq]; exact Ref.ok _
            · cases hs
          · rw [hm]
            refine Ref.error e fun hc => ?_
            have := hs hc
            split at this
            · cases this
            · rename_i hall; rw [if_neg hall]
        · simp only [hn, Bool.not_false, if_true]
          exact Ref.error _ fun hc => (hnil' hc).elim (fun h => absurd h hn) fun h => absurd (ho ▸ h) nofun
      · simp only [ho, Bool.false_or, if_false, Bool.false_eq_true]
        by_cases hp : isNil v = true
        · rw [(isNil_iff v).mp hp]
          exact Ref.error _ fun _ => by simp
        · have : (match (generalizing := false) v with | .nil => false | _ => true) = true := notNil_of v hp
          rw [if_neg hp, this]
          simp only [true_and]
          exact ih'

/-- 20: the elements of a SEQUENCE OF -/
theorem encElems_ref {c : Prop} (f : Nat → Val → Res Bits) (enc : Nat → Val → Option Bits) :
    ∀ (vs : List Val) (pos : Nat), (∀ v ∈ vs, ∀ pos, Ref c (f pos v) (enc pos v)) →
      Ref c (encElems f pos vs) (Spec.X691.elements enc pos vs) := by
  intro vs
  induction vs with
  | nil => intro pos _; exact Ref.ok []
  | cons v vs ih =>
    intro pos H
    rw [encElems, Spec.X691.elements]
    refine (H v List.mem_cons_self pos).elim (fun a _ => ?_) (fun e s hs => Ref.error e fun hc => by rw [hs hc])
    dsimp only
    refine (ih (pos + a.length) fun v hv => H v (List.mem_cons_of_mem _ hv)).elim (fun b _ => Ref.ok _)
      (fun e s hs => Ref.error e fun hc => by rw [hs hc])

/-- the parameters the specification codes a SEQUENCE component with (text of `Spec.X691.components`) -/
def specParams (gov : Ty → Val → Option Int) (allFields : List Field) (allVals : List Val) (fd : Field) : Option Params :=
  if fd.params.openType then
    match allFields.findIdx? (fun g => g.name == fd.params.refField) with
    | none => none
    | some k =>
      match allFields[k]?, allVals[k]? with
      | some rf, some rv => (gov rf.ty rv).map fun x => { fd.params with refValue := some x }
      | _, _ => none
  else some fd.params

theorem resolveRef_params (rfv : Ty → Val → Res Int) (allFields : List Field) (allVals : List Val) (i : Nat)
    (fd : Field) (fp : Params) (h : resolveRef rfv allFields allVals i fd = .ok fp) :
    fp = fd.params ∨ ∃ x, fp = { fd.params with refValue := x } := by
  unfold resolveRef at h
  split at h
  · split at h
    · cases h
    · split at h
      · split at h
        · cases h
        · cases h; exact Or.inr ⟨_, rfl⟩
      · cases h
  · cases h; exact Or.inl rfl

theorem resolveRef_ref {c : Prop} (rfv : Ty → Val → Res Int) (gov : Ty → Val → Option Int)
    (hgov : ∀ ty v, Ref c (rfv ty v) (gov ty v))
    (allFields : List Field) (allVals : List Val) (i : Nat) (fd : Field)
    (hpre : c → fd.params.openType = true → (allFields.take i).any (fun g => g.name == fd.params.refField) = true) :
    Ref c (resolveRef rfv allFields allVals i fd) (specParams gov allFields allVals fd) := by
  unfold resolveRef specParams refIndex
  by_cases ho : fd.params.openType = true
  · simp only [ho, if_true]
    cases hk : (allFields.take i).findIdx? (fun f => f.name == fd.params.refField) with
    | none =>
      exact Ref.error _ fun hc => by rw [← findIdx?_take_of_any _ _ _ (hpre hc ho), hk]
    | some k =>
      rw [findIdx?_take _ _ _ _ hk]
      dsimp only
      cases allFields[k]? <;> cases allVals[k]? <;> try exact Ref.fail _
      rename_i rf rv
      dsimp only
      exact (hgov rf.ty rv).elim (fun x _ => Ref.ok _) fun e _ hs => Ref.error e fun hc => by rw [hs hc]; rfl
  · simp only [ho, Bool.false_eq_true, if_false]
    exact Ref.ok _

/-- the value-side condition on the components of a SEQUENCE value -/
def regularFields (env : Env) (fuel : Nat) (fields : List Field) (vals : List Val) : Bool :=
  (List.zip fields vals).all (fun (fd, v) =>
    (fd.params.optional && isNilV v) || regular env fuel fd.ty fd.params.openType v)

theorem regularFields_cons (env : Env) (fuel : Nat) (fd : Field) (frest : List Field) (v : Val) (vrest : List Val) :
    regularFields env fuel (fd :: frest) (v :: vrest) = true ↔
      ((fd.params.optional = true ∧ isNil v = true) ∨ regular env fuel fd.ty fd.params.openType v = true) ∧
        regularFields env fuel frest vrest = true := by
  have e : isNilV v = isNil v := by cases v <;> rfl
  simp only [regularFields, List.zip_cons_cons, List.all_cons, Bool.and_eq_true, Bool.or_eq_true, e]

/-- an absent OPTIONAL component contributes nothing -/
theorem components_skip (enc : Nat → Ty → Params → Val → Option Bits) (gov : Ty → Val → Option Int)
    (allF : List Field) (allV : List Val) (pos : Nat) (fd : Field) (frest : List Field) (v : Val) (vrest : List Val)
    (hs : fd.params.optional = true ∧ isNil v = true) :
    Spec.X691.components enc gov allF allV pos (fd :: frest) (v :: vrest) =
      Spec.X691.components enc gov allF allV pos frest vrest := by
  rw [(isNil_iff v).mp hs.2]
  simp only [Spec.X691.components, hs.1]

theorem components_cons (enc : Nat → Ty → Params → Val → Option Bits) (gov : Ty → Val → Option Int)
    (allF : List Field) (allV : List Val) (pos : Nat) (fd : Field) (frest : List Field) (v : Val) (vrest : List Val)
    (hns : ¬ (fd.params.optional = true ∧ isNil v = true)) :
    Spec.X691.components enc gov allF allV pos (fd :: frest) (v :: vrest) =
      match specParams gov allF allV fd with
      | none => none
      | some p =>
        match enc pos fd.ty p v with
        | none => none
        | some a =>
          match Spec.X691.components enc gov allF allV (pos + a.length) frest vrest with
          | none => none
          | some b => some (a ++ b) := by
  simp only [Spec.X691.components]
  split
  · rename_i hopt
    exact absurd ⟨hopt, rfl⟩ hns
  · rfl

theorem refsPrecede_get (fields : List Field) (h : refsPrecede fields = true) (j : Nat) (fd : Field)
    (hj : fields[j]? = some fd) (ho : fd.params.openType = true) :
    (fields.take j).any (fun g => g.name == fd.params.refField) = true := by
  unfold refsPrecede at h
  rw [List.all_eq_true] at h
  have hm : (fd, j) ∈ fields.zipIdx := by
    rw [List.mk_mem_zipIdx_iff_getElem?]; exact hj
  have := h (fd, j) hm
  simpa [ho] using this

/-- 19.5: the components of a SEQUENCE in order -/
theorem encSeqFields_ref {c : Prop} (env : Env) (fuel : Nat)
    (f : Nat → Ty → Params → Val → Res Bits) (enc : Nat → Ty → Params → Val → Option Bits)
    (rfv : Ty → Val → Res Int) (gov : Ty → Val → Option Int)
    (hgov : ∀ ty v, Ref c (rfv ty v) (gov ty v))
    (H : ∀ pos ty p v, OKc env c ty p → regular env fuel ty p.openType v = true → Ref c (f pos ty p v) (enc pos ty p v))
    (allFields : List Field) (allVals : List Val) :
    ∀ (fields : List Field) (vals : List Val) (i pos : Nat),
      vals.length = fields.length →
      (∀ fd ∈ fields, OKc env c fd.ty fd.params) →
      regularFields env fuel fields vals = true →
      (c → ∀ j fd, fields[j]? = some fd → fd.params.openType = true →
        (allFields.take (i + j)).any (fun g => g.name == fd.params.refField) = true) →
      Ref c (encSeqFields f rfv allFields allVals i pos fields vals)
        (Spec.X691.components enc gov allFields allVals pos fields vals) := by
  intro fields
  induction fields with
  | nil =>
    intro vals i pos hl _ _ _
    cases vals with
    | nil => exact Ref.ok []
    | cons v vs => simp at hl
  | cons fd frest ih =>
    intro vals i pos hl hok hreg hpre
    cases vals with
    | nil => simp at hl
    | cons v vrest =>
      simp only [List.length_cons, Nat.add_right_cancel_iff] at hl
      obtain ⟨hreg1, hreg2⟩ := (regularFields_cons env fuel fd frest v vrest).mp hreg
      have ih' := fun pos' => ih vrest (i + 1) pos' hl (fun fd' hfd => hok fd' (List.mem_cons_of_mem _ hfd)) hreg2
        fun hc j fd' hj ho => by
          have := hpre hc (j + 1) fd' (by simpa using hj) ho
          rwa [show i + (j + 1) = i + 1 + j by omega] at this
      simp only [encSeqFields]
      by_cases hskip : fd.params.optional = true ∧ isNil v = true
      · simp only [hskip, and_self, if_true]
        rw [components_skip _ _ _ _ _ _ _ _ _ hskip]
        exact ih' pos
      · simp only [hskip, if_false]
        rw [components_cons _ _ _ _ _ _ _ _ _ hskip]
        refine (resolveRef_ref rfv gov hgov allFields allVals i fd fun hc ho => by
          simpa using hpre hc 0 fd (by simp) ho).elim (fun fp hfp => ?_) fun e _ hs => Ref.error e fun hc => by rw [hs hc]
        dsimp only
        have hfpok : OKc env c fd.ty fp ∧ fp.openType = fd.params.openType := by
          rcases resolveRef_params _ _ _ _ _ _ hfp with rfl | ⟨x, rfl⟩
          · exact ⟨hok fd List.mem_cons_self, rfl⟩
          · exact ⟨(hok fd List.mem_cons_self).refValue x, rfl⟩
        refine (H pos fd.ty fp v hfpok.1 (by rw [hfpok.2]; exact hreg1.resolve_left hskip)).elim (fun a _ => ?_)
          fun e _ hs => Ref.error e fun hc => by rw [hs hc]
        dsimp only
        exact (ih' (pos + a.length)).elim (fun b _ => Ref.ok _) fun e _ hs => Ref.error e fun hc => by rw [hs hc]


/-- extension bit and count of a SEQUENCE OF as the model writes them (the first two steps of `encSlice`) -/
def sliceHdr (params : Params) (pos n : Nat) : Res (Bits × Bits) :=
  match sliceHeader params n with
  | .error e => .error e
  | .ok (pre, lb, ub, sizeRange) => (sliceCountBits (pos + pre.length) n lb ub sizeRange).map (pre, ·)

/-- 20.5/20.6: extension bit and count of a SEQUENCE OF (the first two steps of `Spec.X691.encode`) -/
def sliceHdrSpec (params : Params) (pos n : Nat) : Option (Bits × Bits) :=
  match sizeConstraint n params.sizeExt params.sizeLB params.sizeUB with
  | none => none
  | some (pre, lb, ub) =>
    (if ub = some lb ∧ lb < 65536 then some [] else lengthDeterminant (pos + pre.length) n lb ub).map (pre, ·)

theorem sliceHdr_iff (params : Params) (pos n : Nat) (x : Bits × Bits) (hok : sliceOK params = true) :
    sliceHdr params pos n = .ok x ↔ sliceHdrSpec params pos n = some x := by
  unfold sliceHdr sliceHdrSpec sliceHeader sliceCountBits sizeConstraint
  unfold sliceOK at hok
  have h0 : ¬ (n : Int) < 0 := by omega
  have m1 : ¬ (-1 : Int) = 1 := by decide
  have m2 : ¬ (-1 : Int) > 0 := by decide
  have hnone : ∀ lb : Nat, ¬ ((none : Option Nat) = some lb ∧ lb < 65536) := by simp
  cases hlb : params.sizeLB with
  | none =>
    rw [hlb] at hok
    cases hub : params.sizeUB with
    | some u => rw [hub] at hok; simp at hok
    | none =>
      simp only [h0, m1, m2, hnone, if_false]
      exact map_ok_iff_map_some _ x fun c => generalLength_iff _ n 0 none c (by simp)
  | some l =>
    rw [hlb] at hok
    cases hub : params.sizeUB with
    | none =>
      rw [hub] at hok
      simp only [Bool.and_eq_true, decide_eq_true_eq] at hok
      obtain ⟨hl0, hl64⟩ := hok
      simp only [hl64, if_true]
      by_cases hnl : (n : Int) < l
      · simp [hnl, show ¬ l < 0 by omega, err, Except.map]
      · simp only [hnl, m1, m2, hnone, show ¬ l < 0 by omega, or_self, if_false]
        exact map_ok_iff_map_some _ x fun c => generalLength_iff _ n _ none c (by simp)
    | some u =>
      rw [hub] at hok
      simp only [Bool.and_eq_true, Bool.or_eq_true, decide_eq_true_eq, Bool.not_eq_true'] at hok
      obtain ⟨⟨⟨hl0, hlu⟩, hl64⟩, hu64⟩ := hok
      simp only [hl64, if_true, show ¬ (l < 0 ∨ u < l) by omega, if_false]
      by_cases hu : u < 65536
      · simp only [hu, if_true]
        by_cases hnu : (n : Int) > u
        · -- above the root: only with an extension marker, and then a general length
          have c1 : ¬ ((n : Int) ≥ l ∧ (n : Int) ≤ u) := by omega
          have c2 : ¬ (n : Int) < l := by omega
          cases params.sizeExt with
          | false => simp [hnu, c1, err]
          | true =>
            simp only [hnu, c1, c2, m1, m2, hnone, and_self, if_true, if_false]
            exact map_ok_iff_map_some _ x fun c => generalLength_iff _ n 0 none c (by simp)
        · have hpre : (if params.sizeExt = true then
                (if (n : Int) > u then .ok ([true], l, u, -1) else .ok ([false], l, u, u - l + 1))
              else if (n : Int) > u then err else .ok ([], l, u, u - l + 1) : Res (Bits × Int × Int × Int)) =
              .ok (if params.sizeExt = true then [false] else [], l, u, u - l + 1) := by
            cases params.sizeExt <;> simp [hnu]
          rw [hpre]
          by_cases hnl : (n : Int) < l
          · have c1 : ¬ ((n : Int) ≥ l ∧ (n : Int) ≤ u) := by omega
            simp [hnl, c1, hnu, err, Except.map]
          · have c1 : (n : Int) ≥ l ∧ (n : Int) ≤ u := by omega
            rw [if_pos c1]
            dsimp only
            rw [if_neg hnl]
            by_cases hfix : u = l
            · -- fixed number: no count
              subst hfix
              have : (n : Int) = u := by omega
              simp [this, hu, Except.map]
            · -- a constrained whole number
              have hsr : ¬ u - l + 1 = 1 := by omega
              have hnf : ¬ (some u.toNat = some l.toNat ∧ l.toNat < 65536) := by
                rw [Option.some.injEq]; omega
              have hpos : u - l + 1 > 0 := by omega
              simp only [hsr, hpos, hnf, if_true, if_false]
              rw [lengthDeterminant_con _ _ _ _ (by omega) (by omega) (by omega)]
              obtain ⟨c', h1, h2⟩ := constrained_eq (pos + (if params.sizeExt = true then [false] else [] : Bits).length)
                (u - l + 1) ((n : Int) - l).toNat (by omega) (by omega) (by omega)
              have e1 : ((n : Int) - l).toNat = n - l.toNat := by omega
              have e2 : (u - l + 1).toNat = u.toNat - l.toNat + 1 := by omega
              rw [e1, e2] at h2
              rw [h1, h2]
              simp [Except.map]
      · -- an upper bound of 64K or more is no bound to the library; it is not extensible
        have hne : params.sizeExt = false := by
          rcases hu64 with h | h
          · omega
          · exact h
        simp only [hu, hne, if_false, Bool.false_eq_true, false_and]
        by_cases hin : (n : Int) ≥ l ∧ (n : Int) ≤ u
        · have hnf : ¬ (some u.toNat = some l.toNat ∧ l.toNat < 65536) := by
            rw [Option.some.injEq]; omega
          simp only [hin, and_self, if_true, show ¬ (n : Int) < l by omega, m1, m2, hnf, if_false]
          exact map_ok_iff_map_some _ x fun c => generalLength_iff _ n _ _ c
            (by intro u' hu'; simp only [Option.some.injEq] at hu'; omega)
        · rw [if_neg hin]
          by_cases hnl : (n : Int) < l
          · simp [hnl, err, Except.map]
          · simp [hnl, show n ≥ 16384 by omega, err, Except.map]

theorem encSlice_eq (f : Nat → Val → Res Bits) (params : Params) (pos : Nat) (vs : List Val) :
    encSlice f params pos vs =
      match sliceHdr params pos vs.length with
      | .error e => .error e
      | .ok (pre, cb) =>
        match encElems f (pos + pre.length + cb.length) vs with
        | .error e => .error e
        | .ok eb => .ok (pre ++ cb ++ eb) := by
  unfold encSlice sliceHdr
  cases sliceHeader params vs.length with
  | error e => rfl
  | ok t =>
    obtain ⟨pre, lb, ub, sr⟩ := t
    dsimp only
    cases sliceCountBits (pos + pre.length) vs.length lb ub sr <;> rfl

/-- an encoding padded to the octet boundary (the content of an open type, 11.2) is whole octets -/
theorem padded_length (inner : Bits) : (inner ++ alignBits inner.length).length = 8 * ((inner.length + 7) / 8) := by
  rw [List.length_append, alignBits_length]; omega

/-- 11.2 open type: the content padded to whole octets behind a general length; never refused -/
theorem encOpenType_eq (pos1 : Nat) (inner : Bits) :
    encOpenType pos1 inner = .ok (lengthAndItems 8 ((inner ++ pad inner.length).length / 8 / 16384 + 1) pos1
          ((inner ++ pad inner.length).length / 8) (inner ++ pad inner.length)) := by
  have hpl := padded_length inner
  have e : (inner ++ pad inner.length).length / 8 = (inner.length + 7) / 8 := by rw [pad_eq, hpl]; omega
  rw [e, pad_eq]
  exact fragLoop_unc 8 (by decide) _ pos1 _ _ (by rw [hpl]; omega) (Nat.le_refl _)

/-- text of the SEQUENCE branch of `Spec.X691.encode` -/
def specSeq (enc : Nat → Ty → Params → Val → Option Bits) (gov : Ty → Val → Option Int) (sd : StructDef)
    (pre : Bits) (pos1 : Nat) (fs : List Val) : Option Bits :=
  if fs.length ≠ sd.fields.length then none
  else if ¬ (List.zip sd.fields fs).all (fun (fd, v) => fd.params.optional || (match v with | .nil => false | _ => true)) then none
  else
    let bitmap : Bits := (List.zip sd.fields fs).filterMap fun (fd, v) =>
      if fd.params.optional then some (match v with | .nil => false | _ => true) else none
    match Spec.X691.components enc gov sd.fields fs (pos1 + bitmap.length) sd.fields fs with
    | none => none
    | some body => some (pre ++ bitmap ++ body)

/-- text of the CHOICE / open type branch of `Spec.X691.encode` -/
def specChoice (enc : Nat → Ty → Params → Val → Option Bits) (sd : StructDef) (params : Params)
    (pre : Bits) (pos1 : Nat) (fs : List Val) : Option Bits :=
  match fs with
  | .int p :: alts =>
    let nAlt := sd.fields.length - 1
    if p < 1 ∨ p.toNat > nAlt then none
    else if ¬ (alts.zipIdx.all fun (a, i) => i + 1 = p.toNat || (match a with | .nil => true | _ => false)) then none
    else
      match sd.fields[p.toNat]?, fs[p.toNat]? with
      | some f, some alt =>
        if params.openType then
          if f.params.refValue.isNone ∨ f.params.refValue ≠ params.refValue then none
          else
            match enc 0 f.ty f.params alt with
            | none => none
            | some inner =>
              let octets := if inner.isEmpty then List.replicate 8 false else inner ++ pad inner.length
              some (pre ++ lengthAndItems 8 (octets.length / 8 / 16384 + 1) pos1 (octets.length / 8) octets)
        else
          match params.valueUB with
          | some ub =>
            if ub + 1 ≠ (nAlt : Int) then none else
            match constrainedWholeNumber pos1 (p.toNat - 1) nAlt with
            | none => none
            | some ib =>
              match enc (pos1 + ib.length) f.ty f.params alt with
              | none => none
              | some ab => some (pre ++ ib ++ ab)
          | none => none
      | _, _ => none
  | _ => none

theorem encode_struct (env : Env) (fuel pos id : Nat) (params : Params) (fs : List Val) (sd : StructDef)
    (hsd : env[id]? = some sd) :
    Spec.X691.encode env (fuel + 1) pos (.struct id) params (.struct fs) =
      if Aper.isChoice sd then
        specChoice (Spec.X691.encode env fuel) sd params (if params.valueExt then [false] else [])
          (pos + (if params.valueExt then [false] else [] : Bits).length) fs
      else
        specSeq (Spec.X691.encode env fuel) (Spec.X691.governor env fuel) sd (if params.valueExt then [false] else [])
          (pos + (if params.valueExt then [false] else [] : Bits).length) fs := by
  simp only [Spec.X691.encode, hsd]
  rfl

theorem encode_slice (env : Env) (fuel pos : Nat) (t : Ty) (params : Params) (vs : List Val) :
    Spec.X691.encode env (fuel + 1) pos (.slice t) params (.slice vs) =
      match sliceHdrSpec params pos vs.length with
      | none => none
      | some (pre, c) =>
        match Spec.X691.elements (fun p e => Spec.X691.encode env fuel p t (stripSizeE params) e) (pos + pre.length + c.length) vs with
        | none => none
        | some es => some (pre ++ c ++ es) := by
  simp only [Spec.X691.encode]
  unfold sliceHdrSpec
  cases sizeConstraint vs.length params.sizeExt params.sizeLB params.sizeUB with
  | none => rfl
  | some x =>
    obtain ⟨pre, lb, ub⟩ := x
    dsimp only
    cases (if ub = some lb ∧ lb < 65536 then some [] else lengthDeterminant (pos + pre.length) vs.length lb ub : Option Bits) <;> rfl

theorem encSeq_ok {f : Nat → Ty → Params → Val → Res Bits} {rfv : Ty → Val → Res Int} {sd : StructDef} {pos1 : Nat}
    {fs : List Val} {b : Bits} (h : encSeq f rfv sd pos1 fs = .ok b) :
    fs.length = sd.fields.length ∧ ∃ bm body, optBitmap sd.fields fs = .ok bm ∧
      encSeqFields f rfv sd.fields fs 0 (pos1 + bm.length) sd.fields fs = .ok body ∧ b = bm ++ body := by
  unfold encSeq at h
  split at h
  · simp [err] at h
  · rename_i hlen
    refine ⟨by omega, ?_⟩
    split at h
    · cases h
    · rename_i bm hbm
      split at h
      · cases h
      · rename_i body hbody; cases h; exact ⟨bm, body, hbm, hbody, rfl⟩

/-- 19 SEQUENCE body -/
theorem encSeq_ref {c : Prop} (env : Env) (fuel : Nat)
    (f : Nat → Ty → Params → Val → Res Bits) (enc : Nat → Ty → Params → Val → Option Bits)
    (rfv : Ty → Val → Res Int) (gov : Ty → Val → Option Int)
    (hgov : ∀ ty v, Ref c (rfv ty v) (gov ty v))
    (H : ∀ pos ty p v, OKc env c ty p → regular env fuel ty p.openType v = true → Ref c (f pos ty p v) (enc pos ty p v))
    (sd : StructDef) (pre : Bits) (pos1 : Nat) (fs : List Val)
    (hok : ∀ fd ∈ sd.fields, OKc env c fd.ty fd.params)
    (hc : c → refsPrecede sd.fields = true ∧ optsNillable sd.fields = true)
    (hreg : regularFields env fuel sd.fields fs = true) :
    Ref c ((encSeq f rfv sd pos1 fs).map (pre ++ ·)) (specSeq enc gov sd pre pos1 fs) := by
  unfold encSeq specSeq
  by_cases hl : fs.length = sd.fields.length
  · rw [if_neg (by omega), if_neg (by omega)]
    dsimp only
    -- `A`: the mandatory components are present; `L`: the preamble, one bit per OPTIONAL component (19.2/19.3)
    generalize hA : List.all (sd.fields.zip fs) _ = A
    generalize hL : List.filterMap _ (sd.fields.zip fs) = L
    have hbm : Ref c (optBitmap sd.fields fs) (if A = true then some L else none) := by
      subst hA hL; exact optBitmap_ref sd.fields fs hl fun h => (hc h).2
    cases A with
    | true =>
      rw [if_neg (by simp)]
      rw [if_pos rfl] at hbm
      rcases hbm.cases with ⟨bm, hm, hs⟩ | ⟨e, hm, hs⟩
      · cases hs
        rw [hm]
        dsimp only
        refine (encSeqFields_ref env fuel f enc rfv gov hgov H sd.fields fs sd.fields fs 0 _ hl hok hreg
          fun h j fd hj ho => by simpa using refsPrecede_get sd.fields (hc h).1 j fd hj ho).elim
          (fun body _ => ?_) fun e _ hs => Ref.error e fun h => by rw [hs h]
        dsimp only [Except.map]
        rw [List.append_assoc]; exact Ref.ok _
      · rw [hm]; exact Ref.error e fun h => by cases hs h
    | false =>
      rw [if_pos (by simp)]
      rw [if_neg (by simp)] at hbm
      cases hm : optBitmap sd.fields fs with
      | error e => exact Ref.fail e
      | ok bm => cases hbm.fwd hm
  · rw [if_pos hl, if_pos hl]; exact Ref.fail _

/-- the value-side condition on a CHOICE value (text of the CHOICE branch of `regular`) -/
def regChoice (env : Env) (fuel : Nat) (sd : StructDef) (fs : List Val) : Bool :=
  match fs with
  | .int p :: alts =>
    (alts.zipIdx.all fun (a, i) => i + 1 = p.toNat || (match a with | .nil => true | _ => false)) &&
    (match sd.fields[p.toNat]?, fs[p.toNat]? with
     | some fd, some alt => regular env fuel fd.ty fd.params.openType alt
     | _, _ => true)
  | _ => true

theorem regular_struct (env : Env) (fuel id : Nat) (ot : Bool) (fs : List Val) (sd : StructDef)
    (hsd : env[id]? = some sd) :
    regular env (fuel + 1) (.struct id) ot (.struct fs) =
      if isChoice sd then regChoice env fuel sd fs else regularFields env fuel sd.fields fs := by
  simp only [regular, hsd]
  rfl

/-- the schema-side condition on a CHOICE type used with parameters `params` (text of `structOK`) -/
def choiceOK (env : Env) (sd : StructDef) (p : Params) : Bool :=
  if p.openType then sd.fields.tail.all (fun fd => nonEmptyEnc env 6 fd.ty fd.params)
  else
    match p.valueUB with
    | none => true
    | some ub => ub + 1 == ((sd.fields.length - 1 : Nat) : Int) && decide (3 ≤ sd.fields.length)

/-- what completeness asks of a CHOICE type used with `params` -/
def choiceOKc (p : Params) : Bool :=
  p.openType || (match p.valueUB with | some u => decide (u < 65536) | none => true)

theorem structOK_eq (env : Env) (id : Nat) (p : Params) (sd : StructDef) (hsd : env[id]? = some sd) :
    structOK env id p = if isChoice sd then choiceOK env sd p else true := by
  unfold structOK
  split
  · rename_i hc
    simp only [Bool.and_eq_true, Bool.not_eq_true', Option.isNone_iff_eq_none] at hc
    simp [choiceOK, hc.1, hc.2]
  · simp only [hsd]
    rfl

theorem getElem?_tail_mem {α : Type} (l : List α) (k : Nat) (a : α) (hk : 1 ≤ k) (h : l[k]? = some a) : a ∈ l.tail := by
  cases l with
  | nil => simp at h
  | cons x xs =>
    obtain ⟨k', rfl⟩ : ∃ k', k = k' + 1 := ⟨k - 1, by omega⟩
    simp at h
    exact List.mem_of_getElem? h

/-- facts the encoder's success gives about a CHOICE value -/
theorem encChoice_inv (f : Nat → Ty → Params → Val → Res Bits) (sd : StructDef) (params : Params)
    (pos1 : Nat) (fs : List Val) (b : Bits) (h : encChoice f sd params pos1 fs = .ok b) :
    ∃ (p : Int) (rest : List Val) (fd : Field) (alt : Val), fs = .int p :: rest ∧ 0 < p ∧ p.toNat < sd.fields.length ∧
      sd.fields[p.toNat]? = some fd ∧ fs[p.toNat]? = some alt ∧
      ((params.openType = true ∧ ∃ rv inner, params.refValue = some rv ∧ fd.params.refValue = some rv ∧
          f 0 fd.ty fd.params alt = .ok inner ∧ encOpenType pos1 inner = .ok b) ∨
       (params.openType = false ∧ ∃ ib ab, appendChoiceIndex pos1 p.toNat params.valueExt params.valueUB = .ok ib ∧
          f (pos1 + ib.length) fd.ty fd.params alt = .ok ab ∧ b = ib ++ ab)) := by
  unfold encChoice at h
  split at h
  · rename_i p rest
    split at h
    · simp [err] at h
    · rename_i hp0
      split at h
      · simp [err] at h
      · rename_i hplen
        split at h
        · rename_i fd alt hfd halt
          refine ⟨p, rest, fd, alt, rfl, by omega, by omega, hfd, halt, ?_⟩
          split at h
          · rename_i hot
            left
            refine ⟨hot, ?_⟩
            split at h
            · simp [err] at h
            · rename_i rv hrv
              split at h
              · simp [err] at h
              · rename_i hfrv
                split at h
                · simp at h
                · rename_i inner hinner
                  refine ⟨rv, inner, hrv, ?_, hinner, h⟩
                  simpa using hfrv
          · rename_i hot
            right
            refine ⟨by simpa using hot, ?_⟩
            split at h
            · simp at h
            · rename_i ib hib
              split at h
              · simp at h
              · rename_i ab hab
                simp only [Except.ok.injEq] at h
                exact ⟨ib, ab, hib, hab, h.symm⟩
        · simp [err] at h
  · simp [err] at h

/-! ### an open type never has an empty content (soundness of `nonEmptyEnc`) -/

theorem intTail_nonempty (pos : Nat) (v : Int) (pre : Bits) (lb range : Int) (b : Bits)
    (hc : pre ≠ [] ∨ range ≠ 1) (h : intTail pos v pre lb range = .ok b) : b ≠ [] := by
  unfold intTail at h
  dsimp only at h
  split at h
  · rename_i hr
    simp only [Except.ok.injEq] at h
    rcases hc with hc | hc
    · rw [← h]; exact hc
    · exact absurd hr hc
  · split at h
    · split at h
      · simp at h
      · simp only [Except.ok.injEq] at h
        apply List.ne_nil_of_length_pos
        rw [← h]
        simp only [List.length_append, natToBits_length]
        omega
    · split at h
      · split at h
        · simp at h
        · rename_i c hcv
          simp only [Except.ok.injEq] at h
          have := constraintValue_nonempty _ _ _ c hcv
          rw [← h]
          simp [this]
      · split at h
        · simp at h
        · rename_i lenBits hl
          split at h
          · simp at h
          · simp only [Except.ok.injEq] at h
            have hlen := putBitsValue_length _ _ _ hl
            have := (bitsForRange_pos (rangeByteLen range)).1
            apply List.ne_nil_of_length_pos
            rw [← h]
            simp only [List.length_append]
            omega

theorem appendInteger_nonempty (pos : Nat) (v : Int) (ext : Bool) (lbP ubP : Option Int) (b : Bits)
    (hc : ext = true ∨ (match lbP, ubP with | some l, some u => decide (l < u) | _, _ => true) = true)
    (h : appendInteger pos v ext lbP ubP = .ok b) : b ≠ [] := by
  rw [appendInteger_eq] at h
  cases lbP with
  | none =>
    dsimp only at h
    exact intTail_nonempty _ _ _ _ _ _ (Or.inr (by decide)) h
  | some l =>
    dsimp only at h
    by_cases hvl : v < l
    · simp [hvl, err] at h
    · simp only [hvl, if_false] at h
      cases ubP with
      | none =>
        exact intTail_nonempty _ _ _ _ _ _ (Or.inr (by decide)) h
      | some u =>
        dsimp only at h
        by_cases hvu : v ≤ u
        · simp only [hvu, if_true] at h
          refine intTail_nonempty _ _ _ _ _ _ ?_ h
          rcases hc with hc | hc
          · left; rw [hc]; simp
          · right; simp only [decide_eq_true_eq] at hc; omega
        · simp only [hvu, if_false] at h
          cases ext with
          | false => simp [err] at h
          | true =>
            simp only [Bool.not_true, Bool.false_eq_true, if_false] at h
            exact intTail_nonempty _ _ _ _ _ _ (Or.inl (by simp)) h

theorem appendEnumerated_nonempty (pos n : Nat) (ext : Bool) (lbP ubP : Option Int) (b : Bits)
    (hc : ext = true ∨ (match lbP, ubP with | some l, some u => decide (l < u) | _, _ => true) = true)
    (h : appendEnumerated pos n ext lbP ubP = .ok b) : b ≠ [] := by
  unfold appendEnumerated at h
  cases lbP with
  | none => simp [err] at h
  | some l =>
    cases ubP with
    | none => simp [err] at h
    | some u =>
      dsimp only at h
      split at h
      · simp [err] at h
      · split at h
        · simp [err] at h
        · split at h
          · split at h
            · simp at h
            · rename_i c hcv
              simp only [Except.ok.injEq] at h
              have := constraintValue_nonempty _ _ _ c hcv
              rw [← h]; simp [this]
          · rename_i hr
            simp only [Except.ok.injEq] at h
            rcases hc with hc | hc
            · rw [← h, hc]; simp
            · simp only [decide_eq_true_eq] at hc; omega

theorem appendLength_nonempty (pos : Nat) (sr : Int) (n : Nat) (b : Bits) (h : appendLength pos sr n = .ok b) : b ≠ [] := by
  unfold appendLength at h
  split at h
  · exact constraintValue_nonempty _ _ _ _ h
  · split at h
    · exact aligned_put_nonempty _ _ 8 b (by decide) h
    · split at h
      · exact aligned_put_nonempty _ _ 16 b (by decide) h
      · exact aligned_put_nonempty _ _ 8 b (by decide) h

theorem fragLoop_nonempty (unit : Nat) (sr : Int) (lb fuel pos raw : Nat) (payload b : Bits)
    (h : fragLoop unit sr lb (fuel + 1) pos raw payload = .ok b) : b ≠ [] := by
  unfold fragLoop at h
  dsimp only at h
  generalize (if raw ≥ 65536 then 65536 else if raw ≥ 16384 then raw &&& 0xc000 else raw) = part at h
  cases hl : appendLength pos sr part with
  | error e => rw [hl] at h; simp at h
  | ok lenBits =>
    rw [hl] at h
    dsimp only at h
    have hne := appendLength_nonempty _ _ _ _ hl
    split at h
    · simp only [Except.ok.injEq] at h; rw [← h]; exact hne
    · split at h
      · split at h
        · simp at h
        · simp only [Except.ok.injEq] at h; rw [← h]; simp [hne]
      · simp only [Except.ok.injEq] at h; rw [← h]; simp [hne]

/-- a CHOICE index or an open type's length determinant is always written -/
theorem encChoice_nonempty (f : Nat → Ty → Params → Val → Res Bits) (sd : StructDef) (params : Params)
    (pos1 : Nat) (fs : List Val) (b : Bits) (h : encChoice f sd params pos1 fs = .ok b) : b ≠ [] := by
  obtain ⟨p, _, _, _, _, _, _, _, _, hcase⟩ := encChoice_inv f sd params pos1 fs b h
  rcases hcase with ⟨_, _, inner, _, _, _, hopen⟩ | ⟨_, ib, ab, hib, _, rfl⟩
  · exact fragLoop_nonempty _ _ _ _ _ _ _ _ hopen
  · unfold appendChoiceIndex at hib
    split at hib
    · simp [err] at hib
    · split at hib
      · simp [err] at hib
      · split at hib
        · simp [err] at hib
        · simp [constraintValue_nonempty _ _ _ _ hib]

theorem sizePreamble_sr1 (len : Nat) (ext : Bool) (lbP ubP : Option Int) (pre : Bits) (lb ub sr : Int)
    (h : sizePreamble len ext lbP ubP = .ok (pre, lb, ub, sr)) (hsr : sr = 1) : ∃ l, lbP = some l ∧ ubP = some ub := by
  unfold sizePreamble at h
  cases lbP with
  | none => simp only [Except.ok.injEq, Prod.mk.injEq] at h; omega
  | some l =>
    cases ubP with
    | none => simp only [Except.ok.injEq, Prod.mk.injEq] at h; omega
    | some u =>
      dsimp only at h
      split at h
      · split at h
        · simp [err] at h
        · simp only [Except.ok.injEq, Prod.mk.injEq] at h
          exact ⟨l, rfl, by rw [h.2.2.1]⟩
      · split at h
        · simp [err] at h
        · simp only [Except.ok.injEq, Prod.mk.injEq] at h; omega

theorem strEnc_nonempty (unit pos len octs : Nat) (content : Bits) (ext : Bool) (lbP ubP : Option Int) (b : Bits)
    (hunit : 0 < unit) (hlen : content.length = len * unit)
    (hc : (match lbP, ubP with | some _, some u => decide (0 < u) | _, _ => true) = true)
    (h : strEnc unit pos len octs content ext lbP ubP = .ok b) : b ≠ [] := by
  unfold strEnc at h
  cases hsp : sizePreamble len ext lbP ubP with
  | error e => rw [hsp] at h; simp at h
  | ok t =>
    obtain ⟨pre, lb, ub, sr⟩ := t
    rw [hsp] at h
    dsimp only at h
    by_cases hsr : sr = 1
    · -- a fixed size is positive, so there is content
      obtain ⟨l, rfl, rfl⟩ := sizePreamble_sr1 _ _ _ _ _ _ _ _ hsp hsr
      simp only [decide_eq_true_eq] at hc
      simp only [hsr, if_true] at h
      split at h
      · simp [err] at h
      · have hpos : 0 < content.length := by rw [hlen]; exact Nat.mul_pos (by omega) hunit
        apply List.ne_nil_of_length_pos
        split at h
        · simp only [Except.ok.injEq] at h
          rw [← h]; simp only [List.length_append]; omega
        · split at h
          · simp [Aper.panic] at h
          · simp only [Except.ok.injEq] at h
            rw [← h]; simp only [List.length_append]; omega
    · -- otherwise there is a length determinant
      simp only [hsr, if_false] at h
      split at h
      · split at h <;> simp [err, Aper.panic] at h
      · cases hf : fragLoop unit sr lb.toNat (len / 16384 + 1 + 1) (pos + pre.length) (len - lb.toNat) content with
        | error e => rw [hf] at h; simp at h
        | ok b' =>
          rw [hf] at h
          simp only [Except.ok.injEq] at h
          have := fragLoop_nonempty _ _ _ _ _ _ _ _ hf
          rw [← h]; simp [this]

/-- unless the number of elements is fixed, a count is written -/
theorem sliceCountBits_nonempty (pos1 n : Nat) (lb ub sr : Int) (cb : Bits) (hsr : sr ≠ 1)
    (h : sliceCountBits pos1 n lb ub sr = .ok cb) : cb ≠ [] := by
  unfold sliceCountBits at h
  split at h
  · simp [err] at h
  · split at h
    · exact constraintValue_nonempty _ _ _ _ h
    · split at h
      · simp [err] at h
      · exact appendLength_nonempty _ _ _ _ h

/-- with `SIZE(l..u)`, `l < u`, there is an extension bit or the number of elements is not fixed -/
theorem sliceHeader_open (params : Params) (n : Nat) (pre : Bits) (lb ub sr l u : Int)
    (hl : params.sizeLB = some l) (hu : params.sizeUB = some u) (hlu : l < u) (hl64 : l < 65536)
    (h : sliceHeader params n = .ok (pre, lb, ub, sr)) : pre ≠ [] ∨ sr ≠ 1 := by
  unfold sliceHeader at h
  rw [hl, hu] at h
  simp only [hl64, if_true] at h
  split at h
  · split at h
    · split at h <;> (cases h; exact Or.inl (by simp))
    · split at h
      · simp [err] at h
      · cases h; exact Or.inr (by omega)
  · cases h; exact Or.inr (by decide)

theorem encSlice_nonempty (f : Nat → Val → Res Bits) (params : Params) (pos : Nat) (vs : List Val) (b : Bits)
    (hc : (match params.sizeLB, params.sizeUB with | some l, some u => decide (l < u) && decide (l < 65536) | _, _ => false) = true)
    (h : encSlice f params pos vs = .ok b) : b ≠ [] := by
  unfold encSlice at h
  split at h
  · cases h
  · rename_i pre lb ub sr hh
    dsimp only at h
    split at h
    · cases h
    · rename_i cb hcb
      split at h
      · cases h
      · cases h
        cases hl : params.sizeLB with
        | none => rw [hl] at hc; simp at hc
        | some l =>
          cases hu : params.sizeUB with
          | none => rw [hl, hu] at hc; simp at hc
          | some u =>
            rw [hl, hu] at hc
            simp only [Bool.and_eq_true, decide_eq_true_eq] at hc
            rcases sliceHeader_open params _ pre lb ub sr l u hl hu hc.1 hc.2 hh with k | k
            · simp [k]
            · simp [sliceCountBits_nonempty _ _ _ _ _ _ k hcb]


theorem optBitmap_nonempty : ∀ (fields : List Field) (fs : List Val) (bm : Bits),
    optBitmap fields fs = .ok bm → (∃ fd ∈ fields, fd.params.optional = true) → bm ≠ [] := by
  intro fields
  induction fields with
  | nil => intro fs bm _ ⟨fd, hfd, _⟩; simp at hfd
  | cons fd frest ih =>
    intro fs bm h hex
    cases fs with
    | nil => simp [optBitmap, err] at h
    | cons v vs =>
      simp only [optBitmap] at h
      by_cases ho : fd.params.optional = true
      · simp only [ho, if_true] at h
        split at h
        · simp [Aper.panic] at h
        cases hr : optBitmap frest vs with
        | error e => rw [hr] at h; simp at h
        | ok b' =>
          rw [hr] at h
          simp only [Except.ok.injEq] at h
          rw [← h]; simp
      · simp only [ho, if_false, Bool.false_eq_true] at h
        split at h
        · simp [err] at h
        · obtain ⟨fd', hfd', ho'⟩ := hex
          rcases List.mem_cons.mp hfd' with rfl | hm
          · exact absurd ho' ho
          · exact ih vs bm h ⟨fd', hm, ho'⟩

theorem encSeqFields_nonempty (f : Nat → Ty → Params → Val → Res Bits) (rfv : Ty → Val → Res Int)
    (allFields : List Field) (allVals : List Val) (P : Field → Prop)
    (hP : ∀ fd pos fp v a, P fd → (fp = fd.params ∨ ∃ x, fp = { fd.params with refValue := x }) →
      f pos fd.ty fp v = .ok a → a ≠ []) :
    ∀ (fields : List Field) (vals : List Val) (i pos : Nat) (b : Bits),
      encSeqFields f rfv allFields allVals i pos fields vals = .ok b →
      (∃ fd ∈ fields, fd.params.optional = false ∧ P fd) → b ≠ [] := by
  intro fields
  induction fields with
  | nil => intro vals i pos b _ ⟨fd, hfd, _⟩; simp at hfd
  | cons fd frest ih =>
    intro vals i pos b h hex
    cases vals with
    | nil => simp [encSeqFields, err] at h
    | cons v vrest =>
      simp only [encSeqFields] at h
      obtain ⟨fd', hfd', ho', hp'⟩ := hex
      by_cases hskip : fd.params.optional = true ∧ isNil v = true
      · simp only [hskip, and_self, if_true] at h
        rcases List.mem_cons.mp hfd' with rfl | hm
        · rw [ho'] at hskip; simp at hskip
        · exact ih vrest (i + 1) pos b h ⟨fd', hm, ho', hp'⟩
      · simp only [hskip, if_false] at h
        cases hres : resolveRef rfv allFields allVals i fd with
        | error e => rw [hres] at h; simp at h
        | ok fp =>
          rw [hres] at h
          dsimp only at h
          cases ha : f pos fd.ty fp v with
          | error e => rw [ha] at h; simp at h
          | ok a =>
            rw [ha] at h
            dsimp only at h
            cases hb : encSeqFields f rfv allFields allVals (i + 1) (pos + a.length) frest vrest with
            | error e => rw [hb] at h; simp at h
            | ok b' =>
              rw [hb] at h
              simp only [Except.ok.injEq] at h
              rw [← h]
              rcases List.mem_cons.mp hfd' with rfl | hm
              · have := hP fd' pos fp v a hp' (resolveRef_params _ _ _ _ _ _ hres) ha
                simp [this]
              · have := ih vrest (i + 1) (pos + a.length) b' hb ⟨fd', hm, ho', hp'⟩
                simp [this]

theorem nonEmptyEnc_refValue (env : Env) (x : Option Int) : ∀ (k : Nat) (ty : Ty) (p : Params),
    nonEmptyEnc env k ty { p with refValue := x } = nonEmptyEnc env k ty p := by
  intro k
  induction k with
  | zero => intro ty p; rfl
  | succ k ih =>
    intro ty p
    cases ty <;> try rfl
    · simp only [nonEmptyEnc]; exact ih _ p

/-- whatever the model writes for a type that passes `nonEmptyEnc` is at least one bit -/
theorem nonEmptyEnc_sound (env : Env) : ∀ (k fuel pos : Nat) (ty : Ty) (p : Params) (v : Val) (b : Bits),
    nonEmptyEnc env k ty p = true → encField env fuel pos ty p v = .ok b → b ≠ [] := by
  intro k
  induction k with
  | zero => intro fuel pos ty p v b hc; simp [nonEmptyEnc] at hc
  | succ k ih =>
    intro fuel pos ty p v b hc h
    cases fuel with
    | zero => simp [encField, hang] at h
    | succ fuel =>
      unfold encField at h
      split at h
      · simp [err] at h
      · exact ih fuel pos _ p _ b (by simpa only [nonEmptyEnc] using hc) h
      · -- BIT STRING
        rename_i bytes len
        rw [appendBitString_eq] at h
        simp only [nonEmptyEnc] at hc
        split at h
        · simp [Aper.panic] at h
        · refine strEnc_nonempty 1 _ _ _ _ _ _ _ b (by decide) ?_ hc h
          rw [List.length_take, bytesToBits_length]; omega
      · simp [err] at h
      · rw [appendOctetString_eq] at h
        exact strEnc_nonempty 8 _ _ _ _ _ _ _ b (by decide) (by rw [bytesToBits_length]; omega) (by simpa only [nonEmptyEnc] using hc) h
      · rw [appendOctetString_eq] at h
        exact strEnc_nonempty 8 _ _ _ _ _ _ _ b (by decide) (by rw [bytesToBits_length]; omega) (by simpa only [nonEmptyEnc] using hc) h
      · exact appendEnumerated_nonempty _ _ _ _ _ _ (by simpa only [nonEmptyEnc, Bool.or_eq_true] using hc) h
      · cases h; simp
      · exact appendInteger_nonempty _ _ _ _ _ _ (by simpa only [nonEmptyEnc, Bool.or_eq_true] using hc) h
      · exact encSlice_nonempty _ _ _ _ _ (by simpa only [nonEmptyEnc] using hc) h
      · -- SEQUENCE / CHOICE: an extension bit, or a body that is not empty
        rename_i id fs
        simp only [nonEmptyEnc, Bool.or_eq_true] at hc
        split at h
        · simp [err] at h
        · rename_i sd hsd
          rw [hsd] at hc
          dsimp only at h hc
          split at h
          · cases h
          · rename_i body hb
            cases h
            rcases hc with hc | hc
            · simp [hc]
            · suffices body ≠ [] by simp [this]
              by_cases hch : isChoice sd = true
              · simp only [hch, Bool.not_true, Bool.false_eq_true, if_false] at hb
                exact encChoice_nonempty _ _ _ _ _ _ hb
              · simp only [hch, Bool.not_false, if_true, Bool.false_eq_true, if_false] at hb hc
                obtain ⟨_, bm, fb, hbm, hfl, rfl⟩ := encSeq_ok hb
                rw [List.any_eq_true] at hc
                obtain ⟨fd, hfd, hfdc⟩ := hc
                by_cases ho : fd.params.optional = true
                · simp [optBitmap_nonempty _ _ _ hbm ⟨fd, hfd, ho⟩]
                · have hne : nonEmptyEnc env k fd.ty fd.params = true := by simpa [ho] using hfdc
                  have := encSeqFields_nonempty (encField env fuel) (refFieldValue env fuel) sd.fields fs
                    (fun fd => nonEmptyEnc env k fd.ty fd.params = true)
                    (by
                      intro fd pos fp v a hp hfp ha
                      rcases hfp with rfl | ⟨x, rfl⟩
                      · exact ih fuel pos fd.ty _ v a hp ha
                      · exact ih fuel pos fd.ty _ v a (by rw [nonEmptyEnc_refValue]; exact hp) ha)
                    sd.fields fs 0 _ fb hfl ⟨fd, hfd, by simpa using ho, hne⟩
                  simp [this]
      · simp [err] at h

/-- 23 CHOICE and 11.2 open type -/
theorem encChoice_ref {c : Prop} (env : Env) (fuel : Nat)
    (H : ∀ pos ty p v, OKc env c ty p → regular env fuel ty p.openType v = true →
      Ref c (encField env fuel pos ty p v) (Spec.X691.encode env fuel pos ty p v))
    (sd : StructDef) (params : Params) (pre : Bits) (pos1 : Nat) (fs : List Val)
    (hfields : ∀ fd ∈ sd.fields, OKc env c fd.ty fd.params)
    (hok : choiceOK env sd params = true) (hokc : c → choiceOKc params = true)
    (hreg : regChoice env fuel sd fs = true) :
    Ref c ((encChoice (encField env fuel) sd params pos1 fs).map (pre ++ ·))
      (specChoice (Spec.X691.encode env fuel) sd params pre pos1 fs) := by
  unfold encChoice specChoice
  -- a CHOICE value starts with the number of the selected alternative, which exists
  cases fs with
  | nil => exact Ref.fail _
  | cons v0 alts =>
  cases v0 <;> try exact Ref.fail _
  rename_i p
  dsimp only
  by_cases hp0 : p ≤ 0
  · rw [if_pos hp0, if_pos (by omega)]; exact Ref.fail _
  by_cases hlen : p.toNat ≥ sd.fields.length
  · rw [if_neg hp0, if_pos hlen, if_pos (by omega)]; exact Ref.fail _
  rw [if_neg hp0, if_neg hlen, if_neg (by omega)]
  obtain ⟨fd, hfd⟩ : ∃ fd, sd.fields[p.toNat]? = some fd := ⟨_, List.getElem?_eq_getElem (by omega)⟩
  cases halt : (Val.int p :: alts)[p.toNat]? with
  | none => rw [hfd]; exact Ref.error _ fun _ => by split <;> rfl
  | some alt =>
  simp only [regChoice, hfd, halt, Bool.and_eq_true] at hreg
  have hfdok := hfields fd (List.mem_of_getElem? hfd)
  rw [if_neg (by simp [hreg.1]), hfd]
  dsimp only
  by_cases hot : params.openType = true
  · -- open type: the alternative is the one the governing value names; its content is never empty
    simp only [hot, if_true]
    simp only [choiceOK, hot, if_true, List.all_eq_true] at hok
    cases hrv : params.refValue with
    | none => exact Ref.error _ fun _ => by cases fd.params.refValue <;> simp
    | some rv =>
      dsimp only
      by_cases hfrv : fd.params.refValue = some rv
      · rw [if_neg (by simp [hfrv]), if_neg (by simp [hfrv])]
        refine (H 0 fd.ty fd.params alt hfdok hreg.2).elim (fun inner hin => ?_) fun e _ hs => Ref.error e fun h => by rw [hs h]
        have hne := nonEmptyEnc_sound env 6 fuel 0 fd.ty fd.params alt inner
          (hok fd (getElem?_tail_mem _ _ _ (by omega) hfd)) hin
        have hemp : inner.isEmpty = false := by
          cases inner with
          | nil => exact absurd rfl hne
          | cons => rfl
        simp only [encOpenType_eq, hemp, Bool.false_eq_true, if_false]
        exact Ref.ok _
      · rw [if_pos (by simpa using hfrv), if_pos (Or.inr hfrv)]; exact Ref.fail _
  · -- the index among the root alternatives, then the alternative
    simp only [hot, Bool.false_eq_true, if_false]
    simp only [choiceOK, hot, Bool.false_eq_true, if_false] at hok
    cases hub : params.valueUB with
    | none => exact Ref.fail _
    | some ub =>
      rw [hub] at hok
      simp only [Bool.and_eq_true, beq_iff_eq, decide_eq_true_eq] at hok
      dsimp only
      rw [if_neg (by omega)]
      refine ((choice_index_ref pos1 p.toNat (sd.fields.length - 1) params.valueExt ub hok.1 (by omega) (by omega)
        (by omega)).mono fun h => by
          have := hokc h
          simp only [choiceOKc, hot, Bool.false_or, hub, decide_eq_true_eq] at this
          omega).elim (fun ib _ => ?_) fun e _ hs => Ref.error e fun h => by rw [hs h]
      dsimp only
      refine (H _ fd.ty fd.params alt hfdok hreg.2).elim (fun ab _ => ?_) fun e _ hs => Ref.error e fun h => by rw [hs h]
      dsimp only [Except.map]
      rw [List.append_assoc]; exact Ref.ok _

theorem specOK_field (env : Env) (hwf : specOK env = true) (id : Nat) (sd : StructDef) (hsd : env[id]? = some sd) :
    ∀ fd ∈ sd.fields, tyParamsOK env fd.ty fd.params = true := by
  unfold specOK at hwf
  rw [List.all_eq_true] at hwf
  have := hwf sd (List.mem_of_getElem? hsd)
  rw [List.all_eq_true] at this
  exact this

theorem specOKc_field (env : Env) (hwf : specOKc env = true) (id : Nat) (sd : StructDef) (hsd : env[id]? = some sd) :
    refsPrecede sd.fields = true ∧ optsNillable sd.fields = true ∧ ∀ fd ∈ sd.fields, tyParamsOKc fd.ty fd.params = true := by
  unfold specOKc at hwf
  rw [List.all_eq_true] at hwf
  have := hwf sd (List.mem_of_getElem? hsd)
  rw [Bool.and_eq_true, Bool.and_eq_true, List.all_eq_true] at this
  exact ⟨this.1.1, this.1.2, this.2⟩

/-- **The encoder model refines X.691**, one induction along the recursion both encoders share: over a schema that passes
    `specOK`, for parameters that pass `tyParamsOK` and a regular value, whatever the model writes is what the specification
    prescribes; and where `c` brings `specOKc` / `tyParamsOKc`, the model writes whatever the specification prescribes. -/
theorem encode_ref (env : Env) (hwf : specOK env = true) (c : Prop) (hwfc : c → specOKc env = true) :
    ∀ (fuel pos : Nat) (ty : Ty) (params : Params) (v : Val),
      OKc env c ty params → regular env fuel ty params.openType v = true →
      Ref c (encField env fuel pos ty params v) (Spec.X691.encode env fuel pos ty params v) := by
  intro fuel
  induction fuel with
  | zero => intro pos ty params v _ _; exact Ref.fail _
  | succ fuel ih =>
    intro pos ty params v hok hreg
    -- a value of another kind than the type is refused on both sides (`Ref.fail`)
    cases ty with
    | ptr t =>
      cases v <;> try exact Ref.fail _
      exact ih pos t params _ hok (by simpa only [regular] using hreg)
    | int =>
      cases v <;> try exact Ref.fail _
      rename_i n
      simp only [regular, Bool.and_eq_true, decide_eq_true_eq] at hreg
      refine (integer_ref pos n _ _ _ hok.1 hreg.1 hreg.2).mono fun hc l u hl hu => ?_
      have := hok.2 hc
      simp only [tyParamsOKc, hl, hu, decide_eq_true_eq] at this
      exact this
    | enum =>
      cases v <;> try exact Ref.fail _
      rename_i n
      refine (enumerated_ref pos n _ _ _ hok.1).mono fun hc u hu => ?_
      have := hok.2 hc
      simp only [tyParamsOKc, hu, decide_eq_true_eq] at this
      exact this
    | bool => cases v <;> first | exact Ref.fail _ | exact Ref.ok _
    | oid => cases v <;> exact Ref.fail _
    | bits =>
      cases v <;> try exact Ref.fail _
      rename_i bytes len
      simp only [regular, decide_eq_true_eq] at hreg
      simp only [encField, Spec.X691.encode]
      rw [if_neg (by omega)]
      exact Ref.of_iff fun b => bit_string_iff pos bytes len _ _ _ b hok.1 hreg
    | octs =>
      cases v <;> try exact Ref.fail _
      exact Ref.of_iff fun b => octet_string_iff pos _ _ _ _ b hok.1
    | str =>
      cases v <;> try exact Ref.fail _
      exact Ref.of_iff fun b => octet_string_iff pos _ _ _ _ b hok.1
    | slice t =>
      cases v <;> try exact Ref.fail _
      rename_i vs
      simp only [encField]
      rw [encSlice_eq, encode_slice]
      have hsl : sliceOK params = true ∧ OKc env c t (stripSizeE params) := by
        have h1 := hok.1
        simp only [tyParamsOK, Bool.and_eq_true] at h1
        exact ⟨h1.1, h1.2, fun hc => by simpa only [tyParamsOKc] using hok.2 hc⟩
      simp only [regular, List.all_eq_true] at hreg
      refine (Ref.of_iff fun x => sliceHdr_iff params pos vs.length x hsl.1).elim (fun x _ => ?_)
        fun e _ hs => Ref.error e fun h => by rw [hs h]
      obtain ⟨pre, cb⟩ := x
      dsimp only
      exact (encElems_ref _ _ vs _ fun v hv pos' => ih pos' t (stripSizeE params) v hsl.2 (hreg v hv)).elim
        (fun eb _ => Ref.ok _) fun e _ hs => Ref.error e fun h => by rw [hs h]
    | struct id =>
      cases v <;> try exact Ref.fail _
      rename_i fs
      cases hsd : env[id]? with
      | none => simp only [encField, Spec.X691.encode, hsd]; exact Ref.fail _
      | some sd =>
        rw [encode_struct env fuel pos id params fs sd hsd]
        rw [regular_struct env fuel id _ fs sd hsd] at hreg
        have hok1 := hok.1
        simp only [tyParamsOK] at hok1
        rw [structOK_eq env id params sd hsd] at hok1
        have hfields : ∀ fd ∈ sd.fields, OKc env c fd.ty fd.params := fun fd hfd =>
          ⟨specOK_field env hwf id sd hsd fd hfd, fun hc => (specOKc_field env (hwfc hc) id sd hsd).2.2 fd hfd⟩
        simp only [encField, hsd]
        by_cases hch : isChoice sd = true
        · simp only [hch, if_true, Bool.not_true, Bool.false_eq_true, if_false] at hreg hok1 ⊢
          refine Ref.of_eq ?_ (encChoice_ref env fuel ih sd params _ _ fs hfields hok1
            (fun hc => by simpa [tyParamsOKc, choiceOKc] using hok.2 hc) hreg)
          generalize encChoice _ _ _ _ _ = m
          cases m <;> rfl
        · simp only [hch, if_false, Bool.not_false, if_true, Bool.false_eq_true] at hreg ⊢
          refine Ref.of_eq ?_ (encSeq_ref env fuel (encField env fuel) (Spec.X691.encode env fuel) (refFieldValue env fuel)
            (Spec.X691.governor env fuel) (fun ty v => Ref.of_iff (refFieldValue_iff env fuel ty v)) ih sd _ _ fs hfields
            (fun hc => ⟨(specOKc_field env (hwfc hc) id sd hsd).1, (specOKc_field env (hwfc hc) id sd hsd).2.1⟩) hreg)
          generalize encSeq _ _ _ _ _ = m
          cases m <;> rfl

/-- **The encoder model writes what X.691 prescribes** (every schema that passes `specOK`, every type and parameter
    string that passes `tyParamsOK`, every regular value): if the model produces bits, they are the specification's. -/
theorem encode_eq_spec (env : Env) (hwf : specOK env = true) :
    ∀ (fuel pos : Nat) (ty : Ty) (params : Params) (v : Val) (bits : Bits),
      tyParamsOK env ty params = true → regular env fuel ty params.openType v = true →
      encField env fuel pos ty params v = .ok bits → Spec.X691.encode env fuel pos ty params v = some bits :=
  fun fuel pos ty params v _ hok hreg => (encode_ref env hwf False nofun fuel pos ty params v ⟨hok, nofun⟩ hreg).fwd

/-- what the specification does not encode, the model does not put on the wire -/
theorem encode_refuses (env : Env) (hwf : specOK env = true) (fuel pos : Nat) (ty : Ty) (params : Params) (v : Val)
    (hp : tyParamsOK env ty params = true) (hr : regular env fuel ty params.openType v = true)
    (hs : Spec.X691.encode env fuel pos ty params v = none) :
    ∀ bits, encField env fuel pos ty params v ≠ .ok bits := by
  intro bits h
  rw [encode_eq_spec env hwf fuel pos ty params v bits hp hr h] at hs
  cases hs

/-- 11.1 complete encoding: whole octets, at least one -/
theorem marshal_ref {c : Prop} {env : Env} {fuel : Nat} {ty : Ty} {params : Params} {v : Val}
    (h : Ref c (encField env fuel 0 ty params v) (Spec.X691.encode env fuel 0 ty params v)) :
    Ref c (marshal env fuel ty params v) (Spec.X691.encodePdu env fuel ty params v) := by
  unfold marshal Spec.X691.encodePdu
  refine h.elim (fun bits _ => ?_) fun e _ hs => Ref.error e fun hc => by rw [hs hc]
  dsimp only
  split <;> exact Ref.ok _


/-- the same at the level of `aper.MarshalWithParams` / a complete encoding (11.1) -/
theorem marshal_eq_spec (env : Env) (hwf : specOK env = true) (fuel : Nat) (ty : Ty) (params : Params) (v : Val) (bs : Bytes)
    (hp : tyParamsOK env ty params = true) (hr : regular env fuel ty params.openType v = true)
    (h : marshal env fuel ty params v = .ok bs) : Spec.X691.encodePdu env fuel ty params v = some bs :=
  (marshal_ref (encode_ref env hwf False nofun fuel 0 ty params v ⟨hp, nofun⟩ hr)).fwd h

theorem marshal_refuses (env : Env) (hwf : specOK env = true) (fuel : Nat) (ty : Ty) (params : Params) (v : Val)
    (hp : tyParamsOK env ty params = true) (hr : regular env fuel ty params.openType v = true)
    (hs : Spec.X691.encodePdu env fuel ty params v = none) :
    ∀ bs, marshal env fuel ty params v ≠ .ok bs := by
  intro bs h
  rw [marshal_eq_spec env hwf fuel ty params v bs hp hr h] at hs
  cases hs

end Stgutg.Proofs.AperSpec
