/-
  The two extractors of pdu.go (C12).

  Go slice expressions on a list given as `prefix ++ rest` (`slice_pre` …); `decodeNas` and one turn of each walk as
  equations under what their slice expressions return (`decodeNas_eq`, `xferLoop_139`, `xferLoop_other`), instantiated
  to the layouts of the specification (`decodeNas_layout`, `decodeTransfer_ies`); "does not hang" carried through
  `>>=` and `if` (`bind_ne_hang`, `ite_ne_hang`) for both walks; closed forms of the X.691 encodings of the transfer.
-/
import Stgutg.Model.Extract
import Stgutg.Spec.SetupRequest
namespace Stgutg.Proofs.Extract
open Stgutg Stgutg.Model.Extract

@[simp] theorem ok_bind {α β : Type} (a : α) (f : α → Res β) : (Except.ok a >>= f) = f a := rfl
@[simp] theorem err_bind {α β : Type} (e : Err) (f : α → Res β) : ((Except.error e : Res α) >>= f) = Except.error e := rfl
@[simp] theorem pure_eq {α : Type} (a : α) : (pure a : Res α) = Except.ok a := rfl

theorem sliceFrom_pre (mem pre rest : Bytes) (n a : Nat) (h : mem = pre ++ rest) (hp : pre.length = a) (ha : a ≤ n) :
    Sl.sliceFrom ⟨mem, n⟩ a = .ok ⟨rest, n - a⟩ := by
  subst h
  simp [Sl.sliceFrom, ha, List.drop_left' hp]

theorem slice_pre (mem pre rest : Bytes) (n a b : Nat) (h : mem = pre ++ rest) (hp : pre.length = a) (hab : a ≤ b)
    (hb : b ≤ a + rest.length) : Sl.slice ⟨mem, n⟩ a b = .ok ⟨rest, b - a⟩ := by
  subst h
  have : b ≤ pre.length + rest.length := by omega
  simp [Sl.slice, hab, this, List.drop_left' hp]

theorem idx_pre (mem pre rest : Bytes) (x : UInt8) (n i : Nat) (h : mem = pre ++ x :: rest) (hp : pre.length = i)
    (hi : i < n) : Sl.idx ⟨mem, n⟩ i = .ok x := by
  subst h hp
  simp [Sl.idx, hi]

theorem be16_cons (x y : UInt8) (rest : Bytes) (n : Nat) (hn : 2 ≤ n) :
    be16 ⟨x :: y :: rest, n⟩ = .ok (x.toNat * 256 + y.toNat) := by
  have h1 : 1 < n := by omega
  have h0 : 0 < n := by omega
  simp [be16, Sl.idx, h1, h0]

theorem be32_cons (a b c d : UInt8) (rest : Bytes) (n : Nat) (hn : 4 ≤ n) :
    be32 ⟨a :: b :: c :: d :: rest, n⟩ = .ok (((a.toNat * 256 + b.toNat) * 256 + c.toNat) * 256 + d.toNat) := by
  have h3 : 3 < n := by omega
  have h2 : 2 < n := by omega
  have h1 : 1 < n := by omega
  have h0 : 0 < n := by omega
  simp [be32, Sl.idx, h3, h2, h1, h0]

theorem be16_spec_val (n : Nat) (h : n < 65536) :
    (UInt8.ofNat (n / 256)).toNat * 256 + (UInt8.ofNat (n % 256)).toNat = n := by
  simp [UInt8.toNat_ofNat']
  omega


/-- `decodeNas` once each of its slice expressions and its two wrapping offsets are known -/
theorem decodeNas_eq {stop : Bool} {fuel pcl q e f : Nat} {s plain x pc y op : Sl} (h1 : s.sliceFrom 7 = .ok plain)
    (h2 : plain.slice 4 6 = .ok x) (h3 : be16 x = .ok pcl) (he : (6 + pcl) % 65536 = e) (h4 : plain.slice 6 e = .ok pc)
    (h5 : pc.slice 5 7 = .ok y) (h6 : be16 y = .ok q) (hf : (5 + 2 + q + 7) % 65536 = f)
    (h7 : pc.sliceFrom f = .ok op) : decodeNas stop fuel s = nasLoop stop op fuel 0 := by
  subst he hf
  simp only [decodeNas, h1, h2, h3, h4, h5, h6, h7, ok_bind]

/-- the fixed-offset part of DecodePDUSessionNASPDU on a message laid out as
    header(7) ‖ DL NAS TRANSPORT head(4) ‖ L(2) ‖ [ accept head(5) ‖ q(2) ‖ QoS rules(q) ‖ LV AMBR(7) ‖ optional IEs ] ‖ tail -/
theorem decodeNas_layout (stop : Bool) (fuel : Nat) (hdr dh ah qos la opt tail : Bytes) (l1 l0 q1 q0 : UInt8) (n : Nat)
    (hhdr : hdr.length = 7) (hdh : dh.length = 4) (hah : ah.length = 5) (hla : la.length = 7)
    (hLv : l1.toNat * 256 + l0.toNat = 5 + 2 + qos.length + 7 + opt.length)
    (hqv : q1.toNat * 256 + q0.toNat = qos.length)
    (hL : 5 + 2 + qos.length + 7 + opt.length < 65530) (hn : 7 ≤ n) :
    decodeNas stop fuel
      ⟨hdr ++ (dh ++ (l1 :: l0 :: (ah ++ (q1 :: q0 :: (qos ++ (la ++ (opt ++ tail))))))), n⟩
      = nasLoop stop ⟨opt ++ tail, opt.length⟩ fuel 0 := by
  rw [decodeNas_eq (sliceFrom_pre _ hdr _ n 7 rfl hhdr hn) (slice_pre _ dh _ _ 4 6 rfl hdh (by omega) (by simp; omega))
    (be16_cons _ _ _ _ (by omega)) (by rw [hLv, Nat.mod_eq_of_lt (by omega)])
    (slice_pre _ (dh ++ [l1, l0]) (ah ++ (q1 :: q0 :: (qos ++ (la ++ (opt ++ tail))))) _ 6 _ (by simp)
      (by simp [hdh]) (by omega) (by simp [hah, hla]; omega))
    (slice_pre _ ah _ _ 5 7 rfl hah (by omega) (by simp; omega)) (be16_cons _ _ _ _ (by omega))
    (by rw [hqv, Nat.mod_eq_of_lt (by omega)])
    (sliceFrom_pre _ (ah ++ q1 :: q0 :: (qos ++ la)) (opt ++ tail) _ _ (by simp) (by simp [hah, hla]; omega)
      (by omega))]
  congr 2
  omega

/-- the walk has reached the PDU address IE -/
theorem nasLoop_found (stop : Bool) (fuel : Nat) (pre after ip : Bytes) (l ty : UInt8) (n : Nat)
    (hip : ip.length = 4) (hn : pre.length < n) :
    nasLoop stop ⟨pre ++ 0x29 :: l :: ty :: (ip ++ after), n⟩ (fuel + 1) pre.length = .ok ip := by
  unfold nasLoop
  simp only [hn, if_true]
  rw [idx_pre _ pre _ 0x29 n pre.length rfl rfl hn]
  simp only [ok_bind, if_true]
  rw [slice_pre _ (pre ++ [0x29, l, ty]) (ip ++ after) n (pre.length + 3) (pre.length + 7) (by simp) (by simp)
        (by omega) (by simp [hip]; omega)]
  simp [Sl.toBytes, List.take_left' hip]

theorem nasLoop_skip_cause (stop : Bool) (fuel : Nat) (c : UInt8) (rest : Bytes) (n : Nat) (hn : 0 < n) :
    nasLoop stop ⟨0x59 :: c :: rest, n⟩ (fuel + 1) 0 = nasLoop stop ⟨0x59 :: c :: rest, n⟩ fuel 2 := by
  rw [nasLoop]
  simp only [hn, if_true]
  rw [idx_pre (0x59 :: c :: rest) [] _ _ _ 0 rfl rfl hn]
  have h1 : isHalfByte 0x59 = false := by decide
  have h2 : lookupLen 0x59 = 2 := by decide
  simp [h1, h2]


theorem len4 {l : Bytes} (h : l.length = 4) : ∃ a b c d, l = [a, b, c, d] := by
  match l, h with
  | [a, b, c, d], _ => exact ⟨a, b, c, d, rfl⟩

theorem len6 {l : Bytes} (h : l.length = 6) : ∃ a b c d e f, l = [a, b, c, d, e, f] := by
  match l, h with
  | [a, b, c, d, e, f], _ => exact ⟨a, b, c, d, e, f, rfl⟩

open Spec.SetupRequest in
theorem accept_encode_length (a : Accept) (h : a.ambr.length = 6) :
    a.encode.length = 5 + 2 + a.qosRules.length + 7 + a.optionalIEs.length := by
  simp [Accept.encode, lvE, lv, Spec.SetupRequest.be16, h]
  omega

theorem idx_ne_hang (s : Sl) (i : Nat) : s.idx i ≠ .error .hang := by
  unfold Sl.idx; split
  · split <;> simp
  · simp

theorem slice_ne_hang (s : Sl) (a b : Nat) : s.slice a b ≠ .error .hang := by
  unfold Sl.slice; split <;> simp

theorem sliceFrom_ne_hang (s : Sl) (a : Nat) : s.sliceFrom a ≠ .error .hang := by
  unfold Sl.sliceFrom; split <;> simp

theorem bind_ne_hang {α β : Type} {x : Res α} {f : α → Res β} (hx : x ≠ .error .hang)
    (hf : ∀ a, x = .ok a → f a ≠ .error .hang) : (x >>= f) ≠ .error .hang := by
  cases x with
  | ok a => exact hf a rfl
  | error e => cases e <;> simp_all

theorem ite_ne_hang {α : Type} {c : Prop} [Decidable c] {x y : Res α} (hx : c → x ≠ .error .hang)
    (hy : ¬c → y ≠ .error .hang) : (if c then x else y) ≠ .error .hang := by
  split
  · exact hx ‹_›
  · exact hy ‹_›

theorem be16_ne_hang (s : Sl) : be16 s ≠ .error .hang :=
  bind_ne_hang (idx_ne_hang _ _) fun _ _ => bind_ne_hang (idx_ne_hang _ _) fun _ _ => by simp

theorem be32_ne_hang (s : Sl) : be32 s ≠ .error .hang :=
  bind_ne_hang (idx_ne_hang _ _) fun _ _ => bind_ne_hang (idx_ne_hang _ _) fun _ _ =>
    bind_ne_hang (idx_ne_hang _ _) fun _ _ => bind_ne_hang (idx_ne_hang _ _) fun _ _ => by simp

/-- after the F9 repair every turn of the walk either ends it or moves the index forward -/
theorem nasLoop_ne_hang (op : Sl) : ∀ (fuel index : Nat), op.len - index < fuel → nasLoop true op fuel index ≠ .error .hang := by
  intro fuel
  induction fuel with
  | zero => intro index h; omega
  | succ fuel ih =>
    intro index h
    rw [nasLoop]
    -- the branches in the order of the code: past the end, IEI 29, half-octet IEI, table length > 0, -1, -2, none
    refine ite_ne_hang (fun hlt => ?_) fun _ => by simp
    refine bind_ne_hang (idx_ne_hang _ _) fun id _ => ?_
    refine ite_ne_hang (fun _ => bind_ne_hang (slice_ne_hang _ _ _) fun _ _ => by simp) fun _ => ?_
    refine ite_ne_hang (fun _ => ih _ (by omega)) fun _ => ?_
    refine ite_ne_hang (fun hpos => ih _ (by omega)) fun _ => ?_
    refine ite_ne_hang (fun _ => bind_ne_hang (idx_ne_hang _ _) fun _ _ => ih _ (by omega)) fun _ => ?_
    refine ite_ne_hang (fun _ => bind_ne_hang (slice_ne_hang _ _ _) fun _ _ =>
      bind_ne_hang (be16_ne_hang _) fun _ _ => ih _ (by omega)) fun _ => by simp

theorem slice_ok {s r : Sl} {a b : Nat} (h : s.slice a b = .ok r) : r.len ≤ s.mem.length ∧ r.mem.length ≤ s.mem.length := by
  unfold Sl.slice at h
  split at h
  · cases h; simp; omega
  · cases h

theorem sliceFrom_ok {s r : Sl} {a : Nat} (h : s.sliceFrom a = .ok r) : r.len ≤ s.len ∧ r.mem.length ≤ s.mem.length := by
  unfold Sl.sliceFrom at h
  split at h
  · cases h; simp
  · cases h

/-- each turn of the transfer walk moves the offset forward by at least four -/
theorem xferLoop_ne_hang (s : Sl) : ∀ (fuel offset : Nat), s.len - offset < fuel → xferLoop s fuel offset ≠ .error .hang := by
  intro fuel
  induction fuel with
  | zero => intro offset h; omega
  | succ fuel ih =>
    intro offset h
    rw [xferLoop]
    refine ite_ne_hang (fun hlt => ?_) fun _ => by simp
    refine bind_ne_hang (slice_ne_hang _ _ _) fun _ _ => bind_ne_hang (be16_ne_hang _) fun id _ => ?_
    refine ite_ne_hang (fun _ => bind_ne_hang (idx_ne_hang _ _) fun _ _ => ih _ (by omega)) fun _ => ?_
    refine bind_ne_hang (idx_ne_hang _ _) fun n _ => bind_ne_hang (slice_ne_hang _ _ _) fun info _ => ?_
    refine ite_ne_hang (fun _ => by simp) fun _ => ?_
    refine bind_ne_hang (sliceFrom_ne_hang _ _) fun _ _ => bind_ne_hang (be32_ne_hang _) fun _ _ => ?_
    exact ite_ne_hang (fun _ => by simp) fun _ => bind_ne_hang (slice_ne_hang _ _ _) fun _ _ => by simp

/-- F9: the original walk (`stop = false`) on an IEI outside the table -/
theorem nasLoop_stuck (op : Sl) (id : UInt8) (h0 : 0 < op.len) (hid : op.idx 0 = .ok id) (h29 : id ≠ 0x29)
    (hh : isHalfByte id = false) (hl : lookupLen id = 0) : ∀ fuel, nasLoop false op fuel 0 = .error .hang := by
  intro fuel
  induction fuel with
  | zero => rfl
  | succ fuel ih =>
    unfold nasLoop
    simp [h0, hid, h29, hh, hl, ih]

theorem nasLoop_stops (op : Sl) (id : UInt8) (h0 : 0 < op.len) (hid : op.idx 0 = .ok id) (h29 : id ≠ 0x29)
    (hh : isHalfByte id = false) (hl : lookupLen id = 0) (fuel : Nat) : nasLoop true op (fuel + 1) 0 = .ok [] := by
  unfold nasLoop
  simp [h0, hid, h29, hh, hl]

open Stgutg.Spec.SetupRequest

theorem natBE_two (n : Nat) : natBE 2 n = [UInt8.ofNat (n / 256), UInt8.ofNat n] := by
  simp [natBE, List.range, List.range.loop]

theorem natBE_length (w n : Nat) : (natBE w n).length = w := by simp [natBE]

theorem bitWidth_3 : bitWidth 3 = 2 := by decide
theorem bitWidth_6 : bitWidth 6 = 3 := by decide
theorem bitWidth_160 : bitWidth 160 = 8 := by decide
theorem octetLen_max : octetLen 4000000000000 = 6 := by decide

/-- one octet of the IE header: the criticality in the two leading bits -/
def critOctet (crit : Nat) : UInt8 := octetOfBits (natBits 2 crit)

/-- the octets of one ProtocolIE-Field -/
def ieBytes (ie : Nat × Nat × Bytes) : Bytes :=
  natBE 2 ie.1 ++ (critOctet ie.2.1 :: (lengthDet ie.2.2.length ++ ie.2.2))

theorem protocolIE_aligned (d : Bytes) (id crit : Nat) (v : Bytes) :
    protocolIE ⟨d, []⟩ id crit v = ⟨d ++ ieBytes (id, crit, v), []⟩ := by
  simp [protocolIE, cwn, openType, W.octets, W.align, W.bits, W.bit, bitWidth_3, natBits, ieBytes, critOctet]

theorem fold_protocolIE (ies : List (Nat × Nat × Bytes)) : ∀ (d : Bytes),
    ies.foldl (fun w ie => protocolIE w ie.1 ie.2.1 ie.2.2) ⟨d, []⟩ = ⟨d ++ ies.flatMap ieBytes, []⟩ := by
  induction ies with
  | nil => intro d; simp
  | cons ie rest ih =>
    intro d
    simp only [List.foldl_cons, List.flatMap_cons]
    rw [protocolIE_aligned, ih]
    simp

/-- closed form of the transfer: 00, the IE count in two octets, the IEs one after the other -/
theorem container_eq (ies : List (Nat × Nat × Bytes)) :
    encodeContainer ies = 0x00 :: (natBE 2 ies.length ++ ies.flatMap ieBytes) := by
  have h0 : cwn (({} : W).bit false) 0 65535 ies.length = ⟨0x00 :: natBE 2 ies.length, []⟩ := by
    simp [cwn, W.bit, W.octets, W.align, octetOfBits]
  simp only [encodeContainer]
  rw [h0, fold_protocolIE]
  simp [W.finish, W.align]


/-- GTP tunnel with a 32-bit transport layer address: 01 F0, the address, the TEID -/
theorem upTnlValue_v4 (tla teid : Bytes) (h : tla.length = 4) :
    upTnlValue tla teid = 0x01 :: 0xF0 :: (tla ++ teid) := by
  simp [upTnlValue, cwn, h, bitWidth_160, natBits, W.bit, W.bits, W.octets, W.align, W.finish, octetOfBits]

theorem octetLen_le (v : Nat) (h : v ≤ 4000000000000) : 1 ≤ octetLen v ∧ octetLen v ≤ 6 := by
  unfold octetLen
  by_cases h0 : v = 0
  · subst h0; decide
  · have : v.log2 < 48 := (Nat.log2_lt h0).2 (by omega)
    omega

/-- the AMBR value: one octet (two preamble bits, extension bit and length of DL), DL, one octet, UL -/
theorem ambrValue_length (dl ul : Nat) :
    (ambrValue dl ul).length = 2 + octetLen dl + octetLen ul := by
  simp [ambrValue, bitRate, cwnExt, cwn, octetLen_max, bitWidth_6, natBits, W.bit, W.bits, W.octets, W.align, W.finish,
    natBE_length]
  omega


/-- one turn of the transfer walk on the tunnel IE, once each of its slice expressions is known -/
theorem xferLoop_139 {s x info t ip : Sl} {fuel off teid : Nat} {n : UInt8} (h0 : off < s.len)
    (h1 : s.slice off (off + 2) = .ok x) (h2 : be16 x = .ok 139) (h3 : s.idx (off + 3) = .ok n)
    (h4 : s.slice (off + 3 + 1) (off + 3 + 1 + n.toNat) = .ok info) (hn : 8 ≤ n.toNat)
    (h5 : info.sliceFrom (n.toNat - 4) = .ok t) (h6 : be32 t = .ok teid)
    (h7 : info.slice (n.toNat - 8) (n.toNat - 4) = .ok ip) :
    xferLoop s (fuel + 1) off = .ok (teid, ip.toBytes) := by
  rw [xferLoop]
  simp only [h0, if_true, h1, h2, h3, h4, h5, h6, h7, ok_bind, ne_eq, not_true_eq_false, if_false,
    show ¬ n.toNat < 4 by omega, show ¬ n.toNat < 8 by omega, pure_eq]

/-- the transfer walk standing on the IE 139 whose value is a GTP tunnel with a 32-bit address -/
theorem xferLoop_found (pre R tla teid : Bytes) (c x y : UInt8) (n fuel off : Nat) (htla : tla.length = 4)
    (hteid : teid.length = 4) (hoff : pre.length = off) (hn : off + 3 < n) :
    xferLoop ⟨pre ++ (0 :: 139 :: c :: 10 :: x :: y :: (tla ++ (teid ++ R))), n⟩ (fuel + 1) off
      = .ok (beNat teid, tla) := by
  subst hoff
  obtain ⟨t0, t1, t2, t3, rfl⟩ := len4 hteid
  have h10 : (10 : UInt8).toNat = 10 := rfl
  rw [xferLoop_139 (n := 10) (by show pre.length < n; omega) (slice_pre _ pre _ n _ _ rfl rfl (by omega) (by simp))
    (be16_cons _ _ _ _ (by omega))
    (idx_pre _ (pre ++ [0, 139, c]) (x :: y :: (tla ++ ([t0, t1, t2, t3] ++ R))) 10 n _ (by simp) (by simp) hn)
    (slice_pre _ (pre ++ [0, 139, c, 10]) (x :: y :: (tla ++ ([t0, t1, t2, t3] ++ R))) n _ _ (by simp) (by simp)
      (by omega) (by simp [htla]; omega))
    (by decide)
    (sliceFrom_pre _ (x :: y :: tla) ([t0, t1, t2, t3] ++ R) _ _ (by simp) (by simp [htla]) (by simp [h10]))
    (be32_cons _ _ _ _ _ _ (by simp [h10]))
    (slice_pre _ [x, y] (tla ++ (t0 :: t1 :: t2 :: t3 :: R)) _ _ _ (by simp) (by simp [h10]) (by simp [h10])
      (by simp [htla, h10]; omega))]
  simp [Sl.toBytes, List.take_left' htla, beNat, h10]

/-- one turn of the transfer walk on any other IE -/
theorem xferLoop_other {s x : Sl} {fuel off id : Nat} {l : UInt8} (h0 : off < s.len)
    (h1 : s.slice off (off + 2) = .ok x) (h2 : be16 x = .ok id) (hid : id ≠ 139) (h3 : s.idx (off + 3) = .ok l) :
    xferLoop s (fuel + 1) off = xferLoop s fuel (off + 3 + l.toNat + 1) := by
  rw [xferLoop]
  simp only [h0, if_true, h1, h2, h3, ok_bind, ne_eq, hid, not_false_eq_true]

theorem ie139_bytes (tla teid : Bytes) (h4 : tla.length = 4) (ht : teid.length = 4) :
    ieBytes (139, 0, upTnlValue tla teid) = 0 :: 139 :: critOctet 0 :: 10 :: 0x01 :: 0xF0 :: (tla ++ teid) := by
  rw [upTnlValue_v4 _ _ h4]
  simp [ieBytes, natBE_two, lengthDet, h4, ht]

/-- an IE whose value is shorter than 128 octets: identifier, criticality, one length octet, the value -/
theorem ieBytes_short (id crit : Nat) (v : Bytes) (hid : id < 65536) (hv : v.length < 128) :
    ∃ i1 i0 l : UInt8, i1.toNat * 256 + i0.toNat = id ∧ l.toNat = v.length ∧
      ieBytes (id, crit, v) = i1 :: i0 :: critOctet crit :: l :: v :=
  ⟨UInt8.ofNat (id / 256), UInt8.ofNat id, UInt8.ofNat v.length, by simp [UInt8.toNat_ofNat']; omega,
    by simp [UInt8.toNat_ofNat']; omega, by simp [ieBytes, natBE_two, lengthDet, hv]⟩

/-- the transfer walk steps over any IEs that are not the tunnel IE and whose values are shorter than 128 octets -/
theorem xferLoop_skips (ies : List (Nat × Nat × Bytes))
    (hies : ∀ ie ∈ ies, ie.1 ≠ 139 ∧ ie.1 < 65536 ∧ ie.2.2.length < 128) :
    ∀ (mem pre R : Bytes) (n fuel : Nat), mem = pre ++ (ies.flatMap ieBytes ++ R) →
      pre.length + (ies.flatMap ieBytes).length ≤ n →
      xferLoop ⟨mem, n⟩ (fuel + ies.length) pre.length =
        xferLoop ⟨mem, n⟩ fuel (pre.length + (ies.flatMap ieBytes).length) := by
  induction ies with
  | nil => intros; rfl
  | cons ie rest ih =>
    intro mem pre R n fuel hmem hn
    obtain ⟨id, crit, v⟩ := ie
    obtain ⟨hid, h16, hv⟩ := hies _ List.mem_cons_self
    obtain ⟨i1, i0, l, hi, hl, hb⟩ := ieBytes_short id crit v h16 hv
    simp only [List.flatMap_cons, hb, List.length_append, List.length_cons] at hmem hn ⊢
    have hmem' : mem = pre ++ (i1 :: i0 :: critOctet crit :: l :: (v ++ (rest.flatMap ieBytes ++ R))) := by
      simpa using hmem
    rw [show fuel + (rest.length + 1) = fuel + rest.length + 1 by omega,
      xferLoop_other (by show pre.length < n; omega) (slice_pre _ pre _ n _ _ hmem' rfl (by omega) (by simp))
        (be16_cons _ _ _ _ (by omega)) (hi ▸ hid)
        (idx_pre _ (pre ++ [i1, i0, critOctet crit]) _ l n _ (by simpa using hmem') (by simp) (by omega)),
      hl]
    have := ih (fun ie h => hies ie (List.mem_cons_of_mem _ h)) mem (pre ++ (i1 :: i0 :: critOctet crit :: l :: v)) R n
      fuel (by simpa using hmem') (by simp only [List.length_append, List.length_cons]; omega)
    simp only [List.length_append, List.length_cons] at this
    rw [show pre.length + 3 + v.length + 1 = pre.length + (v.length + 1 + 1 + 1 + 1) by omega, this]
    congr 1
    omega

/-- the AMBR IE in front of the tunnel IE, or nothing -/
def ambrIes : Option (Nat × Nat) → List (Nat × Nat × Bytes)
  | some (dl, ul) => [(130, 0, ambrValue dl ul)]
  | none => []

/-- DecodePDUSessionResourceSetupRequestTransfer on a container whose tunnel IE (139) has a 32-bit transport layer
    address: whatever IEs with short values stand in front of it and whatever IEs follow it -/
theorem decodeTransfer_ies (ies tail : List (Nat × Nat × Bytes))
    (hies : ∀ ie ∈ ies, ie.1 ≠ 139 ∧ ie.1 < 65536 ∧ ie.2.2.length < 128) (tla teid slack : Bytes) (fuel : Nat)
    (hteid : teid.length = 4) (h4 : tla.length = 4) (hfuel : ies.length + 1 ≤ fuel) :
    decodeTransfer fuel (Sl.ofBytes (encodeContainer (ies ++ ((139, 0, upTnlValue tla teid) :: tail))) slack)
      = .ok (beNat teid, tla) := by
  obtain ⟨f, rfl⟩ : ∃ f, fuel = f + 1 + ies.length := ⟨fuel - 1 - ies.length, by omega⟩
  rw [container_eq, natBE_two]
  unfold decodeTransfer
  generalize UInt8.ofNat ((ies ++ ((139, 0, upTnlValue tla teid) :: tail)).length / 256) = c1
  generalize UInt8.ofNat (ies ++ ((139, 0, upTnlValue tla teid) :: tail)).length = c0
  simp only [List.flatMap_append, List.flatMap_cons, ie139_bytes _ _ h4 hteid, Sl.ofBytes]
  generalize tail.flatMap ieBytes = R
  have hmem : (0x00 :: ([c1, c0] ++ (ies.flatMap ieBytes ++ (0 :: 139 :: critOctet 0 :: 10 :: 0x01 :: 0xF0 ::
      (tla ++ teid) ++ R))) ++ slack : Bytes) = [0x00, c1, c0] ++ (ies.flatMap ieBytes ++
        (0 :: 139 :: critOctet 0 :: 10 :: 0x01 :: 0xF0 :: (tla ++ (teid ++ (R ++ slack))))) := by simp
  refine (xferLoop_skips ies hies _ [0x00, c1, c0] _ _ (f + 1) hmem (by simp; omega)).trans ?_
  rw [hmem, ← List.append_assoc]
  exact xferLoop_found _ _ tla teid _ _ _ _ f _ h4 hteid (by simp; omega) (by simp [h4, hteid]; omega)

theorem transfer_ies_eq (t : Transfer) : t.ies = ambrIes t.ambr ++ ((139, 0, upTnlValue t.tla t.teid) :: t.tailIes) := by
  unfold Transfer.ies Transfer.ambrIes ambrIes
  cases t.ambr with
  | none => rfl
  | some p => rfl

end Stgutg.Proofs.Extract
