/-
  The TS 24.501 / TS 24.007 encoder and parser of Spec/Ts24501.lean are mutually consistent: the parser reads
  back what the encoder writes (a fact about the specification alone, used by Props/C09).  Core Lean only.
-/
import Stgutg.Spec.Ts24501
namespace Stgutg.Spec.Ts24501
open Stgutg

theorem takeN_append {n : Nat} {a rest : Bytes} (h : a.length = n) : takeN n (a ++ rest) = some (a, rest) := by
  subst h; simp [takeN]

theorem u8_toNat_lt {n : Nat} (h : n < 256) : (UInt8.ofNat n).toNat = n :=
  UInt8.toNat_ofNat_of_lt' h

theorem parseMand_encMand : ∀ (ws : List MWire) (vals : List Bytes) (a : Bytes),
    (ws.all fun | .vRest _ => false | _ => true) = true →
    encMand ws vals = some a → ∀ rest, parseMand ws (a ++ rest) = some (vals, rest) := by
  intro ws
  induction ws with
  | nil =>
    intro vals a _ h rest
    cases vals with
    | nil => simp [encMand] at h; subst h; simp [parseMand]
    | cons _ _ => simp [encMand] at h
  | cons w ws ih =>
    intro vals a hnr h rest
    simp only [List.all_cons, Bool.and_eq_true] at hnr
    cases vals with
    | nil => cases w <;> simp [encMand] at h
    | cons b bs =>
      cases w
      case vRest => simp at hnr
      all_goals
        simp only [encMand, Option.ite_none_right_eq_some, Option.map_eq_some_iff] at h
        obtain ⟨hb, a', he, rfl⟩ := h
      · simp [parseMand, List.append_assoc, takeN_append hb, ih bs a' hnr.2 he rest]
      · simp [parseMand, List.append_assoc, u8_toNat_lt hb.1, hb.2, takeN_append rfl, ih bs a' hnr.2 he rest]
      · have h1 : b.length / 256 % 256 * 256 + b.length % 256 = b.length := by omega
        simp [parseMand, be16, List.append_assoc, UInt8.toNat_ofNat', h1, hb.2, takeN_append rfl, ih bs a' hnr.2 he rest]

/-- one optional IE: the parser reads what `encOptIE` writes under the row the IEI selects, and goes on with the rest -/
theorem parseOpts_encOptIE {ws : List OWire} {w : OWire} {val a : Bytes} (hf : ws.find? (·.iei == w.iei) = some w)
    (he : encOptIE w val = some a) (fuel : Nat) (rest : Bytes) :
    a ≠ [] ∧ parseOpts ws (fuel + 1) (a ++ rest) = (parseOpts ws fuel rest).map ((w.iei, val) :: ·) := by
  have hfull : w.iei < 128 → (UInt8.ofNat w.iei).toNat = w.iei ∧ ¬ w.iei ≥ 128 :=
    fun h => ⟨u8_toNat_lt (by omega), by omega⟩
  unfold encOptIE at he
  cases hk : w.kind with
  | half =>
    simp only [hk] at he
    split at he
    · rename_i x
      simp only [Option.ite_none_right_eq_some, Option.some.injEq] at he
      obtain ⟨hc, rfl⟩ := he
      have hb : (UInt8.ofNat (w.iei * 16 + x.toNat)).toNat = w.iei * 16 + x.toNat := u8_toNat_lt (by omega)
      have h1 : w.iei * 16 + x.toNat ≥ 128 := by omega
      have h2 : (w.iei * 16 + x.toNat) / 16 = w.iei := by omega
      have h3 : (w.iei * 16 + x.toNat) % 16 = x.toNat := by omega
      simp only [List.singleton_append, parseOpts, hb]
      simp [h1, h2, h3, hf, hk]
    · simp at he
  | tv n =>
    simp only [hk, Option.ite_none_right_eq_some, Option.some.injEq] at he
    obtain ⟨hc, rfl⟩ := he
    simp only [List.cons_append, parseOpts, hfull hc.2]
    simp [hf, hk, takeN_append hc.1]
  | tlv =>
    simp only [hk, Option.ite_none_right_eq_some, Option.some.injEq] at he
    obtain ⟨hc, rfl⟩ := he
    simp only [List.cons_append, parseOpts, hfull hc.2]
    simp [hf, hk, u8_toNat_lt hc.1, takeN_append rfl]
  | tlve =>
    simp only [hk, Option.ite_none_right_eq_some, Option.some.injEq] at he
    obtain ⟨hc, rfl⟩ := he
    have h2 : val.length / 256 % 256 * 256 + val.length % 256 = val.length := by omega
    simp only [List.cons_append, parseOpts, be16, hfull hc.2]
    simp [hf, hk, UInt8.toNat_ofNat', h2, takeN_append rfl]

theorem parseOpts_encOpts (ws : List OWire) : ∀ (opts : List (Nat × Bytes)) (b : Bytes),
    encOpts ws opts = some b → ∀ fuel, b.length ≤ fuel → parseOpts ws fuel b = some opts := by
  intro opts
  induction opts with
  | nil => intro b h fuel _; simp [encOpts] at h; subst h; cases fuel <;> simp [parseOpts]
  | cons p opts ih =>
    intro b h fuel hfuel
    obtain ⟨iei, val⟩ := p
    simp only [encOpts] at h
    cases hf : ws.find? (fun x => x.iei == iei) with
    | none => simp [hf] at h
    | some w =>
      obtain rfl : w.iei = iei := by simpa using List.find?_some hf
      simp only [hf] at h
      split at h
      · rename_i a b' he hr
        cases h
        cases fuel with
        | zero =>
          exact absurd (List.append_eq_nil_iff.mp (List.length_eq_zero_iff.mp (Nat.le_zero.mp hfuel))).1
            (parseOpts_encOptIE hf he 0 []).1
        | succ fuel =>
          obtain ⟨hne, hp⟩ := parseOpts_encOptIE hf he fuel b'
          have := List.length_pos_iff.mpr hne
          rw [List.length_append] at hfuel
          rw [hp, ih b' hr fuel (by omega)]; rfl
      · cases h

theorem parse_encode (w : Wire) (sm : SMsg) (bs : Bytes) (hnr : noRest w = true)
    (h : encode w sm = some bs) : parse w bs = some sm := by
  unfold encode at h
  cases h1 : encMand w.mand sm.mand with
  | none => simp [h1] at h
  | some a =>
    cases h2 : encOpts w.opt sm.opt with
    | none => simp [h1, h2] at h
    | some b =>
      simp [h1, h2] at h
      subst h
      simp [parse, parseMand_encMand w.mand sm.mand a hnr h1 b, parseOpts_encOpts w.opt sm.opt b h2 b.length (Nat.le_refl _)]

/-- every plain 5GMM message with a message type starts with three one-octet elements: extended protocol discriminator,
    security header type with the spare half octet, message type -/
theorem Table.wire_gmm {T : Table} {t : Nat} {w : Wire} (hg : T.gsm = false) (ht : T.msgType = some t) (hw : T.wire = some w) :
    ∃ rest, w.mand = .v 1 :: .v 1 :: .v 1 :: rest := by
  simp only [Table.wire, headerRows, hg, ht, Option.isSome_some, if_true, Bool.false_eq_true, if_false, List.cons_append,
    List.nil_append, mandWire, Option.map_map, Option.map_eq_some_iff] at hw
  obtain ⟨m, _, rfl⟩ := hw
  exact ⟨m, rfl⟩

/-- what the encoder writes for a message whose imperative part starts with three one-octet elements -/
theorem encode_head3 {w : Wire} {rest : List MWire} {sm : SMsg} {bs : Bytes} (hw : w.mand = .v 1 :: .v 1 :: .v 1 :: rest)
    (h : encode w sm = some bs) {a b c : UInt8} {tl : List Bytes} (hm : sm.mand = [a] :: [b] :: [c] :: tl) :
    ∃ r, bs = a :: b :: c :: r := by
  unfold encode at h
  rw [hw, hm] at h
  simp only [encMand, List.length_cons, List.length_nil, if_true] at h
  cases h1 : encMand rest tl with
  | none => simp [h1] at h
  | some x =>
    cases h2 : encOpts w.opt sm.opt with
    | none => simp [h1, h2] at h
    | some y => simp [h1, h2] at h; exact ⟨x ++ y, h.symm⟩

end Stgutg.Spec.Ts24501
