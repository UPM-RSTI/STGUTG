/-
  Bit-vector algebra of `security.Count` (Model/NasProtect.lean `Count.*`): every operation on the stored
  32-bit word expressed in arithmetic on its value, for ALL 2^32 words (no enumeration).
  Every mask of counter.go is a run of ones shifted into place (`and_field`), and the setters `or` together
  fields that do not overlap (`mul_pow_or`).
-/
import Stgutg.Model.NasProtect
namespace Stgutg.Proofs.Count
open Stgutg.Model.NasProtect

theorem and_shl (x m k : Nat) : x &&& (m <<< k) = ((x >>> k) &&& m) <<< k := by
  apply Nat.eq_of_testBit_eq; intro j
  simp only [Nat.testBit_and, Nat.testBit_shiftLeft, Nat.testBit_shiftRight]
  by_cases h : k ≤ j
  · have : k + (j - k) = j := by omega
    simp [h, this]
  · simp [h]

/-- masking with `k` ones from bit `s` up keeps that field of `x` in place -/
theorem and_field (x k s : Nat) : x &&& ((2 ^ k - 1) <<< s) = x / 2 ^ s % 2 ^ k * 2 ^ s := by
  rw [and_shl, Nat.and_two_pow_sub_one_eq_mod, Nat.shiftRight_eq_div_pow, Nat.shiftLeft_eq]

/-- fields that do not overlap add up -/
theorem mul_pow_or (a b i : Nat) (h : b < 2 ^ i) : a * 2 ^ i ||| b = a * 2 ^ i + b := by
  rw [← Nat.shiftLeft_eq, Nat.shiftLeft_add_eq_or_of_lt h]

theorem toNat_maskTo24 (w : UInt32) : (Count.maskTo24Bits w).toNat = w.toNat % 2 ^ 24 :=
  Nat.and_two_pow_sub_one_eq_mod w.toNat 24

/-- masking twice is masking once: a second `Get()` returns what the first did -/
theorem maskTo24_idem (w : UInt32) : Count.maskTo24Bits (Count.maskTo24Bits w) = Count.maskTo24Bits w := by
  apply UInt32.toNat_inj.mp
  rw [toNat_maskTo24, toNat_maskTo24, Nat.mod_mod]

theorem toNat_get_value (w : UInt32) : (Count.get w).2.toNat = w.toNat % 2 ^ 24 := toNat_maskTo24 w
theorem toNat_get_stored (w : UInt32) : (Count.get w).1.toNat = w.toNat % 2 ^ 24 := toNat_maskTo24 w

theorem toNat_addOne (w : UInt32) : (Count.addOne w).toNat = (w.toNat + 1) % 2 ^ 24 := by
  rw [Count.addOne, toNat_maskTo24, UInt32.toNat_add]
  exact Nat.mod_mod_of_dvd _ (by decide)

theorem toNat_sqn (w : UInt32) : (Count.sqn w).toNat = w.toNat % 256 := by
  show (w.toNat &&& (2 ^ 8 - 1)) % 2 ^ 8 = _
  rw [Nat.and_two_pow_sub_one_eq_mod, Nat.mod_mod]

theorem toNat_overflow (w : UInt32) : (Count.overflow w).toNat = w.toNat / 256 % 65536 := by
  show (w.toNat &&& ((2 ^ 16 - 1) <<< 8)) >>> 8 % 2 ^ 16 = _
  rw [and_field, Nat.shiftRight_eq_div_pow, Nat.mul_div_cancel _ (by decide), Nat.mod_mod]

theorem toNat_setSQN (w : UInt32) (s : UInt8) : (Count.setSQN w s).toNat = w.toNat / 256 * 256 + s.toNat := by
  show w.toNat &&& ((2 ^ 24 - 1) <<< 8) ||| s.toNat = _
  rw [and_field, mul_pow_or _ _ _ s.toNat_lt, Nat.mod_eq_of_lt (by have := w.toNat_lt; omega)]

theorem toNat_setOverflow (w : UInt32) (o : UInt16) :
    (Count.setOverflow w o).toNat = w.toNat / 2 ^ 24 * 2 ^ 24 + o.toNat * 256 + w.toNat % 256 := by
  have hw := w.toNat_lt
  have ho := o.toNat_lt
  show w.toNat &&& ((2 ^ 8 - 1) <<< 24 ||| (2 ^ 8 - 1)) ||| o.toNat <<< 8 % 2 ^ 32 = _
  rw [Nat.and_or_distrib_left, and_field, Nat.and_two_pow_sub_one_eq_mod, Nat.shiftLeft_eq,
    Nat.mod_eq_of_lt (a := o.toNat * 2 ^ 8) (by omega), Nat.mod_eq_of_lt (a := w.toNat / 2 ^ 24) (by omega),
    Nat.or_assoc, Nat.or_comm (w.toNat % 2 ^ 8), mul_pow_or _ _ 8 (Nat.mod_lt _ (by decide)),
    mul_pow_or _ _ 24 (by omega)]
  omega

theorem toNat_set (w : UInt32) (o : UInt16) (s : UInt8) :
    (Count.set w o s).toNat = w.toNat / 2 ^ 24 * 2 ^ 24 + o.toNat * 256 + s.toNat := by
  rw [Count.set, toNat_setSQN, toNat_setOverflow]
  have ho : o.toNat < 2 ^ 16 := o.toNat_lt
  omega

theorem toNat_set_zero (w : UInt32) : (Count.set w 0 0).toNat % 2 ^ 24 = 0 := by
  rw [toNat_set]; simp

end Stgutg.Proofs.Count
