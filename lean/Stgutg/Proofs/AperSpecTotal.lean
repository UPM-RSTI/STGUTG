/-
  C03 helper lemmas, part 3: same domain, same bits. For schemas that pass `specOKc` in addition to `specOK` the encoder model
  also encodes every regular value the specification encodes: `encode_iff`, `encode_complete`, `marshal_iff` are `encode_ref`
  (AperSpecComp.lean) with the converse switched on.
-/
import Stgutg.Proofs.AperSpecComp

namespace Stgutg.Proofs.AperSpec
open Stgutg Stgutg.Aper Stgutg.Proofs.Bits
open Stgutg.Spec.X691 (bitsFor octetsFor pad constrainedWholeNumber lengthDeterminant lengthAndItems twosComplement octetsForSigned
  integer enumerated sizeConstraint bitString octetString)

theorem isNil_of_not_present (v : Val) (h : presentB v = false) : isNil v = true := by
  cases v <;> first | rfl | (simp [presentB] at h)

/-- the model and the specification agree exactly: same domain, same bits -/
theorem encode_iff (env : Env) (hwf : specOK env = true) (hwfc : specOKc env = true) (fuel pos : Nat) (ty : Ty)
    (params : Params) (v : Val) (bits : Bits)
    (hp : tyParamsOK env ty params = true) (hpc : tyParamsOKc ty params = true)
    (hr : regular env fuel ty params.openType v = true) :
    encField env fuel pos ty params v = .ok bits ↔ Spec.X691.encode env fuel pos ty params v = some bits :=
  (encode_ref env hwf True (fun _ => hwfc) fuel pos ty params v ⟨hp, fun _ => hpc⟩ hr).iff trivial bits

/-- **Completeness**: the encoder model encodes (with the same bits) every regular value the specification encodes -/
theorem encode_complete (env : Env) (hwf : specOK env = true) (hwfc : specOKc env = true) :
    ∀ (fuel pos : Nat) (ty : Ty) (params : Params) (v : Val) (bits : Bits),
      tyParamsOK env ty params = true → tyParamsOKc ty params = true →
      regular env fuel ty params.openType v = true →
      Spec.X691.encode env fuel pos ty params v = some bits → encField env fuel pos ty params v = .ok bits :=
  fun fuel pos ty params v bits hp hpc hr => (encode_iff env hwf hwfc fuel pos ty params v bits hp hpc hr).mpr

/-- the same at the level of `aper.MarshalWithParams` / a complete encoding (11.1) -/
theorem marshal_iff (env : Env) (hwf : specOK env = true) (hwfc : specOKc env = true) (fuel : Nat) (ty : Ty)
    (params : Params) (v : Val) (bs : Bytes)
    (hp : tyParamsOK env ty params = true) (hpc : tyParamsOKc ty params = true)
    (hr : regular env fuel ty params.openType v = true) :
    marshal env fuel ty params v = .ok bs ↔ Spec.X691.encodePdu env fuel ty params v = some bs :=
  (marshal_ref (encode_ref env hwf True (fun _ => hwfc) fuel 0 ty params v ⟨hp, fun _ => hpc⟩ hr)).iff trivial bs

end Stgutg.Proofs.AperSpec
