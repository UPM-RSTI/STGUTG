/-
  C04, composite round trip — entry of `parseField`, pointers, leaves and SEQUENCE OF.
-/
import Stgutg.Proofs.AperRTCompNE

namespace Stgutg.Proofs.AperRTComp
open Stgutg Stgutg.Aper Stgutg.Proofs.Bits Stgutg.Proofs.AperRT

theorem RT.toRT' {α : Type} {bits : Bits} {pos : Nat} {m : D α} {a : α} (h : RT bits pos m a) : RT' bits pos m a :=
  fun tail ht _ => h tail ht

theorem RT'.toRT {α : Type} {bits : Bits} {pos : Nat} {m : D α} {a : α} (h : RT' bits pos m a) (hne : bits ≠ []) :
    RT bits pos m a :=
  fun tail ht => h tail ht (by simp [hne])

theorem RT'_map {α β : Type} {bits : Bits} {pos : Nat} {m : D α} {a : α} (g : α → β) (h : RT' bits pos m a) :
    RT' bits pos (m >>= fun x => (pure (g x) : D β)) (g a) := by
  intro tail ht hne
  rw [D_bind_apply, h tail ht hne]
  rfl

theorem mkRd_len_ne {bits tail : Bits} {pos : Nat} (h : bits ++ tail ≠ []) : (mkRd (bits ++ tail) pos).len ≠ 0 := by
  unfold mkRd
  simp only [ne_eq, List.length_eq_zero_iff]
  exact h

/-! ### the entry of `parseField` (`AperTotal.entry`; the cases of `decField` are `AperTotal.decField_ptr` … `_leaf`) -/

/-- `RT'` for a computation that agrees with `m'` on every reader that is not exhausted -/
theorem RT'_of_eq {α : Type} {bits : Bits} {pos : Nat} {m m' : D α} {a : α} (h : RT bits pos m' a)
    (he : ∀ r : Rd, r.len ≠ 0 → m r = m' r) : RT' bits pos m a :=
  fun tail ht hne => (he _ (mkRd_len_ne hne)).trans (h tail ht)

theorem RT'_entry {α : Type} {bits : Bits} {pos : Nat} {body : D α} {a : α} (h : RT bits pos body a) :
    RT' bits pos (AperTotal.entry body) a :=
  RT'_of_eq h fun _ hr => AperTotal.entry_apply body hr

theorem RT'_decField_ptr (env : Env) (fuel : Nat) (t : Ty) (p : Params) (bits : Bits) (pos : Nat) (v : Val)
    (h : RT' bits pos (decField env fuel t p) v) : RT' bits pos (decField env (fuel + 1) (.ptr t) p) (.ptr v) := by
  intro tail ht hne
  rw [AperTotal.decField_ptr, AperTotal.entry_apply _ (mkRd_len_ne hne)]
  exact RT'_map Val.ptr h tail ht hne

theorem RT'_decField_leaf (env : Env) (fuel : Nat) (ty : Ty) (p : Params) (bits : Bits) (pos : Nat) (v : Val)
    (hl : AperTotal.isLeaf ty = true) (h : RT bits pos (leafDec ty p) v) :
    RT' bits pos (decField env (fuel + 1) ty p) v := by
  rw [AperTotal.decField_leaf env fuel ty p hl]
  exact RT'_entry h

/-! ### SEQUENCE OF -/

/-- the element count: what `sliceCountBits` wrote is what `sliceCountWith` reads -/
theorem RT_sliceCountWith (pos1 n : Nat) (lb ub sr : Int) (cb : Bits) (hlb : 0 ≤ lb) (hfix : sr = 1 → ub = lb)
    (h : sliceCountBits pos1 n lb ub sr = .ok cb) : RT cb pos1 (sliceCountWith lb sr) n := by
  obtain ⟨hge, hcase⟩ := sliceCountBits_ok h
  unfold sliceCountWith
  rcases hcase with ⟨h1, hub, rfl⟩ | ⟨h1, hpos, hc⟩ | ⟨hpos, hn, hc⟩
  · rw [if_neg (by omega), if_pos h1]
    have : lb.toNat = n := by have := hfix h1; omega
    rw [this]
    exact RT_pure _ _
  · rw [if_pos (by omega)]
    apply RT_catchErr
    have := RT_map (fun k => k + lb.toNat) (RT_constraintValue _ _ _ _ hc)
    rw [show ((n : Int) - lb).toNat + lb.toNat = n by omega] at this
    exact this
  · rw [if_neg (by omega), if_neg (by omega)]
    refine RT_bind_nil (RT_length _ _ _ _ hn hc) ?_
    simp only [Bool.false_eq_true, if_false]
    exact RT_pure _ _

theorem sliceCount_eq (p : Params) (se : Bool) :
    sliceCount p se = sliceCountWith (sliceLB p)
      (match p.sizeUB with
       | some u => if ¬ se ∧ u < 65536 then u - sliceLB p + 1 else -1
       | none => -1) := by
  unfold sliceCount sliceLB
  cases p.sizeLB <;> rfl

/-- header (extension bit) and count of a SEQUENCE OF -/
theorem RT_sliceHeader (p : Params) (pos n : Nat) (pre cb : Bits) (lb ub sr : Int) (hok : sliceOK p = true)
    (hh : sliceHeader p n = .ok (pre, lb, ub, sr))
    (hc : sliceCountBits (pos + pre.length) n lb ub sr = .ok cb) :
    RT (pre ++ cb) pos (extBits p true >>= fun x => sliceCount p x.1) n := by
  unfold sliceOK at hok
  simp only [Bool.and_eq_true, decide_eq_true_eq, Bool.or_eq_true, Bool.not_eq_true'] at hok
  obtain ⟨hlb0, hext⟩ := hok
  obtain ⟨hlb, hcase⟩ := sliceHeader_spec _ _ _ _ _ _ hh
  subst hlb
  rcases hcase with ⟨u, hu, hu64, hse, hgt, hpre, hsr⟩ | ⟨u, hu, hu64, hle, hpre, hub, hsr⟩ | ⟨hbig, hpre, hsr⟩
  · -- extended: bit 1, general length
    have hx : RT [true] pos (extBits p true) (true, false) := by
      simpa [hse] using RT_extBits_sized pos p true true (by simp) (by simp [hse])
    rw [hpre]
    refine RT_bind hx ?_
    dsimp only
    rw [sliceCount_eq, hu]
    simp only [not_true_eq_false, false_and, if_false]
    rw [hpre, hsr] at hc
    exact RT_sliceCountWith _ _ _ _ _ _ hlb0 (by intro h; omega) hc
  · -- within the root: bit 0 (when extensible), constrained count
    have hx := RT_extBits_sized pos p true false (by simp) (fun _ => rfl)
    rw [hpre]
    refine RT_bind hx ?_
    dsimp only
    rw [sliceCount_eq, hu]
    simp only [Bool.false_eq_true, not_false_eq_true, hu64, and_self, if_true]
    rw [hpre, hsr] at hc
    exact RT_sliceCountWith _ _ _ _ _ _ hlb0 (by omega) hc
  · -- no usable upper bound: general length
    have hse : p.sizeExt = false := by
      rcases hext with h | h
      · exact h
      · cases hu : p.sizeUB with
        | none => rw [hu] at h; simp at h
        | some u =>
          rw [hu] at h
          simp only [decide_eq_true_eq] at h
          exact absurd h (hbig u hu)
    have hx : RT [] pos (extBits p true) (false, false) := by
      simpa [hse] using RT_extBits_sized pos p true false (by simp) (fun _ => rfl)
    have hsr' : (match p.sizeUB with
        | some u => if ¬ false = true ∧ u < 65536 then u - sliceLB p + 1 else -1
        | none => (-1 : Int)) = -1 := by
      cases hu : p.sizeUB with
      | none => rfl
      | some u => simp [hbig u hu]
    rw [hpre, hsr] at hc
    rw [hpre]
    refine RT_bind hx ?_
    dsimp only
    rw [sliceCount_eq, hsr']
    exact RT_sliceCountWith _ _ _ _ _ _ hlb0 (by omega) hc

theorem RT_decElems (f : Nat → Val → Res Bits) (g : D Val) : ∀ (vs : List Val) (pos : Nat) (eb : Bits),
    (∀ v ∈ vs, ∀ pos bits, f pos v = .ok bits → RT bits pos g v) →
    encElems f pos vs = .ok eb → RT eb pos (decElems g vs.length) vs := by
  intro vs
  induction vs with
  | nil =>
    intro pos eb _ h
    simp only [encElems, Except.ok.injEq] at h
    rw [← h]
    exact RT_pure _ _
  | cons v vs ih =>
    intro pos eb hf h
    unfold encElems at h
    cases ha : f pos v with
    | error e => rw [ha] at h; simp at h
    | ok a =>
      rw [ha] at h
      dsimp only at h
      cases hb : encElems f (pos + a.length) vs with
      | error e => rw [hb] at h; simp at h
      | ok b =>
        rw [hb] at h
        simp only [Except.ok.injEq] at h
        rw [← h]
        simp only [List.length_cons, decElems]
        refine RT_bind (hf v List.mem_cons_self pos a ha) ?_
        have := RT_map (fun l => v :: l) (ih (pos + a.length) b (fun v' hv' => hf v' (List.mem_cons_of_mem _ hv')) hb)
        exact this

/-- SEQUENCE OF as a whole, given the round trip of every element -/
theorem RT'_decField_slice (env : Env) (fuel : Nat) (t : Ty) (p : Params) (bits : Bits) (pos : Nat) (vs : List Val)
    (hok : sliceOK p = true)
    (hel : ∀ v ∈ vs, ∀ pos bits, encField env fuel pos t (stripSizeE p) v = .ok bits →
      RT bits pos (decField env fuel t (stripSize p)) v)
    (h : encSlice (fun q v => encField env fuel q t (stripSizeE p) v) p pos vs = .ok bits) :
    RT' bits pos (decField env (fuel + 1) (.slice t) p) (.slice vs) := by
  obtain ⟨pre, lb, ub, sr, cb, eb, hh, hc, he, rfl⟩ := encSlice_ok h
  have hhdr := RT_sliceHeader p pos vs.length pre cb lb ub sr hok hh hc
  have hels := RT_decElems (fun q v => encField env fuel q t (stripSizeE p) v) (decField env fuel t (stripSize p))
    vs (pos + pre.length + cb.length) eb hel he
  have hb : RT (pre ++ cb ++ eb) pos ((extBits p true >>= fun x => sliceCount p x.1) >>= fun n =>
      decElems (decField env fuel t (stripSize p)) n >>= fun vs => (pure (.slice vs) : D Val)) (.slice vs) := by
    refine RT_bind hhdr ?_
    rw [List.length_append, ← Nat.add_assoc]
    exact RT_map Val.slice hels
  rw [AperTotal.decField_slice]
  exact RT'_of_eq hb fun r hr => (AperTotal.entry_apply _ hr).trans (D_bind_assoc_apply _ _ _ r).symm

end Stgutg.Proofs.AperRTComp
