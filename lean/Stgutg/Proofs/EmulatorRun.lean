/-
  C01 helper: symbolic execution of the emulator model's procedures (Model/Emulator.lean) — which uplink messages they write,
  given what they read. `Runs m plmn ins outs reps a` says it for a procedure as a whole (the downlink messages read, the uplink
  messages and reports written, the result), with one rule per kind of statement; the procedures are read top to bottom with
  these rules where the calls they make are known (`registerUE_runs` in Props/C01.lean, `establishPDU_runs` … in
  Proofs/EmulatorLifeLoops.lean). What a registration reads: `DlReads`.
-/
import Stgutg.Proofs.Emulator
import Stgutg.Props.C02

namespace Stgutg.Proofs.EmulatorRun
open Stgutg Stgutg.Model.Emulator Stgutg.Builders Stgutg.Proofs.Emulator

theorem getPlmn_apply (w : World) : getPlmn w = (w, .ok w.plmn) := rfl
theorem setPlmn_apply (p : Bytes) (w : World) : setPlmn p w = ({ w with plmn := p }, .ok ()) := rfl
theorem write_apply (b : Bytes) (w : World) : write b w = ({ w with ulsRev := b :: w.ulsRev }, .ok ()) := rfl
theorem read_cons (d : Bytes) (rest : List Bytes) (w : World) (h : w.dls = d :: rest) :
    Model.Emulator.read w = ({ w with dls := rest }, .ok (d.take 2048)) := by
  unfold Model.Emulator.read; rw [h]

/-- one statement of a procedure that succeeds: the run goes on with its result. The symbolic execution lemmas below take a
    run apart by rewriting with this, statement by statement; unfolding `>>=` into its `match` instead would leave the kernel
    to compare matches on calls it cannot evaluate. -/
theorem bind_ok {α β : Type} {m : M α} {w w' : World} {a : α} (h : m w = (w', .ok a)) (f : α → M β) :
    (m >>= f) w = f a w' := by rw [bind_apply, h]

theorem checked_ok_apply {α : Type} (a : α) (w : World) : checked (.ok a) w = (w, .ok a) := rfl

theorem orTrap_ok_apply {α : Type} (a : α) (w : World) : orTrap (.ok a) w = (w, .ok a) := rfl

theorem wrapper_ok (E : Model.Convert.Ext) (wr : Wrapper) (args : List Aper.Val) (w : World) (r : Res Bytes)
    (h : wr.run E w.plmn args = .ok r) : wrapper E wr args w = (w, .ok r) := by
  rw [wrapper, bind_ok (getPlmn_apply w)]
  simp only [h]
  rfl

theorem wrapperChecked_ok (E : Model.Convert.Ext) (wr : Wrapper) (args : List Aper.Val) (w : World) (b : Bytes)
    (h : wr.run E w.plmn args = .ok (.ok b)) : wrapperChecked E wr args w = (w, .ok b) := by
  rw [wrapperChecked, bind_ok (wrapper_ok E wr args w _ h)]
  rfl

theorem wrapperUnchecked_ok (E : Model.Convert.Ext) (wr : Wrapper) (args : List Aper.Val) (w : World) (b : Bytes)
    (h : wr.run E w.plmn args = .ok (.ok b)) : wrapperUnchecked E wr args w = (w, .ok b) := by
  rw [wrapperUnchecked, bind_ok (wrapper_ok E wr args w _ h)]
  rfl

/-- `m`, run while `TestPlmn` is `plmn` against a peer whose next messages are `ins`, completes with result `a`, having read exactly
    `ins`, written `outs` and reported `reps` (each in order). A procedure is proved to run by reading it top to bottom with the
    rules below, one per kind of statement; no world is ever written out. -/
def Runs {α : Type} (m : M α) (plmn : Bytes) (ins outs : List Bytes) (reps : List Report) (a : α) : Prop :=
  ∀ (w : World) (rest : List Bytes), w.plmn = plmn → w.dls = ins ++ rest →
    m w = ({ w with dls := rest, ulsRev := outs.reverse ++ w.ulsRev, reportsRev := reps.reverse ++ w.reportsRev }, .ok a)

namespace Runs
variable {α β : Type} {plmn : Bytes} {ins outs : List Bytes} {reps : List Report}

theorem pure (a : α) : Runs (Pure.pure a : M α) plmn [] [] [] a := by
  intro w rest _ hd
  cases w
  cases hd
  rfl

/-- a statement that neither reads nor writes: a library call that returned `a` -/
theorem bind_val {m : M α} {a : α} (hm : ∀ w, m w = (w, .ok a)) {f : α → M β} {b : β}
    (h : Runs (f a) plmn ins outs reps b) : Runs (m >>= f) plmn ins outs reps b := by
  intro w rest hp hd
  rw [bind_ok (hm w), h w rest hp hd]

theorem bind_wrapperChecked {E : Model.Convert.Ext} {wr : Wrapper} {args : List Aper.Val} {x : Bytes}
    (hx : wr.run E plmn args = .ok (.ok x)) {f : Bytes → M β} {b : β}
    (h : Runs (f x) plmn ins outs reps b) : Runs (wrapperChecked E wr args >>= f) plmn ins outs reps b := by
  intro w rest hp hd
  rw [bind_ok (wrapperChecked_ok E wr args w x (hp ▸ hx)), h w rest hp hd]

theorem bind_wrapperUnchecked {E : Model.Convert.Ext} {wr : Wrapper} {args : List Aper.Val} {x : Bytes}
    (hx : wr.run E plmn args = .ok (.ok x)) {f : Bytes → M β} {b : β}
    (h : Runs (f x) plmn ins outs reps b) : Runs (wrapperUnchecked E wr args >>= f) plmn ins outs reps b := by
  intro w rest hp hd
  rw [bind_ok (wrapperUnchecked_ok E wr args w x (hp ▸ hx)), h w rest hp hd]

theorem bind_write (x : Bytes) {f : Unit → M β} {b : β} (h : Runs (f ()) plmn ins outs reps b) :
    Runs (write x >>= f) plmn ins (x :: outs) reps b := by
  intro w rest hp hd
  rw [bind_ok (write_apply x w)]
  refine (h { w with ulsRev := x :: w.ulsRev } rest hp hd).trans ?_
  simp

theorem bind_read (d : Bytes) {f : Bytes → M β} {b : β} (h : Runs (f (d.take 2048)) plmn ins outs reps b) :
    Runs (Model.Emulator.read >>= f) plmn (d :: ins) outs reps b := by
  intro w rest hp hd
  rw [bind_ok (read_cons d (ins ++ rest) w hd)]
  exact h _ rest hp rfl

theorem bind_report (r : Report) {f : Unit → M β} {b : β} (h : Runs (f ()) plmn ins outs reps b) :
    Runs (report r >>= f) plmn ins outs (r :: reps) b := by
  intro w rest hp hd
  rw [bind_ok (show report r w = ({ w with reportsRev := r :: w.reportsRev }, .ok ()) from rfl)]
  refine (h { w with reportsRev := r :: w.reportsRev } rest hp hd).trans ?_
  simp

end Runs

/-- **`ManageNGSetup` writes the NG SETUP REQUEST and records the PLMN**, when the peer answers with a decodable message -/
theorem manageNGSetup_run (E : Model.Convert.Ext) (cfg : Cfg) (w : World) (m b1 d1 : Bytes) (rest : List Bytes) (v : Aper.Val)
    (hplmn : Model.Suci.ngSetupPlmn cfg.imsi cfg.mnc.length = .ok m)
    (hrun : Wrapper.run E .GetNGSetupRequest w.plmn [.octs cfg.gnbId, .octs m, .int cfg.bitlength, .str cfg.name] = .ok (.ok b1))
    (hdls : w.dls = d1 :: rest) (hdec : ngapDecode (d1.take 2048) = .ok v) :
    manageNGSetup E cfg w = ({ w with dls := rest, ulsRev := b1 :: w.ulsRev, plmn := m }, .ok ()) := by
  rw [manageNGSetup, hplmn, bind_ok (orTrap_ok_apply _ _), bind_ok (wrapper_ok E _ _ w _ hrun), bind_ok (setPlmn_apply _ _),
    bind_ok (checked_ok_apply _ _), bind_ok (write_apply _ _),
    bind_ok (read_cons d1 rest { w with plmn := m, ulsRev := b1 :: w.ulsRev } hdls), hdec, bind_ok (checked_ok_apply _ _)]
  rfl

theorem ctor_ok (L : Nas.Layout) (m : Res Nas.Msg) (b : Bytes) (h : Nas.Ctor.encodeWith L m = .ok b) (w : World) :
    ctor L m w = (w, .ok b) := by
  unfold ctor; rw [h]; rfl

/-- `EncodeNasPduWithSecurity` of the emulator on a message that `PlainNasDecode` / `PlainNasEncode` reproduce -/
theorem protect_ok (P : Prims) (ue : Ue) (pdu : Bytes) (sht : UInt8) (newCtx : Bool) (pm : Nas.PlainMsg)
    (hd : Nas.plainDecode nasCodec pdu = .ok pm) (he : Nas.plainEncode nasCodec pm = .ok pdu) (o : Bytes)
    (ho : (Model.NasProtect.encodeNasPduWithSecurity P ue.sec pdu sht true newCtx).2 = .ok o) (w : World) :
    protect P ue pdu sht newCtx w =
      (w, .ok ({ ue with sec := (Model.NasProtect.encodeNasPduWithSecurity P ue.sec pdu sht true newCtx).1 }, o)) := by
  unfold protect Model.Emulator.encodeNasPduWithSecurity
  simp only [hd, he, Bool.not_true, Bool.false_eq_true, if_false, bind_apply, ho, checked, pure_apply]

/-- the NAS security state after `RegisterUE` installed the derived keys -/
abbrev secAfterKeys (ue1 : Ue) (keys : Model.KeyDerivation.UeKeys) : Model.NasProtect.UeSec :=
  { ulCount := ue1.sec.ulCount, dlCount := ue1.sec.dlCount, cipheringAlg := ue1.sec.cipheringAlg,
    integrityAlg := ue1.sec.integrityAlg, knasEnc := keys.knasEnc, knasInt := keys.knasInt }

/-- the UE context after Security Mode Complete was protected -/
abbrev ueAfterSmc (P : Prims) (ue1 : Ue) (keys : Model.KeyDerivation.UeKeys) (amf : Int) (smc : Bytes) : Ue :=
  { ctx := ue1.ctx, amfUeNgapId := amf,
    sec := (Model.NasProtect.encodeNasPduWithSecurity P (secAfterKeys ue1 keys) smc 4 true true).1, kamf := keys.kamf }

/-- what `RegisterUE` reads from the peer and what its library calls return, for one registration (the hypothesis of
    `C01_accepted_partial`) -/
structure RegReads (P : Prims) (E : Model.Convert.Ext) (cfg : Cfg) (ue0 : Ue) (plmn : Bytes) (d2 d3 d4 d5 : Bytes)
    (suci nas2 b2 nas3 b3 rr smc o1 b4 b5 rc o2 b6 : Bytes) (amf : Int) (keys : Model.KeyDerivation.UeKeys)
    (ue1 : Ue) where
  hsuci : Model.Suci.encodeSuci (Model.Suci.trimImsiPrefix ue0.ctx.supi) cfg.mnc.length = .ok suci
  henc2 : Nas.Ctor.encodeWith Gen.Nas.layout_RegistrationRequest
    (Nas.Ctor.registrationRequest 1 (suciVal suci) none (some (secCapVal ue0)) none none none) = .ok nas2
  hrun2 : Wrapper.run E .GetInitialUEMessage plmn [.int ue0.ctx.ranUeNgapId, .octs nas2, .str []] = .ok (.ok b2)
  /-- `d2`: a decodable DOWNLINK NAS TRANSPORT … -/
  v2 : Aper.Val
  dnt : Aper.Val
  hdec2 : ngapDecode (d2.take 2048) = .ok v2
  hdnt : initiatingAlt altDownlinkNASTransport v2 = some (some dnt)
  /-- … whose NAS-PDU `GetNasPdu` returns as a message (the UE's identity and algorithms untouched) … -/
  pm : Option Nas.PlainMsg
  hgn : ∀ w, getNasPdu P ue0 dnt w = (w, .ok (ue1, pm))
  /-- … that is an Authentication Request with these AUTN and RAND -/
  autn : Bytes
  rand : Bytes
  hauth : authParams pm = some (autn, rand)
  hkeys : Model.KeyDerivation.DeriveRESstarAndSetKey P ue1.ctx.supi ue1.ctx.cipheringAlg ue1.ctx.integrityAlg
    { amf := ue1.ctx.amf, k := ue1.ctx.k, opc := ue1.ctx.opc, op := ue1.ctx.op } autn rand
    (Model.KeyDerivation.snName cfg.mnc cfg.mcc) cfg.mnc cfg.mcc = .ok keys
  /-- the AMF-UE-NGAP-ID is the first IE of the DOWNLINK NAS TRANSPORT -/
  hamf : ((ieList dnt).bind (·[0]?) |>.bind (ieAlt altDnAMFUENGAPID) |>.bind deref |>.bind (field 0)) = some (.int amf)
  henc3 : Nas.Ctor.encodeWith Gen.Nas.layout_AuthenticationResponse (Nas.Ctor.authenticationResponse keys.resStar []) = .ok nas3
  hrun3 : Wrapper.run E .GetUplinkNASTransport plmn [.int amf, .int ue1.ctx.ranUeNgapId, .octs nas3] = .ok (.ok b3)
  /-- `d3` (Security Mode Command), `d4` (INITIAL CONTEXT SETUP REQUEST): decodable; `d5`: the decoder does not trap -/
  v3 : Aper.Val
  hdec3 : ngapDecode (d3.take 2048) = .ok v3
  hencrr : Nas.Ctor.encodeWith Gen.Nas.layout_RegistrationRequest
    (Nas.Ctor.registrationRequest 1 (suciVal suci) none (some (secCapVal ue0)) (some cap5GMMVal) none none) = .ok rr
  hencsmc : Nas.Ctor.encodeWith Gen.Nas.layout_SecurityModeComplete (Nas.Ctor.securityModeComplete (some rr)) = .ok smc
  /-- `PlainNasDecode` then `PlainNasEncode` reproduce the constructors' octets (C08) -/
  pm4 : Nas.PlainMsg
  hpd4 : Nas.plainDecode nasCodec smc = .ok pm4
  hpe4 : Nas.plainEncode nasCodec pm4 = .ok smc
  ho1 : (Model.NasProtect.encodeNasPduWithSecurity P (secAfterKeys ue1 keys) smc 4 true true).2 = .ok o1
  hrun4 : Wrapper.run E .GetUplinkNASTransport plmn [.int amf, .int ue1.ctx.ranUeNgapId, .octs o1] = .ok (.ok b4)
  v4 : Aper.Val
  hdec4 : ngapDecode (d4.take 2048) = .ok v4
  hrun5 : Wrapper.run E .GetInitialContextSetupResponse plmn [.int amf, .int ue1.ctx.ranUeNgapId] = .ok (.ok b5)
  hencrc : Nas.Ctor.encodeWith Gen.Nas.layout_RegistrationComplete (Nas.Ctor.registrationComplete none) = .ok rc
  pm6 : Nas.PlainMsg
  hpd6 : Nas.plainDecode nasCodec rc = .ok pm6
  hpe6 : Nas.plainEncode nasCodec pm6 = .ok rc
  ho2 : (Model.NasProtect.encodeNasPduWithSecurity P (Model.NasProtect.encodeNasPduWithSecurity P
    (secAfterKeys ue1 keys) smc 4 true true).1 rc 2 true false).2 = .ok o2
  hrun6 : Wrapper.run E .GetUplinkNASTransport plmn [.int amf, .int ue1.ctx.ranUeNgapId, .octs o2] = .ok (.ok b6)
  hdec5 : ngapDecode (d5.take 2048) ≠ .error .panic ∧ ngapDecode (d5.take 2048) ≠ .error .hang

/-- the DOWNLINK side only: what `RegisterUE` reads from the peer's four answers, what `GetNasPdu` / `authParams` /
    `DeriveRESstarAndSetKey` make of the first one. Everything else in `RegReads` is a conclusion of the C01 theorems
    (and of C08 for the re-encoding inside `EncodeNasPduWithSecurity`: Proofs/EmulatorReencode.lean). -/
structure DlReads (P : Prims) (cfg : Cfg) (ue0 : Ue) (d2 d3 d4 d5 : Bytes) (amf : Int) (keys : Model.KeyDerivation.UeKeys)
    (ue1 : Ue) where
  v2 : Aper.Val
  dnt : Aper.Val
  hdec2 : ngapDecode (d2.take 2048) = .ok v2
  hdnt : initiatingAlt altDownlinkNASTransport v2 = some (some dnt)
  pm : Option Nas.PlainMsg
  hgn : ∀ w, getNasPdu P ue0 dnt w = (w, .ok (ue1, pm))
  autn : Bytes
  rand : Bytes
  hauth : authParams pm = some (autn, rand)
  hkeys : Model.KeyDerivation.DeriveRESstarAndSetKey P ue1.ctx.supi ue1.ctx.cipheringAlg ue1.ctx.integrityAlg
    { amf := ue1.ctx.amf, k := ue1.ctx.k, opc := ue1.ctx.opc, op := ue1.ctx.op } autn rand
    (Model.KeyDerivation.snName cfg.mnc cfg.mcc) cfg.mnc cfg.mcc = .ok keys
  hamf : ((ieList dnt).bind (·[0]?) |>.bind (ieAlt altDnAMFUENGAPID) |>.bind deref |>.bind (field 0)) = some (.int amf)
  v3 : Aper.Val
  hdec3 : ngapDecode (d3.take 2048) = .ok v3
  v4 : Aper.Val
  hdec4 : ngapDecode (d4.take 2048) = .ok v4
  hdec5 : ngapDecode (d5.take 2048) ≠ .error .panic ∧ ngapDecode (d5.take 2048) ≠ .error .hang

/-- test mode with `N` registrations requested and nothing after them is `ManageNGSetup` followed by the registration
    loop: the four loops after it have bound 0 -/
theorem testMode_registrations (P : Prims) (E : Model.Convert.Ext) (cfg : Cfg) (N : Nat)
    (hreg : cfg.reg = (N : Int)) (hpdu : cfg.pdu = 0) (hdereg : cfg.dereg = 0) (w w1 w2 : World) (ues : List Ue)
    (hsetup : manageNGSetup E cfg w = (w1, .ok ())) (hloop : registerLoop P E cfg N 0 [] w1 = (w2, .ok ues)) :
    testMode P E cfg w = (w2, .ok ()) := by
  obtain ⟨hnum, hregs⟩ := Props.C02.genNumbers_eq (countsOf cfg)
  have hregs : (genRegistrations (countsOf cfg)).toNat = N := by rw [hregs]; simp [countsOf, hreg]
  have hnum : genNumbers (countsOf cfg) = numbers N 0 cfg.svc cfg.rel 0 := by rw [hnum]; simp [countsOf, hreg, hpdu, hdereg]
  have hmin0 : (Model.FailStop.goMin (N : Int) 0).toNat = 0 := by
    unfold Model.FailStop.goMin
    split <;> omega
  have hmin : ∀ b : Int, (Model.FailStop.goMin (Model.FailStop.goMin (N : Int) 0) b).toNat = 0 := by
    intro b
    unfold Model.FailStop.goMin
    split <;> split <;> omega
  unfold testMode
  simp only [bind_apply, hsetup, hregs, hloop, hnum, numbers, hmin0, hmin, forUes, pure_apply]

end Stgutg.Proofs.EmulatorRun
