/-
  C04, composite round trip — SEQUENCE: OPTIONAL bitmap, the component loop (absent optionals, open-type
  reference values read from the values decoded so far), and the struct case of `parseField`.
-/
import Stgutg.Proofs.AperRTCompSlice
import Stgutg.Proofs.AperRTCompBits

namespace Stgutg.Proofs.AperRTComp
open Stgutg Stgutg.Aper Stgutg.Proofs.Bits Stgutg.Proofs.AperRT

theorem decSeqFields_cons (g : Ty → Params → D Val) (rfv : Ty → Val → Res Int) (F : List Field)
    (i oc ob : Nat) (fd : Field) (frest : List Field) (vals : List Val) :
    decSeqFields g rfv F i oc ob (fd :: frest) vals =
      (if decide (fd.params.optional ∧ oc > 0 ∧ ¬ (ob.testBit (oc - 1))) = true then
        decSeqFields g rfv F (i + 1) (if fd.params.optional ∧ oc > 0 then oc - 1 else oc) ob frest vals
      else
        match resolveRef rfv F vals i fd with
        | .error e => D.fail e
        | .ok fp => g fd.ty fp >>= fun v =>
            decSeqFields g rfv F (i + 1) (if fd.params.optional ∧ oc > 0 then oc - 1 else oc) ob frest (setAt vals i v)) := by
  rw [decSeqFields]
  rfl

/-- the decoder's value list on reaching field `i`: the components before `i` as decoded (`FS`), the others still the
    zero values it started from (`Z`) -/
def valsAt (FS Z : List Val) (i : Nat) : List Val := FS.take i ++ Z.drop i

theorem valsAt_skip (FS Z : List Val) (i : Nat) (v : Val)
    (h1 : FS[i]? = some v) (h2 : Z[i]? = some v) : valsAt FS Z i = valsAt FS Z (i + 1) := by
  unfold valsAt
  apply List.ext_getElem?
  intro k
  have hi : i < FS.length := by
    rcases Nat.lt_or_ge i FS.length with h | h
    · exact h
    · rw [List.getElem?_eq_none h] at h1; cases h1
  simp only [List.getElem?_append, List.length_take, List.getElem?_take, List.getElem?_drop]
  grind

theorem valsAt_set (FS Z : List Val) (i : Nat) (v : Val) (hl : FS.length = Z.length)
    (h1 : FS[i]? = some v) : setAt (valsAt FS Z i) i v = valsAt FS Z (i + 1) := by
  unfold valsAt setAt
  apply List.ext_getElem?
  intro k
  have hi : i < FS.length := by
    rcases Nat.lt_or_ge i FS.length with h | h
    · exact h
    · rw [List.getElem?_eq_none h] at h1; cases h1
  simp only [List.getElem?_set, List.getElem?_append, List.length_take, List.getElem?_take, List.getElem?_drop, List.length_append, List.length_drop]
  grind

theorem valsAt_lt (FS Z : List Val) (i k : Nat) (hk : k < i) (hi : i ≤ FS.length) : (valsAt FS Z i)[k]? = FS[k]? := by
  unfold valsAt
  simp only [List.getElem?_append, List.length_take, List.getElem?_take]
  grind

theorem valsAt_end (FS Z : List Val) (i : Nat) (hl : FS.length = Z.length) (hi : FS.length ≤ i) : valsAt FS Z i = FS := by
  unfold valsAt
  rw [List.take_of_length_le hi, List.drop_of_length_le (by omega), List.append_nil]

theorem refIndex_lt (fields : List Field) (name : String) (i k : Nat) (h : refIndex fields name i = some k) : k < i := by
  unfold refIndex at h
  split at h
  · rename_i k' hk
    simp only [Option.some.injEq] at h
    subst h
    rw [List.findIdx?_eq_some_iff_getElem] at hk
    obtain ⟨hlt, _⟩ := hk
    simp only [List.length_take] at hlt
    omega
  · cases h

theorem resolveRef_congr (rfv : Ty → Val → Res Int) (F : List Field) (vals fs : List Val) (i : Nat) (fd : Field)
    (h : ∀ k, k < i → vals[k]? = fs[k]?) : resolveRef rfv F vals i fd = resolveRef rfv F fs i fd := by
  unfold resolveRef
  split
  · cases hr : refIndex F fd.params.refField i with
    | none => rfl
    | some k =>
      dsimp only
      rw [h k (refIndex_lt _ _ _ _ hr)]
  · rfl

theorem testBit_bitsToNat (bm : Bits) : ∀ k, k < bm.length → bm[bm.length - 1 - k]? = some ((bitsToNat bm).testBit k) := by
  induction bm with
  | nil => intro k hk; simp at hk
  | cons x xs ih =>
    intro k hk
    rw [bitsToNat_cons]
    simp only [List.length_cons] at hk ⊢
    have hlt := bitsToNat_lt xs
    rw [Nat.mul_comm, Nat.testBit_two_pow_mul_add _ hlt]
    by_cases hkn : k < xs.length
    · simp only [hkn, if_true]
      rw [← ih k hkn]
      have e : xs.length + 1 - 1 - k = (xs.length - 1 - k) + 1 := by omega
      rw [e, List.getElem?_cons_succ]
    · have hk' : k = xs.length := by omega
      subst hk'
      simp only [Nat.lt_irrefl, if_false, Nat.sub_self, Nat.add_sub_cancel, List.getElem?_cons_zero]
      cases x <;> simp
theorem drop_cons_facts {α : Type} (l : List α) (i : Nat) (x : α) (rest : List α) (h : l.drop i = x :: rest) :
    l[i]? = some x ∧ l.drop (i + 1) = rest ∧ i < l.length := by
  have hi : i < l.length := by
    rcases Nat.lt_or_ge i l.length with h' | h'
    · exact h'
    · rw [List.drop_of_length_le h'] at h; cases h
  refine ⟨?_, ?_, hi⟩
  · have := List.getElem?_drop (xs := l) (i := i) (j := 0)
    rw [h] at this
    simpa using this.symm
  · have : l.drop (i + 1) = (l.drop i).drop 1 := by rw [List.drop_drop]
    rw [this, h]; rfl

theorem bm_tail_facts (x : Bool) (b : Bits) (optBits : Nat)
    (H : ∀ k, k < (x :: b).length → (x :: b)[(x :: b).length - 1 - k]? = some (optBits.testBit k)) :
    optBits.testBit b.length = x ∧ ∀ k, k < b.length → b[b.length - 1 - k]? = some (optBits.testBit k) := by
  constructor
  · have := H b.length (by simp)
    simp only [List.length_cons, Nat.add_sub_cancel, Nat.sub_self, List.getElem?_cons_zero, Option.some.injEq] at this
    exact this.symm
  · intro k hk
    have := H k (by simp; omega)
    simp only [List.length_cons, Nat.add_sub_cancel] at this
    have e : b.length - k = (b.length - 1 - k) + 1 := by omega
    rw [e, List.getElem?_cons_succ] at this
    exact this

/-- the field loop of a SEQUENCE: started at field `i` with the values decoded so far, the decoder reads
    back every remaining component and ends with the encoder's value list -/
theorem RT_seqFields (f : Nat → Ty → Params → Val → Res Bits) (g : Ty → Params → D Val) (rfv : Ty → Val → Res Int)
    (F : List Field) (FS Z : List Val) (optBits : Nat)
    (hlen : FS.length = F.length) (hzlen : Z.length = F.length)
    (Hf : ∀ j fd v fp pos a, F[j]? = some fd → FS[j]? = some v → resolveRef rfv F FS j fd = .ok fp →
      f pos fd.ty fp v = .ok a → RT a pos (g fd.ty fp) v)
    (Hz : ∀ (j : Nat) (fd : Aper.Field) (v : Val), F[j]? = some fd → FS[j]? = some v → fd.params.optional = true → isNil v = true → Z[j]? = some v) :
    ∀ (frest : List Field) (vrest : List Val) (i pos : Nat) (sbm body : Bits),
      F.drop i = frest → FS.drop i = vrest →
      optBitmap frest vrest = .ok sbm →
      (∀ k, k < sbm.length → sbm[sbm.length - 1 - k]? = some (optBits.testBit k)) →
      encSeqFields f rfv F FS i pos frest vrest = .ok body →
      RT body pos (decSeqFields g rfv F i sbm.length optBits frest (valsAt FS Z i)) FS := by
  intro frest
  induction frest with
  | nil =>
    intro vrest i pos sbm body hF hFS hbm H henc
    have hi : F.length ≤ i := by
      rcases Nat.lt_or_ge i F.length with h' | h'
      · have := List.length_drop (i := i) (l := F)
        rw [hF] at this; simp at this; omega
      · exact h'
    simp only [encSeqFields, Except.ok.injEq] at henc
    rw [← henc]
    unfold decSeqFields
    rw [valsAt_end FS Z i (by omega) (by omega)]
    exact RT_pure _ _
  | cons fd frest ih =>
    intro vrest i pos sbm body hF hFS hbm H henc
    cases vrest with
    | nil => simp [optBitmap, err] at hbm
    | cons v vrest =>
      obtain ⟨hFi, hFd, hiF⟩ := drop_cons_facts F i fd frest hF
      obtain ⟨hVi, hVd, hiV⟩ := drop_cons_facts FS i v vrest hFS
      rw [encSeqFields_cons] at henc
      rw [decSeqFields_cons]
      have hcongr : resolveRef rfv F (valsAt FS Z i) i fd = resolveRef rfv F FS i fd :=
        resolveRef_congr rfv F _ FS i fd (fun k hk => valsAt_lt FS Z i k hk (by omega))
      -- the coded (non-skipped) case, given the remaining bitmap `b` and the decoder's next count
      have coded : ∀ (b : Bits) (oc' : Nat), oc' = b.length → optBitmap frest vrest = .ok b →
          (∀ k, k < b.length → b[b.length - 1 - k]? = some (optBits.testBit k)) →
          (match resolveRef rfv F FS i fd with
            | .error e => .error e
            | .ok fp =>
              match f pos fd.ty fp v with
              | .error e => .error e
              | .ok a =>
                match encSeqFields f rfv F FS (i + 1) (pos + a.length) frest vrest with
                | .error e => .error e
                | .ok b => .ok (a ++ b)) = Except.ok body →
          RT body pos
            (match resolveRef rfv F (valsAt FS Z i) i fd with
              | .error e => D.fail e
              | .ok fp => g fd.ty fp >>= fun v' =>
                  decSeqFields g rfv F (i + 1) oc' optBits frest (setAt (valsAt FS Z i) i v')) FS := by
        intro b oc' hoc hb Hb henc'
        rw [hcongr]
        cases hr : resolveRef rfv F FS i fd with
        | error e => rw [hr] at henc'; simp at henc'
        | ok fp =>
          rw [hr] at henc'
          dsimp only at henc' ⊢
          cases ha : f pos fd.ty fp v with
          | error e => rw [ha] at henc'; simp at henc'
          | ok a =>
            rw [ha] at henc'
            dsimp only at henc'
            cases hb2 : encSeqFields f rfv F FS (i + 1) (pos + a.length) frest vrest with
            | error e => rw [hb2] at henc'; simp at henc'
            | ok b2 =>
              rw [hb2] at henc'
              simp only [Except.ok.injEq] at henc'
              rw [← henc']
              refine RT_bind (Hf i fd v fp pos a hFi hVi hr ha) ?_
              rw [valsAt_set FS Z i v (by omega) hVi, hoc]
              exact ih vrest (i + 1) (pos + a.length) b b2 hFd hVd hb Hb hb2
      unfold optBitmap at hbm
      cases ho : fd.params.optional with
      | true =>
        simp only [ho, if_true] at hbm
        split at hbm
        · simp [Aper.panic] at hbm
        cases hb : optBitmap frest vrest with
        | error e => rw [hb] at hbm; simp at hbm
        | ok b =>
          rw [hb] at hbm
          simp only [Except.ok.injEq] at hbm
          subst hbm
          obtain ⟨htb, Hb⟩ := bm_tail_facts _ b optBits H
          simp only [List.length_cons, Nat.add_sub_cancel, htb, true_and, Nat.zero_lt_succ, if_true]
          cases hn : isNil v with
          | true =>
            simp only [hn, Bool.not_true, Bool.false_eq_true, not_false_eq_true, decide_true, if_true, ho, and_self] at henc ⊢
            rw [valsAt_skip FS Z i v hVi (Hz i fd v hFi hVi ho hn)]
            exact ih vrest (i + 1) pos b body hFd hVd hb Hb henc
          | false =>
            simp only [hn, Bool.not_false, not_true_eq_false, decide_false, Bool.false_eq_true, if_false, and_false] at henc ⊢
            exact coded b b.length rfl hb Hb henc
      | false =>
        simp only [ho, Bool.false_eq_true, if_false] at hbm
        split at hbm
        · simp [err] at hbm
        · simp only [ho, Bool.false_eq_true, false_and, decide_false, if_false] at henc ⊢
          exact coded sbm sbm.length rfl hbm H henc

/-- the OPTIONAL bitmap is read back as a number (fewer than 64 optional components) -/
theorem RT_optBits (bm : Bits) (pos n : Nat) (hn : bm.length = n) (h64 : n < 64) :
    RT bm pos (if n > 0 then getBitsValue n else pure 0 : D Nat) (bitsToNat bm) := by
  by_cases h0 : n > 0
  · simp only [h0, if_true]
    unfold getBitsValue
    have hg := RT_getBits bm pos (by omega)
    rw [hn] at hg
    have := RT_map (fun b => bitsToNat b % 2 ^ 64) hg
    have hlt : bitsToNat bm < 2 ^ 64 :=
      Nat.lt_of_lt_of_le (bitsToNat_lt bm) (Nat.pow_le_pow_right (by decide) (by omega))
    rw [Nat.mod_eq_of_lt hlt] at this
    exact this
  · have : bm = [] := List.length_eq_zero_iff.mp (by omega)
    subst this
    simp only [h0, if_false]
    exact RT_pure _ _

theorem RT_decStruct_seq (f : Nat → Ty → Params → Val → Res Bits) (g : Ty → Params → D Val) (rfv : Ty → Val → Res Int)
    (zero : Ty → Val) (sd : StructDef) (params : Params) (ve : Bool) (pos1 : Nat) (fs : List Val) (b : Bits)
    (hc : isChoice sd = false) (h64 : optCountOf sd < 64)
    (Hf : ∀ j fd v fp pos a, sd.fields[j]? = some fd → fs[j]? = some v → resolveRef rfv sd.fields fs j fd = .ok fp →
      f pos fd.ty fp v = .ok a → RT a pos (g fd.ty fp) v)
    (Hz : ∀ (j : Nat) (fd : Aper.Field) (v : Val), sd.fields[j]? = some fd → fs[j]? = some v →
      fd.params.optional = true → isNil v = true → zero fd.ty = v)
    (h : encSeq f rfv sd pos1 fs = .ok b) :
    RT b pos1 (decStruct g rfv zero sd params ve) (.struct fs) := by
  obtain ⟨hlen', bm, body, hbm, hbody, rfl⟩ := AperSpec.encSeq_ok h
  unfold decStruct
  dsimp only
  have hbl := optBitmap_length _ _ _ hbm
  refine RT_bind (RT_optBits bm pos1 _ hbl h64) ?_
  simp only [hc, Bool.false_eq_true, if_false]
  have hloop := RT_seqFields f g rfv sd.fields fs (sd.fields.map fun fd => zero fd.ty) (bitsToNat bm)
    hlen' (by simp) Hf
    (by
      intro j fd v hF hV ho hn
      rw [List.getElem?_map, hF]
      simp only [Option.map_some, Option.some.injEq]
      exact Hz j fd v hF hV ho hn)
    sd.fields fs 0 (pos1 + bm.length) bm body rfl rfl hbm (testBit_bitsToNat bm) hbody
  have hv0 : valsAt fs (sd.fields.map fun fd => zero fd.ty) 0 = sd.fields.map fun fd => zero fd.ty := by
    simp [valsAt]
  rw [hv0] at hloop
  rw [← hbl]
  exact RT_map Val.struct hloop

/-- the struct case of `parseField`: extension bit, then the body -/
theorem RT'_decField_struct (env : Env) (fuel : Nat) (id : Nat) (sd : StructDef) (p : Params) (b : Bits) (pos : Nat)
    (v : Val) (hsd : env[id]? = some sd) (hs : p.sizeExt = false)
    (h : RT b (pos + (if p.valueExt then [false] else ([] : Bits)).length)
      (decStruct (decField env fuel) (refFieldValue env fuel) (zeroVal env fuel) sd p false) v) :
    RT' ((if p.valueExt then [false] else []) ++ b) pos (decField env (fuel + 1) (.struct id) p) v := by
  rw [AperTotal.decField_struct env fuel id sd p hsd]
  exact RT'_entry (RT_bind (RT_extBits_leaf pos p hs) h)

end Stgutg.Proofs.AperRTComp
