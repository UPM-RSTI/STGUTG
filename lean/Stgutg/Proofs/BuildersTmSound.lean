/-
  C13 helper, part 4: soundness of the static skeleton analysis (`tmOK_sound`).
-/
import Stgutg.Proofs.BuildersTm

namespace Stgutg.Proofs.BuildersTm
open Stgutg Stgutg.Aper Stgutg.Builders Stgutg.Model.Convert
open Stgutg.Proofs.BuildersOk Stgutg.Proofs.Builders
open Stgutg.Proofs.AperRTComp (neTy nilExceptFrom)
open Stgutg.Spec.X691 (governor)

variable (E : Ext) (e : BEnv)

theorem refVal_eval (cur : Val) (t : Tm) (v : Val) (h : refVal t = some v) : eval E e cur t = v := by
  unfold refVal at h
  split at h
  · simp only [Option.some.injEq] at h; subst h; simp [eval]
  · simp only [Option.some.injEq] at h; subst h; simp [eval, evalL]
  · simp at h

theorem tmResolveP_sound (env : Env) (cur : Val) (f : Nat) (aF : List Field) (aT : List Tm) (fd : Field) (q : Params)
    (h : tmResolveP env f aF aT fd = some q) :
    resolveP (governor env f) aF (aT.map (eval E e cur)) fd = some q := by
  unfold tmResolveP at h
  unfold resolveP
  split at h
  · rename_i hot
    rw [if_pos hot]
    split at h
    · simp at h
    · rename_i k hk
      rw [hk]
      simp only
      split at h
      · rename_i rf rt hrf hrt
        rw [hrf, List.getElem?_map, hrt]
        simp only [Option.map_some]
        cases hrv : refVal rt with
        | none => simp [hrv] at h
        | some rv =>
          simp only [hrv] at h
          rw [refVal_eval E e cur rt rv hrv]
          exact h
      · simp at h
  · rename_i hot
    rw [if_neg hot]
    exact h

theorem encOutcomeL_of_all (cur : Val) : ∀ (l : List Tm), (∀ x ∈ l, encOutcome E e cur x = none) → encOutcomeL E e cur l = none := by
  intro l
  induction l with
  | nil => intro _; rfl
  | cons t ts ih =>
    intro h
    simp only [encOutcomeL, h t (List.mem_cons_self ..)]
    exact ih fun x hx => h x (List.mem_cons_of_mem _ hx)

/-- what the induction hypothesis of `tmOK_sound` provides for the components of a composite skeleton -/
def SubSound (env : Env) (canon : Bool) (cur : Val) (f : Nat) (ok : Ty → Params → Tm → Bool) (ob : Ty → Params → Tm → List Obl) : Prop :=
  ∀ (ty : Ty) (q : Params) (t : Tm), ok ty q t = true → (∀ o ∈ ob ty q t, Obl.ok env canon E e cur o = true) →
    okV env canon f ty q (eval E e cur t) = true ∧ encOutcome E e cur t = none

theorem tmField_sound (env : Env) (canon : Bool) (cur : Val) (f : Nat) (ok : Ty → Params → Tm → Bool)
    (ob : Ty → Params → Tm → List Obl) (H : SubSound E e env canon cur f ok ob) (aF : List Field) (aT : List Tm)
    (fd : Field) (t : Tm) (h : tmField env ok f aF aT fd t = true)
    (hob : ∀ o ∈ oblField env ob f aF aT fd t, Obl.ok env canon E e cur o = true) :
    okField (okV env canon f) (governor env f) aF (aT.map (eval E e cur)) fd (eval E e cur t) = true ∧
    encOutcome E e cur t = none := by
  unfold okField
  cases t with
  | nil =>
    simp only [tmField] at h
    exact ⟨by simp [eval, isNil, h], rfl⟩
  | hole hh =>
    simp only [tmField] at h
    simp only [oblField] at hob
    cases hq : tmResolveP env f aF aT fd with
    | none => simp [hq] at h
    | some q =>
      simp only [hq, List.mem_singleton, forall_eq] at hob
      simp only [Obl.ok] at hob
      refine ⟨?_, rfl⟩
      rw [tmResolveP_sound E e env cur f aF aT fd q hq]
      simpa [eval] using hob
  | _ =>
    simp only [tmField] at h
    simp only [oblField] at hob
    cases hq : tmResolveP env f aF aT fd with
    | none => simp [hq] at h
    | some q =>
      simp only [hq] at h hob
      obtain ⟨h1, h2⟩ := H _ _ _ h hob
      refine ⟨?_, h2⟩
      rw [tmResolveP_sound E e env cur f aF aT fd q hq]
      simp [h1]

theorem tmFields_sound (env : Env) (canon : Bool) (cur : Val) (f : Nat) (ok : Ty → Params → Tm → Bool)
    (ob : Ty → Params → Tm → List Obl) (H : SubSound E e env canon cur f ok ob) (aF : List Field) (aT : List Tm) :
    ∀ (fields : List Field) (ts : List Tm), tmFields env ok f aF aT fields ts = true →
      (∀ o ∈ oblFields env ob f aF aT fields ts, Obl.ok env canon E e cur o = true) →
      okFields (okV env canon f) (governor env f) aF (aT.map (eval E e cur)) fields (ts.map (eval E e cur)) = true ∧
      ∀ t ∈ ts, encOutcome E e cur t = none := by
  intro fields
  induction fields with
  | nil =>
    intro ts h _
    cases ts with
    | nil => exact ⟨rfl, fun t ht => by simp at ht⟩
    | cons _ _ => simp [tmFields] at h
  | cons fd frest ih =>
    intro ts h hob
    cases ts with
    | nil => simp [tmFields] at h
    | cons t trest =>
      simp only [tmFields, Bool.and_eq_true] at h
      simp only [oblFields, List.mem_append] at hob
      obtain ⟨hrest, hencs⟩ := ih trest h.2 (fun o ho => hob o (.inr ho))
      obtain ⟨hhead, henc⟩ := tmField_sound E e env canon cur f ok ob H aF aT fd t h.1 (fun o ho => hob o (.inl ho))
      simp only [List.map_cons, okFields, Bool.and_eq_true, List.mem_cons, forall_eq_or_imp]
      exact ⟨⟨hhead, hrest⟩, henc, hencs⟩

theorem isNilT_eq (t : Tm) (h : isNilT t = true) : t = .nil := by
  cases t <;> simp [isNilT] at h ⊢

theorem tmNilExcept_eval (cur : Val) : ∀ (alts : List Tm) (j k : Nat), tmNilExcept j k alts = true →
    nilExceptFrom j k (alts.map (eval E e cur)) = true := by
  intro alts
  induction alts with
  | nil => intro j k _; rfl
  | cons t ts ih =>
    intro j k h
    simp only [tmNilExcept, Bool.and_eq_true, Bool.or_eq_true] at h
    simp only [List.map_cons, nilExceptFrom, Bool.and_eq_true, Bool.or_eq_true]
    refine ⟨?_, ih _ _ h.2⟩
    rcases h.1 with h1 | h1
    · exact .inl h1
    · right; rw [isNilT_eq t h1]; rfl

theorem tmNilExcept_get : ∀ (alts : List Tm) (j k : Nat), tmNilExcept j k alts = true →
    ∀ i t, alts[i]? = some t → t = .nil ∨ j + i = k := by
  intro alts
  induction alts with
  | nil => intro j k _ i t h; simp at h
  | cons a rest ih =>
    intro j k h i t hi
    simp only [tmNilExcept, Bool.and_eq_true, Bool.or_eq_true, beq_iff_eq] at h
    cases i with
    | zero =>
      simp only [List.getElem?_cons_zero, Option.some.injEq] at hi
      subst hi
      rcases h.1 with h1 | h1
      · exact .inr (by omega)
      · exact .inl (isNilT_eq _ h1)
    | succ i =>
      simp only [List.getElem?_cons_succ] at hi
      rcases ih (j + 1) k h.2 i t hi with h1 | h1
      · exact .inl h1
      · exact .inr (by omega)

theorem tmChoice_sound (env : Env) (canon : Bool) (cur : Val) (f : Nat) (ok : Ty → Params → Tm → Bool)
    (ob : Ty → Params → Tm → List Obl) (H : SubSound E e env canon cur f ok ob) (ne : Ty → Params → Bool)
    (sd : StructDef) (params : Params) (fs : List Tm) (h : tmChoice ok ne sd params fs = true)
    (hob : ∀ o ∈ oblChoice ob sd fs, Obl.ok env canon E e cur o = true) :
    okChoice (okV env canon f) ne sd params (fs.map (eval E e cur)) = true ∧ ∀ t ∈ fs, encOutcome E e cur t = none := by
  unfold tmChoice at h
  unfold okChoice
  simp only [Bool.and_eq_true, decide_eq_true_eq] at h
  obtain ⟨hlen, h⟩ := h
  cases fs with
  | nil => simp at h
  | cons f0 alts =>
    cases f0 <;> try (simp at h; done)
    rename_i pv
    simp only [Bool.and_eq_true, decide_eq_true_eq] at h
    obtain ⟨⟨⟨hp1, hp2⟩, hnil⟩, h⟩ := h
    simp only [oblChoice] at hob
    cases hfd : sd.fields[pv.toNat]? with
    | none => simp [hfd] at h
    | some fd =>
      cases halt : (Tm.int pv :: alts)[pv.toNat]? with
      | none => simp [hfd, halt] at h
      | some alt =>
        simp only [hfd, halt, Bool.and_eq_true] at h hob
        obtain ⟨⟨hne, hok⟩, hpar⟩ := h
        obtain ⟨hv, henc⟩ := H _ _ _ hok hob
        have hev : eval E e cur (.int pv) = .int pv := by simp [eval]
        constructor
        · simp only [List.map_cons, hev, List.length_cons, List.length_map, Bool.and_eq_true, decide_eq_true_eq]
          refine ⟨by simpa using hlen, ⟨⟨hp1, hp2⟩, tmNilExcept_eval E e cur alts 1 pv.toNat hnil⟩, ?_⟩
          simp only [hfd, getElem?_eval_choice E e cur pv alts _ alt halt, Bool.and_eq_true]
          exact ⟨⟨hne, hv⟩, hpar⟩
        · intro t ht
          rcases List.mem_cons.mp ht with rfl | ht
          · rfl
          · obtain ⟨i, hi⟩ := List.getElem?_of_mem ht
            rcases tmNilExcept_get alts 1 pv.toNat hnil i t hi with h1 | h1
            · subst h1; rfl
            · have : (Tm.int pv :: alts)[pv.toNat]? = some t := by
                rw [← h1, Nat.add_comm, List.getElem?_cons_succ]; exact hi
              rw [halt] at this
              simp only [Option.some.injEq] at this
              subst this
              exact henc

theorem sizeOKn_of_sizeFree (n : Nat) (p : Params) (h : sizeFree p = true) : sizeOKn n p = true := by
  unfold sizeFree at h
  unfold sizeOKn Spec.X691.sizeConstraint
  cases hl : p.sizeLB with
  | none => rfl
  | some l => simp [hl] at h

theorem transfer_params_ok (sty : Nat) : AperSpec.tyParamsOK Gen.Ngap.schema (.struct sty) transferParams = true := by
  simp [AperSpec.tyParamsOK, AperSpec.structOK, transferParams]

theorem transfer_params_okc (sty : Nat) : AperSpec.tyParamsOKc (.struct sty) transferParams = true := by
  simp [AperSpec.tyParamsOKc, transferParams]

theorem eval_mapInts (cur : Val) (i : Nat) (item : Tm) :
    eval E e cur (.mapInts i item) = .slice ((listOf (e.arg i)).map fun x => eval E e x item) := by
  simp only [eval]
  cases e.arg i <;> simp [listOf]

/-- **soundness of the static analysis** (NGAP schema, the fuel of the builders' nested encodings): a skeleton that passes
    `tmOK`, evaluated on arguments that satisfy its obligations, is an `okV` value of its type, and every nested
    `aper.MarshalWithParams` of it succeeds -/
theorem tmOK_sound (canon : Bool) (hwf : AperSpec.specOK Gen.Ngap.schema = true) (hwfc : AperSpec.specOKc Gen.Ngap.schema = true) :
    ∀ (g f : Nat) (ty : Ty) (p : Params) (tm : Tm) (cur : Val),
      tmOK Gen.Ngap.schema canon Builders.fuel g f ty p tm = true →
      (∀ o ∈ obls Gen.Ngap.schema Builders.fuel g f ty p tm, Obl.ok Gen.Ngap.schema canon E e cur o = true) →
      okV Gen.Ngap.schema canon f ty p (eval E e cur tm) = true ∧ encOutcome E e cur tm = none := by
  intro g
  induction g with
  | zero => intro f ty p tm cur h; simp [tmOK] at h
  | succ g ih =>
    intro f ty p tm cur h hob
    cases f with
    | zero => simp [tmOK] at h
    | succ f =>
      cases tm with
      | hole hh =>
        simp only [obls, List.mem_singleton, forall_eq, Obl.ok, Bool.false_and, Bool.false_or] at hob
        exact ⟨by simpa [eval] using hob, rfl⟩
      | nil => simp [tmOK] at h
      | int v => exact ⟨by simpa [tmOK, eval] using h, rfl⟩
      | enum v => exact ⟨by simpa [tmOK, eval] using h, rfl⟩
      | bits b n => exact ⟨by simpa [tmOK, eval] using h, rfl⟩
      | octs b => exact ⟨by simpa [tmOK, eval] using h, rfl⟩
      | str b => exact ⟨by simpa [tmOK, eval] using h, rfl⟩
      | bool b => exact ⟨by simpa [tmOK, eval] using h, rfl⟩
      | ptr t =>
        cases ty <;> try (simp only [tmOK, Bool.false_eq_true] at h; done)
        rename_i ty'
        simp only [tmOK] at h
        simp only [obls] at hob
        obtain ⟨h1, h2⟩ := ih f ty' p t cur h hob
        exact ⟨by simpa [eval, okV] using h1, by simpa [encOutcome] using h2⟩
      | slice l =>
        cases ty <;> try (simp only [tmOK, Bool.false_eq_true] at h; done)
        rename_i t
        simp only [tmOK, Bool.and_eq_true, decide_eq_true_eq, List.all_eq_true] at h
        simp only [obls, List.mem_flatMap] at hob
        have hall : ∀ x ∈ l, okV Gen.Ngap.schema canon f t (stripSizeE p) (eval E e cur x) = true ∧ encOutcome E e cur x = none :=
          fun x hx => ih f t (stripSizeE p) x cur (h.2 x hx) (fun o ho => hob o ⟨x, hx, ho⟩)
        constructor
        · simp only [eval, evalL_eq, okV, List.length_map, Bool.and_eq_true, decide_eq_true_eq, List.all_eq_true, List.mem_map]
          refine ⟨h.1, ?_⟩
          rintro v ⟨x, hx, rfl⟩
          exact (hall x hx).1
        · simp only [encOutcome]
          exact encOutcomeL_of_all E e cur l fun x hx => (hall x hx).2
      | mapInts i item =>
        cases ty <;> try (simp only [tmOK, Bool.false_eq_true] at h; done)
        rename_i t
        simp only [tmOK] at h
        simp only [obls, List.mem_cons, List.mem_map, forall_eq_or_imp] at hob
        obtain ⟨hlen, heach⟩ := hob
        simp only [Obl.ok, Bool.and_eq_true, decide_eq_true_eq] at hlen
        refine ⟨?_, rfl⟩
        rw [eval_mapInts]
        simp only [okV, List.length_map, Bool.and_eq_true, decide_eq_true_eq, List.all_eq_true, List.mem_map]
        refine ⟨hlen, ?_⟩
        rintro v ⟨x, hx, rfl⟩
        refine (ih f t (stripSizeE p) item x h ?_).1
        intro o ho
        have := heach (.each i o) ⟨o, ho, rfl⟩
        simp only [Obl.ok, List.all_eq_true] at this
        exact this x hx
      | enc sty inner =>
        cases ty <;> try (simp only [tmOK, Bool.false_eq_true] at h; done)
        simp only [tmOK, Bool.and_eq_true] at h
        simp only [obls] at hob
        obtain ⟨h1, h2⟩ := ih Builders.fuel (.struct sty) transferParams inner cur h.2 hob
        obtain ⟨bs, hm, _⟩ := okV_marshal Gen.Ngap.schema canon hwf hwfc Builders.fuel (.struct sty) transferParams
          (eval E e cur inner) (transfer_params_ok sty) (transfer_params_okc sty) h1
        have hm' : marshalTransfer sty (eval E e cur inner) = .ok bs := hm
        constructor
        · simp only [eval, hm', okV]
          exact sizeOKn_of_sizeFree _ _ h.1
        · simp [encOutcome, h2, hm']
      | struct fs =>
        cases ty <;> try (simp only [tmOK, Bool.false_eq_true] at h; done)
        rename_i id
        simp only [tmOK] at h
        simp only [obls] at hob
        cases hsd : Gen.Ngap.schema[id]? with
        | none => simp [hsd] at h
        | some sd =>
          simp only [hsd] at h hob
          have H : SubSound E e Gen.Ngap.schema canon cur f (tmOK Gen.Ngap.schema canon Builders.fuel g f)
              (obls Gen.Ngap.schema Builders.fuel g f) := fun ty q t ht ho => ih f ty q t cur ht ho
          by_cases hch : isChoice sd = true
          · simp only [hch, if_true] at h hob
            obtain ⟨h1, h2⟩ := tmChoice_sound E e Gen.Ngap.schema canon cur f _ _ H _ sd p fs h hob
            constructor
            · simp only [eval, evalL_eq, okV, hsd, hch, if_true]
              exact h1
            · simp only [encOutcome]
              exact encOutcomeL_of_all E e cur fs h2
          · simp only [hch, if_false, Bool.false_eq_true, Bool.and_eq_true, decide_eq_true_eq] at h hob
            obtain ⟨h1, h2⟩ := tmFields_sound E e Gen.Ngap.schema canon cur f _ _ H sd.fields fs sd.fields fs h.2 hob
            constructor
            · simp only [eval, evalL_eq, okV, hsd, hch, if_false, Bool.false_eq_true, List.length_map, Bool.and_eq_true,
                decide_eq_true_eq]
              exact ⟨h.1, h1⟩
            · simp only [encOutcome]
              exact encOutcomeL_of_all E e cur fs h2

end Stgutg.Proofs.BuildersTm
