/-
  Lemmas of the encoder model alone (`Model/AperEnc.lean`; no specification, no decoder), for every proof that starts from
  "the encoder returned these bits": C03 forwards, the C04 round trip, "never empty", the builders' refusals.
  * What a successful call of each encoder function returned: `appendLength_ok`, `appendEnumerated_ok`, `appendInteger_ok`,
    `strEnc_cases`, `sliceCountBits_ok`, `sliceHeader_spec`, `encSlice_ok`, `appendChoiceIndex_ok` (under the names they
    have had in `Proofs.AperRT` / `Proofs.AperRTComp`; those of the SEQUENCE and CHOICE bodies, `encSeq_ok` and
    `encChoice_inv`, are in AperSpecComp).
  * `EncStep` / `encField_step`: what one successful step of `makeField` did, by kind — the encoder's counterpart of the
    equations `AperTotal.decField_ptr … decField_leaf`. A traversal is an induction on the fuel and `cases` on the step.
  * The empty encoding: what `… = .ok []` forces on the parameters (`appendInteger_nil`, `appendEnumerated_nil`,
    `strEnc_nil`, `encSlice_nil`, `encSeq_nil`); length determinants, counts and the fragment loop are never empty
    (`appendLength_ne`, `sliceCountBits_ne`, `fragLoop_ne`). Every static "never zero bits" test is sound by these.
-/
import Stgutg.Proofs.AperSpec

namespace Stgutg.Proofs.AperRT
open Stgutg Stgutg.Aper Stgutg.Proofs.Bits

/-! ### primitives -/

theorem bind_pure_ok {α β : Type} {x : Res α} {f : α → β} {c : β} (h : (x >>= fun a => pure (f a)) = .ok c) :
    ∃ a, x = .ok a ∧ c = f a := by
  obtain ⟨a, ha, hc⟩ := AperSpec.bind_ok_eq _ _ _ h
  cases hc
  exact ⟨a, ha, rfl⟩

theorem putBitsValue_ok {v n : Nat} {bits : Bits} (h : putBitsValue v n = .ok bits) :
    bits = natToBits n v ∧ (n ≠ 0 → n < 64 → v < 2 ^ n) := by
  unfold putBitsValue at h
  split at h
  · rename_i h0; subst h0; cases h; exact ⟨rfl, fun h => absurd rfl h⟩
  · split at h
    · cases h
    · cases h; exact ⟨rfl, fun _ h64 => by omega⟩

theorem putBitsValue_ok64 (v n : Nat) (bits : Bits) (hn : n ≠ 0) (hn64 : n ≤ 64) (hv64 : v < 2 ^ 64)
    (h : putBitsValue v n = .ok bits) : bits = natToBits n v ∧ v < 2 ^ n := by
  have ⟨hb, hv⟩ := putBitsValue_ok h
  refine ⟨hb, ?_⟩
  by_cases hlt : n < 64
  · exact hv hn hlt
  · have hn' : n = 64 := by omega
    subst hn'; exact hv64

/-- a successful `appendLength`: a constrained whole number when the size range allows it, otherwise the aligned general
    form — one octet `0vvvvvvv`, two octets `10vvvvvv vvvvvvvv`, or a fragment header `11mmmmmm` -/
theorem appendLength_ok {pos : Nat} {sr : Int} {v : Nat} {bits : Bits} (h : appendLength pos sr v = .ok bits) :
    (sr ≤ 65536 ∧ sr > 0 ∧ appendConstraintValue pos sr v = .ok bits) ∨
    (¬ (sr ≤ 65536 ∧ sr > 0) ∧
      bits = alignBits pos ++ (if v ≤ 127 then natToBits 8 v else if v ≤ 16383 then natToBits 16 (v ||| 0x8000)
        else natToBits 8 ((v >>> 14) ||| 0xc0))) := by
  unfold appendLength at h
  by_cases hc : sr ≤ 65536 ∧ sr > 0
  · rw [if_pos hc] at h; exact Or.inl ⟨hc.1, hc.2, h⟩
  · rw [if_neg hc] at h
    refine Or.inr ⟨hc, ?_⟩
    split at h
    · rename_i h127
      obtain ⟨b, hb, rfl⟩ := bind_pure_ok h
      rw [if_pos h127, (putBitsValue_ok hb).1]
    · rename_i h127
      split at h
      · rename_i h16k
        obtain ⟨b, hb, rfl⟩ := bind_pure_ok h
        rw [if_neg h127, if_pos h16k, (putBitsValue_ok hb).1]
      · rename_i h16k
        obtain ⟨b, hb, rfl⟩ := bind_pure_ok h
        rw [if_neg h127, if_neg h16k, (putBitsValue_ok hb).1]

theorem appendEnumerated_ok {pos value : Nat} {ext : Bool} {lbP ubP : Option Int} {bits : Bits}
    (h : appendEnumerated pos value ext lbP ubP = .ok bits) :
    ∃ lb ub, lbP = some lb ∧ ubP = some ub ∧ lb ≤ value ∧ (value : Int) ≤ ub ∧
      ((ub - lb + 1 > 1 ∧ ∃ b, appendConstraintValue (pos + (if ext then [false] else ([] : Bits)).length)
          (ub - lb + 1) value = .ok b ∧ bits = (if ext then [false] else []) ++ b) ∨
       (¬ ub - lb + 1 > 1 ∧ bits = if ext then [false] else [])) := by
  unfold appendEnumerated at h
  split at h
  · rename_i lb ub
    split at h
    · simp [err] at h
    · split at h
      · simp [err] at h
      · dsimp only at h
        refine ⟨lb, ub, rfl, rfl, by omega, by omega, ?_⟩
        split at h
        · rename_i hr
          split at h
          · cases h
          · rename_i b hb; cases h; exact Or.inl ⟨hr, b, hb, rfl⟩
        · rename_i hr; cases h; exact Or.inr ⟨hr, rfl⟩
  · simp [err] at h

/-- a successful `appendInteger` under a root constraint `lb..ub`. Inside the root: extension bit 0 (when extensible), then
    nothing (one value), a constrained whole number, or octet count − 1, alignment and the minimal octets of `v − lb`.
    Above the root of an extensible type: extension bit 1 and the unconstrained form (length octet, two's complement).
    `u` is the non-negative value whose octets are counted. -/
theorem appendInteger_ok {pos : Nat} {v : Int} {ext : Bool} {lb ub : Int} {bits : Bits}
    (h : appendInteger pos v ext (some lb) (some ub) = .ok bits) :
    ∃ (pre : Bits) (u : Nat), u = (if v < 0 then (-v - 1).toNat else v.toNat) ∧ lb ≤ v ∧
      ((v ≤ ub ∧ pre = (if ext then [false] else []) ∧
          ((ub - lb + 1 = 1 ∧ bits = pre) ∨
           (ub - lb + 1 ≠ 1 ∧ ub - lb + 1 ≤ 65536 ∧ ∃ b,
              appendConstraintValue (pos + pre.length) (ub - lb + 1) (v - lb).toNat = .ok b ∧ bits = pre ++ b) ∨
           (65536 < ub - lb + 1 ∧ ∃ lenBits body,
              putBitsValue (octetCount 9 (u >>> 8) - 1) (bitsForRange (rangeByteLen (ub - lb + 1))) = .ok lenBits ∧
              putBitsValue (v - lb).toNat (8 * octetCount 9 (u >>> 8)) = .ok body ∧
              bits = pre ++ lenBits ++ alignBits (pos + pre.length + lenBits.length) ++ body))) ∨
       (ub < v ∧ ext = true ∧ pre = [true] ∧ ∃ body,
          putBitsValue (v % (2 ^ (8 * octetCount 9 (u >>> 7)) : Nat)).toNat (8 * octetCount 9 (u >>> 7)) = .ok body ∧
          bits = pre ++ alignBits (pos + pre.length) ++ natToBits 8 (octetCount 9 (u >>> 7)) ++ body)) := by
  unfold appendInteger at h
  dsimp only at h
  by_cases hlt : v < lb
  · simp [hlt, err] at h
  · rw [if_neg hlt] at h
    by_cases hle : v ≤ ub
    · rw [if_pos hle] at h
      dsimp only at h
      refine ⟨if ext then [false] else [], _, rfl, by omega, Or.inl ⟨hle, rfl, ?_⟩⟩
      by_cases hr1 : ub - lb + 1 = 1
      · rw [if_pos hr1] at h; cases h; exact Or.inl ⟨hr1, rfl⟩
      · rw [if_neg hr1, if_neg (by omega : ¬ ub - lb + 1 ≤ 0)] at h
        by_cases hr64 : ub - lb + 1 ≤ 65536
        · rw [if_pos hr64] at h
          split at h
          · cases h
          · rename_i b hb; cases h; exact Or.inr (Or.inl ⟨hr1, hr64, b, hb, rfl⟩)
        · rw [if_neg hr64] at h
          split at h
          · cases h
          · rename_i lenBits hp1
            split at h
            · cases h
            · rename_i body hp2; cases h; exact Or.inr (Or.inr ⟨by omega, lenBits, body, hp1, hp2, rfl⟩)
    · rw [if_neg hle] at h
      cases ext with
      | false => simp [err] at h
      | true =>
        simp only [Bool.not_true, Bool.false_eq_true, if_false] at h
        refine ⟨[true], _, rfl, by omega, Or.inr ⟨by omega, rfl, rfl, ?_⟩⟩
        rw [if_neg (by decide : ¬ (-1 : Int) = 1), if_pos (by decide : (-1 : Int) ≤ 0),
          if_pos (by decide : (-1 : Int) < 0)] at h
        split at h
        · cases h
        · rename_i body hb; cases h; exact ⟨body, hb, rfl⟩

/-- a successful `AperSpec.strEnc` (the common body of `appendOctetString` and `appendBitString`): a fixed size is written
    without a length, aligned when it exceeds two octets; any other size through the fragmentation loop -/
theorem strEnc_cases {unit pos n octs : Nat} {content : Bits} {ext : Bool} {lbP ubP : Option Int} {bits : Bits}
    (h : AperSpec.strEnc unit pos n octs content ext lbP ubP = .ok bits) :
    ∃ (pre : Bits) (lb ub sr : Int), sizePreamble n ext lbP ubP = .ok (pre, lb, ub, sr) ∧
      ((sr = 1 ∧ (n : Int) = ub ∧ bits = pre ++ ((if octs > 2 then alignBits (pos + pre.length) else []) ++ content)) ∨
       (sr ≠ 1 ∧ lb ≤ n ∧ ∃ b, fragLoop unit sr lb.toNat (n / 16384 + 2) (pos + pre.length) (n - lb.toNat) content = .ok b ∧
          bits = pre ++ b)) := by
  unfold AperSpec.strEnc at h
  cases hsp : sizePreamble n ext lbP ubP with
  | error e => rw [hsp] at h; cases h
  | ok t =>
    obtain ⟨pre, lb, ub, sr⟩ := t
    rw [hsp] at h
    dsimp only at h
    refine ⟨pre, lb, ub, sr, rfl, ?_⟩
    by_cases hsr : sr = 1
    · rw [if_pos hsr] at h
      split at h
      · simp [err] at h
      · rename_i hn
        refine Or.inl ⟨hsr, by omega, ?_⟩
        split at h
        · rename_i hgt; cases h; rw [if_pos hgt, List.append_assoc]
        · rename_i hgt
          split at h
          · simp [Aper.panic] at h
          · cases h; rw [if_neg hgt]; rfl
    · rw [if_neg hsr] at h
      split at h
      · split at h <;> simp [err, Aper.panic] at h
      · rename_i hge
        split at h
        · cases h
        · rename_i b hb; cases h; exact Or.inr ⟨hsr, by omega, b, hb, rfl⟩

end Stgutg.Proofs.AperRT

namespace Stgutg.Proofs.AperRTComp
open Stgutg Stgutg.Aper Stgutg.Proofs.Bits

/-! ### SEQUENCE OF, CHOICE index, OPTIONAL bitmap, the struct case -/

/-- the lower bound `parseSequenceOf` uses -/
def sliceLB (p : Params) : Int :=
  match p.sizeLB with
  | some l => if l < 65536 then l else 0
  | none => 0

/-- a successful `sliceCountBits`: nothing for a fixed count, a constrained whole number, or a general length below 16K -/
theorem sliceCountBits_ok {pos1 n : Nat} {lb ub sr : Int} {cb : Bits} (h : sliceCountBits pos1 n lb ub sr = .ok cb) :
    lb ≤ n ∧ ((sr = 1 ∧ (n : Int) = ub ∧ cb = []) ∨
      (sr ≠ 1 ∧ sr > 0 ∧ appendConstraintValue pos1 sr ((n : Int) - lb).toNat = .ok cb) ∨
      (sr ≤ 0 ∧ n < 16384 ∧ appendLength pos1 (-1) n = .ok cb)) := by
  unfold sliceCountBits at h
  split at h
  · simp [err] at h
  · refine ⟨by omega, ?_⟩
    split at h
    · rename_i h1
      split at h
      · simp [err] at h
      · cases h; exact Or.inl ⟨h1, by omega, rfl⟩
    · rename_i h1
      split at h
      · rename_i hpos; exact Or.inr (Or.inl ⟨h1, hpos, h⟩)
      · split at h
        · simp [err] at h
        · exact Or.inr (Or.inr ⟨by omega, by omega, h⟩)

/-- the three shapes of the SEQUENCE OF header -/
theorem sliceHeader_spec (p : Params) (n : Nat) (pre : Bits) (lb ub sr : Int)
    (h : sliceHeader p n = .ok (pre, lb, ub, sr)) :
    lb = sliceLB p ∧
    ((∃ u, p.sizeUB = some u ∧ u < 65536 ∧ p.sizeExt = true ∧ (n : Int) > u ∧ pre = [true] ∧ sr = -1) ∨
     (∃ u, p.sizeUB = some u ∧ u < 65536 ∧ (n : Int) ≤ u ∧ pre = (if p.sizeExt then [false] else []) ∧
        ub = u ∧ sr = u - sliceLB p + 1) ∨
     ((∀ u, p.sizeUB = some u → ¬ u < 65536) ∧ pre = [] ∧ sr = -1)) := by
  unfold sliceHeader at h
  dsimp only at h
  cases hu : p.sizeUB with
  | none =>
    rw [hu] at h; cases h
    exact ⟨rfl, Or.inr (Or.inr ⟨fun u' hu' => (by cases hu'), rfl, rfl⟩)⟩
  | some u =>
    rw [hu] at h
    dsimp only at h
    by_cases hu64 : u < 65536
    · rw [if_pos hu64] at h
      by_cases hgt : (n : Int) > u
      · rw [if_pos hgt, if_pos hgt] at h
        cases hse : p.sizeExt with
        | false => rw [hse] at h; simp [err] at h
        | true =>
          rw [hse, if_pos rfl] at h; cases h
          exact ⟨rfl, Or.inl ⟨_, rfl, hu64, rfl, hgt, rfl, rfl⟩⟩
      · rw [if_neg hgt, if_neg hgt] at h
        cases hse : p.sizeExt <;> rw [hse] at h <;> cases h <;>
          exact ⟨rfl, Or.inr (Or.inl ⟨_, rfl, hu64, by omega, rfl, rfl, rfl⟩)⟩
    · rw [if_neg hu64] at h; cases h
      exact ⟨rfl, Or.inr (Or.inr ⟨fun u' hu' => (by cases hu'; exact hu64), rfl, rfl⟩)⟩

theorem encSlice_ok {f : Nat → Val → Res Bits} {params : Params} {pos : Nat} {vs : List Val} {bits : Bits}
    (h : encSlice f params pos vs = .ok bits) :
    ∃ pre lb ub sr cb eb, sliceHeader params vs.length = .ok (pre, lb, ub, sr) ∧
      sliceCountBits (pos + pre.length) vs.length lb ub sr = .ok cb ∧
      encElems f (pos + pre.length + cb.length) vs = .ok eb ∧ bits = pre ++ cb ++ eb := by
  unfold encSlice at h
  split at h
  · cases h
  · rename_i pre lb ub sr hh
    dsimp only at h
    split at h
    · cases h
    · rename_i cb hc
      split at h
      · cases h
      · rename_i eb he; cases h; exact ⟨pre, lb, ub, sr, cb, eb, hh, hc, he, rfl⟩

theorem appendChoiceIndex_ok {pos present : Nat} {ext : Bool} {ubP : Option Int} {ib : Bits}
    (h : appendChoiceIndex pos present ext ubP = .ok ib) :
    ∃ ub, ubP = some ub ∧ 0 ≤ ub ∧ appendConstraintValue pos (ub + 1) (present - 1) = .ok ib := by
  unfold appendChoiceIndex at h
  split at h
  · simp [err] at h
  · rename_i ub
    split at h
    · simp [err] at h
    · split at h
      · simp [err] at h
      · exact ⟨ub, rfl, by omega, h⟩

theorem optBitmap_length : ∀ (fields : List Field) (fs : List Val) (bm : Bits), optBitmap fields fs = .ok bm →
    bm.length = (fields.filter (fun f => f.params.optional)).length := by
  intro fields
  induction fields with
  | nil => intro fs bm h; simp [optBitmap] at h; simp [← h]
  | cons fd rest ih =>
    intro fs bm h
    cases fs with
    | nil => simp [optBitmap, err] at h
    | cons v vs =>
      unfold optBitmap at h
      cases ho : fd.params.optional with
      | true =>
        simp only [ho, if_true] at h
        split at h
        · simp [Aper.panic] at h
        cases hb : optBitmap rest vs with
        | error e => rw [hb] at h; simp at h
        | ok b =>
          rw [hb] at h
          simp only [Except.ok.injEq] at h
          rw [← h]
          simp [ho, ih vs b hb]
      | false =>
        simp only [ho, Bool.false_eq_true, if_false] at h
        split at h
        · simp [err] at h
        · simp [ho, ih vs bm h]

/-- the struct case of `makeField`: extension bit 0 when extensible, then the SEQUENCE or CHOICE body -/
theorem encField_struct_ok {env : Env} {fuel pos id : Nat} {p : Params} {v : Val} {bits : Bits}
    (h : encField env (fuel + 1) pos (.struct id) p v = .ok bits) :
    ∃ fs sd b, v = .struct fs ∧ env[id]? = some sd ∧
      (if isChoice sd then encChoice (encField env fuel) sd p (pos + (if p.valueExt then [false] else ([] : Bits)).length) fs
        else encSeq (encField env fuel) (refFieldValue env fuel) sd
          (pos + (if p.valueExt then [false] else ([] : Bits)).length) fs) = .ok b ∧
      bits = (if p.valueExt then [false] else []) ++ b := by
  cases v <;> simp [encField, err] at h
  rename_i fs
  split at h
  · simp at h
  · rename_i sd hsd
    split at h
    · simp at h
    · rename_i b hb
      cases h
      refine ⟨fs, sd, b, rfl, hsd, ?_, rfl⟩
      cases hc : isChoice sd <;> simpa [hc] using hb

theorem encSeqFields_cons (f : Nat → Ty → Params → Val → Res Bits) (rfv : Ty → Val → Res Int)
    (allFields : List Field) (allVals : List Val) (i pos : Nat) (fd : Field) (frest : List Field) (v : Val) (vrest : List Val) :
    encSeqFields f rfv allFields allVals i pos (fd :: frest) (v :: vrest) =
      (if fd.params.optional ∧ isNil v then encSeqFields f rfv allFields allVals (i + 1) pos frest vrest
       else
        match resolveRef rfv allFields allVals i fd with
        | .error e => .error e
        | .ok fp =>
          match f pos fd.ty fp v with
          | .error e => .error e
          | .ok a =>
            match encSeqFields f rfv allFields allVals (i + 1) (pos + a.length) frest vrest with
            | .error e => .error e
            | .ok b => .ok (a ++ b)) := by
  rw [encSeqFields]
  rfl

end Stgutg.Proofs.AperRTComp

namespace Stgutg.Proofs.AperEnc
open Stgutg Stgutg.Aper Stgutg.Proofs.Bits Stgutg.Proofs.AperSpec Stgutg.Proofs.AperRT Stgutg.Proofs.AperRTComp

/-! ### one step of `makeField` -/

/-- the parameters a SEQUENCE component is coded with (`resolveRef`): its own, possibly with a reference value -/
def FieldParams (fd : Field) (fp : Params) : Prop := fp = fd.params ∨ ∃ x, fp = { fd.params with refValue := some x }

/-- the extension bit of a struct-typed field -/
abbrev extBit (p : Params) : Bits := if p.valueExt then [false] else []

/-- one successful step of `makeField` on a value of the type's kind -/
inductive EncStep (env : Env) (fuel pos : Nat) (p : Params) : Ty → Val → Bits → Prop
  | ptr {t v b} : encField env fuel pos t p v = .ok b → EncStep env fuel pos p (.ptr t) (.ptr v) b
  | bits {bytes len b} : appendBitString pos bytes len p.sizeExt p.sizeLB p.sizeUB = .ok b →
      EncStep env fuel pos p .bits (.bits bytes len) b
  | octs {bs b} : appendOctetString pos bs p.sizeExt p.sizeLB p.sizeUB = .ok b → EncStep env fuel pos p .octs (.octs bs) b
  | str {bs b} : appendOctetString pos bs p.sizeExt p.sizeLB p.sizeUB = .ok b → EncStep env fuel pos p .str (.str bs) b
  | enum {n b} : appendEnumerated pos n p.valueExt p.valueLB p.valueUB = .ok b → EncStep env fuel pos p .enum (.enum n) b
  | bool {x} : EncStep env fuel pos p .bool (.bool x) [x]
  | int {n b} : appendInteger pos n p.valueExt p.valueLB p.valueUB = .ok b → EncStep env fuel pos p .int (.int n) b
  | slice {t vs b} : encSlice (fun q v => encField env fuel q t (stripSizeE p) v) p pos vs = .ok b →
      EncStep env fuel pos p (.slice t) (.slice vs) b
  | seq {id sd fs b} : env[id]? = some sd → isChoice sd = false →
      encSeq (encField env fuel) (refFieldValue env fuel) sd (pos + (extBit p).length) fs = .ok b →
      EncStep env fuel pos p (.struct id) (.struct fs) (extBit p ++ b)
  | choice {id sd fs b} : env[id]? = some sd → isChoice sd = true →
      encChoice (encField env fuel) sd p (pos + (extBit p).length) fs = .ok b →
      EncStep env fuel pos p (.struct id) (.struct fs) (extBit p ++ b)

theorem encField_step {env : Env} {fuel pos : Nat} {ty : Ty} {p : Params} {v : Val} {b : Bits}
    (h : encField env (fuel + 1) pos ty p v = .ok b) : EncStep env fuel pos p ty v b := by
  unfold encField at h
  split at h
  · cases h
  · exact .ptr h
  · exact .bits h
  · cases h
  · exact .octs h
  · exact .str h
  · exact .enum h
  · cases h; exact .bool
  · exact .int h
  · exact .slice h
  · rename_i id fs0
    obtain ⟨fs, sd, b', hv, hsd, hb, rfl⟩ := encField_struct_ok (env := env) (fuel := fuel) (pos := pos) (id := id)
      (p := p) (v := .struct fs0) (bits := b) (by unfold encField; exact h)
    cases hv
    cases hc : isChoice sd <;> simp only [hc, if_true, Bool.false_eq_true, if_false] at hb
    · exact .seq hsd hc hb
    · exact .choice hsd hc hb
  · cases h

theorem encField_zero {env : Env} {pos : Nat} {ty : Ty} {p : Params} {v : Val} {b : Bits} :
    encField env 0 pos ty p v ≠ .ok b := by
  simp [encField, hang]

/-! ### the empty encoding -/

theorem appendLength_ne {pos : Nat} {sr : Int} {n : Nat} {b : Bits} (h : appendLength pos sr n = .ok b) : b ≠ [] := by
  unfold appendLength at h
  split at h
  · exact constraintValue_nonempty _ _ _ _ h
  · split at h
    · exact aligned_put_nonempty _ _ 8 b (by decide) h
    · split at h
      · exact aligned_put_nonempty _ _ 16 b (by decide) h
      · exact aligned_put_nonempty _ _ 8 b (by decide) h

/-- every round of the fragment loop writes a length -/
theorem fragLoop_ne {unit : Nat} {sr : Int} {lb fuel pos raw : Nat} {payload b : Bits}
    (h : fragLoop unit sr lb (fuel + 1) pos raw payload = .ok b) : b ≠ [] := by
  unfold fragLoop at h
  dsimp only at h
  generalize (if raw ≥ 65536 then 65536 else if raw ≥ 16384 then raw &&& 0xc000 else raw) = part at h
  cases hl : appendLength pos sr part with
  | error e => rw [hl] at h; simp at h
  | ok lenBits =>
    rw [hl] at h
    dsimp only at h
    have hne := appendLength_ne hl
    split at h
    · simp only [Except.ok.injEq] at h; rw [← h]; exact hne
    · split at h
      · split at h
        · simp at h
        · simp only [Except.ok.injEq] at h; rw [← h]; simp [hne]
      · simp only [Except.ok.injEq] at h; rw [← h]; simp [hne]

/-- unless the number of elements is fixed, a count is written -/
theorem sliceCountBits_ne {pos1 n : Nat} {lb ub sr : Int} {cb : Bits} (hsr : sr ≠ 1)
    (h : sliceCountBits pos1 n lb ub sr = .ok cb) : cb ≠ [] := by
  rcases (sliceCountBits_ok h).2 with ⟨h1, _⟩ | ⟨_, _, hc⟩ | ⟨_, _, hc⟩
  · exact absurd h1 hsr
  · exact constraintValue_nonempty _ _ _ _ hc
  · exact appendLength_ne hc

theorem intTail_nil {pos : Nat} {v : Int} {pre : Bits} {lb range : Int} (h : intTail pos v pre lb range = .ok []) :
    pre = [] ∧ range = 1 := by
  unfold intTail at h
  dsimp only at h
  split at h
  · rename_i hr; cases h; exact ⟨rfl, hr⟩
  · exfalso
    split at h
    · split at h
      · cases h
      · simp only [Except.ok.injEq, List.append_eq_nil_iff] at h
        exact absurd (congrArg List.length h.1.2) (by simp [natToBits_length])
    · split at h
      · split at h
        · cases h
        · rename_i c hcv
          simp only [Except.ok.injEq, List.append_eq_nil_iff] at h
          exact constraintValue_nonempty _ _ _ c hcv h.2
      · split at h
        · cases h
        · rename_i lenBits hl
          split at h
          · cases h
          · simp only [Except.ok.injEq, List.append_eq_nil_iff] at h
            have := putBitsValue_length _ _ _ hl
            rw [h.1.1.2] at this
            exact (bitsForRange_pos _).1 this.symm

/-- INTEGER is written in no bits only for a single-valued root without extension marker -/
theorem appendInteger_nil {pos : Nat} {v : Int} {ext : Bool} {lbP ubP : Option Int}
    (h : appendInteger pos v ext lbP ubP = .ok []) : ext = false ∧ ∃ l, lbP = some l ∧ ubP = some l := by
  rw [appendInteger_eq] at h
  cases lbP with
  | none => exact absurd (intTail_nil h).2 (by decide)
  | some l =>
    dsimp only at h
    by_cases hvl : v < l
    · simp [hvl, err] at h
    · simp only [hvl, if_false] at h
      cases ubP with
      | none => exact absurd (intTail_nil h).2 (by decide)
      | some u =>
        dsimp only at h
        by_cases hvu : v ≤ u
        · simp only [hvu, if_true] at h
          obtain ⟨hp, hr⟩ := intTail_nil h
          cases ext
          · exact ⟨rfl, l, rfl, by congr 1; omega⟩
          · cases hp
        · simp only [hvu, if_false] at h
          cases ext
          · simp [err] at h
          · exact absurd (intTail_nil h).1 (by simp)

theorem appendEnumerated_nil {pos n : Nat} {ext : Bool} {lbP ubP : Option Int}
    (h : appendEnumerated pos n ext lbP ubP = .ok []) : ext = false ∧ ∃ l, lbP = some l ∧ ubP = some l := by
  obtain ⟨lb, ub, rfl, rfl, h1, h2, hcase⟩ := appendEnumerated_ok h
  rcases hcase with ⟨_, b, hb, he⟩ | ⟨hr, he⟩
  · exact absurd (List.append_eq_nil_iff.mp he.symm).2 (constraintValue_nonempty _ _ _ _ hb)
  · cases ext
    · exact ⟨rfl, lb, rfl, by congr 1; omega⟩
    · cases he

/-- a fixed size is the common value of both bounds, below 64K; the extension bit is 0 -/
theorem sizePreamble_fixed {len : Nat} {ext : Bool} {lbP ubP : Option Int} {pre : Bits} {lb ub : Int}
    (h : sizePreamble len ext lbP ubP = .ok (pre, lb, ub, 1)) :
    lbP = some ub ∧ ubP = some ub ∧ pre = if ext then [false] else [] := by
  unfold sizePreamble at h
  cases lbP with
  | none => cases h
  | some l =>
    cases ubP with
    | none => cases h
    | some u =>
      dsimp only at h
      split at h
      · split at h
        · cases h
        · simp only [Except.ok.injEq, Prod.mk.injEq] at h
          obtain ⟨h1, _, h3, h4⟩ := h
          have : ¬ u > 65535 := fun hu => by rw [if_pos hu] at h4; cases h4
          rw [if_neg this] at h4
          exact ⟨by congr 1; omega, by rw [h3], h1.symm⟩
      · split at h
        · cases h
        · cases h

/-- a string is written in no bits only under SIZE(0) without extension marker -/
theorem strEnc_nil {unit pos len octs : Nat} {content : Bits} {ext : Bool} {lbP ubP : Option Int}
    (hunit : 0 < unit) (hlen : content.length = len * unit)
    (h : strEnc unit pos len octs content ext lbP ubP = .ok []) : ext = false ∧ lbP = some 0 ∧ ubP = some 0 := by
  obtain ⟨pre, lb, ub, sr, hsp, hcase⟩ := strEnc_cases h
  rcases hcase with ⟨rfl, hn, he⟩ | ⟨_, _, b, hb, he⟩
  · obtain ⟨hl, hu, hpre⟩ := sizePreamble_fixed hsp
    obtain ⟨hp, hc⟩ := List.append_eq_nil_iff.mp he.symm
    -- no content, so the size is 0
    have hc0 := congrArg List.length (List.append_eq_nil_iff.mp hc).2
    rw [hlen, List.length_nil] at hc0
    have hub : ub = 0 := by
      rcases Nat.mul_eq_zero.mp hc0 with h0 | h0 <;> omega
    subst hub
    refine ⟨?_, hl, hu⟩
    cases ext
    · rfl
    · rw [hpre] at hp; cases hp
  · exact absurd (List.append_eq_nil_iff.mp he.symm).2 (fragLoop_ne hb)

/-- SEQUENCE OF is written in no bits only with a fixed count and no extension marker -/
theorem encSlice_nil {f : Nat → Val → Res Bits} {p : Params} {pos : Nat} {vs : List Val}
    (h : encSlice f p pos vs = .ok []) : p.sizeExt = false ∧ p.sizeUB = some (sliceLB p) ∧ sliceLB p < 65536 := by
  obtain ⟨pre, lb, ub, sr, cb, eb, hh, hc, _, he⟩ := encSlice_ok h
  simp only [List.nil_eq, List.append_eq_nil_iff] at he
  obtain ⟨⟨hpre, hcb⟩, _⟩ := he
  have hsr : sr = 1 := Classical.byContradiction fun hsr => sliceCountBits_ne hsr hc hcb
  obtain ⟨_, hcase⟩ := sliceHeader_spec _ _ _ _ _ _ hh
  rcases hcase with ⟨u, _, _, _, _, hp, _⟩ | ⟨u, hu, hu64, _, hp, _, hs⟩ | ⟨_, _, hs⟩
  · rw [hp] at hpre; cases hpre
  · have hul : u = sliceLB p := by omega
    refine ⟨?_, by rw [hu, hul], by omega⟩
    cases hse : p.sizeExt
    · rfl
    · rw [hp, hse] at hpre; cases hpre
  · omega

theorem encSeqFields_nil (f : Nat → Ty → Params → Val → Res Bits) (rfv : Ty → Val → Res Int) (F : List Field) (FS : List Val) :
    ∀ (fields : List Field) (vals : List Val) (i pos : Nat), (∀ fd ∈ fields, fd.params.optional = false) →
      encSeqFields f rfv F FS i pos fields vals = .ok [] →
      ∀ fd ∈ fields, ∃ i pos fp v, resolveRef rfv F FS i fd = .ok fp ∧ f pos fd.ty fp v = .ok [] := by
  intro fields
  induction fields with
  | nil => intro _ _ _ _ _ fd hfd; cases hfd
  | cons fd frest ih =>
    intro vals i pos hopt h
    cases vals with
    | nil => simp [encSeqFields, err] at h
    | cons v vrest =>
      rw [encSeqFields_cons, if_neg (by simp [hopt fd List.mem_cons_self])] at h
      split at h
      · cases h
      · rename_i fp hr
        split at h
        · cases h
        · rename_i a ha
          split at h
          · cases h
          · rename_i b hb
            simp only [Except.ok.injEq, List.append_eq_nil_iff] at h
            obtain ⟨rfl, rfl⟩ := h
            intro fd' hfd'
            rcases List.mem_cons.mp hfd' with rfl | hm
            · exact ⟨i, pos, fp, v, hr, ha⟩
            · exact ih vrest (i + 1) _ (fun x hx => hopt x (List.mem_cons_of_mem _ hx)) hb fd' hm

/-- a SEQUENCE body is written in no bits only when no component is OPTIONAL (no bitmap) and every component is written
    in no bits -/
theorem encSeq_nil {f : Nat → Ty → Params → Val → Res Bits} {rfv : Ty → Val → Res Int} {sd : StructDef} {pos1 : Nat}
    {fs : List Val} (h : encSeq f rfv sd pos1 fs = .ok []) :
    ∀ fd ∈ sd.fields, fd.params.optional = false ∧
      ∃ i pos fp v, resolveRef rfv sd.fields fs i fd = .ok fp ∧ f pos fd.ty fp v = .ok [] := by
  unfold encSeq at h
  split at h
  · cases h
  · split at h
    · cases h
    · rename_i bm hbm
      split at h
      · cases h
      · rename_i body hbody
        simp only [Except.ok.injEq, List.append_eq_nil_iff] at h
        obtain ⟨rfl, rfl⟩ := h
        have hl := optBitmap_length _ _ _ hbm
        have hopt : ∀ fd ∈ sd.fields, fd.params.optional = false := by
          intro fd hfd
          cases ho : fd.params.optional
          · rfl
          · have := List.length_pos_of_mem ((List.mem_filter (p := fun f => f.params.optional)).mpr ⟨hfd, ho⟩)
            rw [← hl] at this; cases this
        exact fun fd hfd => ⟨hopt fd hfd, encSeqFields_nil f rfv _ _ _ _ _ _ hopt hbody fd hfd⟩

end Stgutg.Proofs.AperEnc
