/-
  C14 (cost): erasing the counters of the instrumented decoder (`Model/AperDecCost.lean`) gives exactly the plain
  decoder model (`Model/AperDec.lean`): `erase_X : DC.erase XC = X` for every instrumented function, up to
  `erase_decFieldC` and `unmarshalCost_fst`. Also the cases of the instrumented `parseField` as equations
  (`decFieldC_ptr` … `decFieldC_leaf` over `entryC`, `sliceBodyC`, `structBodyC`, `leafBodyC`, parallel to
  `AperTotal.decField_ptr` …), which the bound proofs of the later files start from.
-/
import Stgutg.Model.AperDecCost
import Stgutg.Proofs.AperTotal

namespace Stgutg.Proofs.AperCost
open Stgutg Stgutg.Aper

theorem DC_bind_apply {α β : Type} (m : DC α) (f : α → DC β) (r : Rd) :
    (m >>= f) r = match m r with
      | (.ok (a, r'), c) => ((f a r').1, c.add (f a r').2)
      | (.error e, c) => (.error e, c) := rfl

@[simp] theorem erase_bind {α β : Type} (m : DC α) (f : α → DC β) :
    DC.erase (m >>= f) = (DC.erase m >>= fun a => DC.erase (f a)) := by
  funext r
  simp only [DC.erase, DC_bind_apply, AperTotal.D_bind_apply]
  rcases h : m r with ⟨res, c⟩
  cases res with
  | error e => rfl
  | ok x => obtain ⟨a, r'⟩ := x; rfl

@[simp] theorem erase_pure {α : Type} (a : α) : DC.erase (pure a : DC α) = (pure a : D α) := rfl
@[simp] theorem erase_lift {α : Type} (m : D α) : DC.erase (DC.lift m) = m := rfl
@[simp] theorem erase_fail {α : Type} (e : Err) : DC.erase (DC.fail e : DC α) = (D.fail e : D α) := rfl
@[simp] theorem erase_get : DC.erase DC.get = D.get := rfl

theorem D_pure_bind {α β : Type} (a : α) (f : α → D β) : ((pure a : D α) >>= f) = f a := by
  funext r; rfl

theorem D_bind_pure_unit {β : Type} (k : D β) : ((pure () : D Unit) >>= fun _ => k) = k := by
  funext r; rfl

@[simp] theorem erase_chargeAlloc_bind {β : Type} (n : Nat) (k : Unit → DC β) :
    DC.erase (DC.chargeAlloc n >>= k) = DC.erase (k ()) := by
  funext r
  simp only [DC.erase, DC_bind_apply, DC.chargeAlloc]

@[simp] theorem erase_chargeAlloc (n : Nat) : DC.erase (DC.chargeAlloc n) = (pure () : D Unit) := rfl

theorem D_bind_pure {α : Type} (m : D α) : (m >>= fun a => (pure a : D α)) = m := by
  funext r
  rw [AperTotal.D_bind_apply]
  cases m r with
  | error e => rfl
  | ok x => obtain ⟨a, r'⟩ := x; rfl

@[simp] theorem erase_takeOctetsC (n : Nat) : DC.erase (takeOctetsC n) = takeOctets n := by
  unfold takeOctetsC
  simp only [erase_bind, erase_lift, erase_pure]
  exact D_bind_pure _

@[simp] theorem erase_getBitsCopyC (n : Nat) : DC.erase (getBitsCopyC n) = getBits n := by
  unfold getBitsCopyC
  simp only [erase_bind, erase_lift, erase_pure]
  exact D_bind_pure _

/-- erasure goes through a bind part by part -/
theorem erase_bind_congr {α β : Type} {m : DC α} {f : α → DC β} {d : D α} {g : α → D β}
    (hm : DC.erase m = d) (h : ∀ a, DC.erase (f a) = g a) : DC.erase (m >>= f) = (d >>= g) := by
  rw [erase_bind, hm, funext h]

theorem erase_ite_congr {α : Type} (c : Prop) [Decidable c] {a b : DC α} {a' b' : D α}
    (ha : DC.erase a = a') (hb : DC.erase b = b') : DC.erase (if c then a else b) = if c then a' else b' := by
  split <;> assumption

theorem erase_parseOctetStringLoopC (sr lb : Int) : ∀ (fuel : Nat) (acc : Bytes),
    DC.erase (parseOctetStringLoopC sr lb fuel acc) = parseOctetStringLoop sr lb fuel acc := by
  intro fuel
  induction fuel with
  | zero => intro acc; rfl
  | succ fuel ih =>
    intro acc
    unfold parseOctetStringLoopC parseOctetStringLoop
    exact erase_bind_congr rfl fun _ => erase_ite_congr _ rfl <| erase_bind_congr rfl fun _ =>
      erase_bind_congr (erase_takeOctetsC _) fun _ => erase_ite_congr _ (ih _) rfl

theorem erase_parseOctetStringC (ext : Bool) (lbP ubP : Option Int) :
    DC.erase (parseOctetStringC ext lbP ubP) = parseOctetString ext lbP ubP := by
  unfold parseOctetStringC parseOctetString
  exact erase_ite_congr _
    (erase_ite_congr _ (erase_bind_congr rfl fun _ => erase_takeOctetsC _)
      (erase_bind_congr (erase_getBitsCopyC _) fun _ => rfl))
    (erase_bind_congr rfl fun _ => erase_parseOctetStringLoopC _ _ _ _)

theorem erase_parseBitStringLoopC (sr lb : Int) : ∀ (fuel : Nat) (accB : Bytes) (accL : Nat),
    DC.erase (parseBitStringLoopC sr lb fuel accB accL) = parseBitStringLoop sr lb fuel accB accL := by
  intro fuel
  induction fuel with
  | zero => intro accB accL; rfl
  | succ fuel ih =>
    intro accB accL
    unfold parseBitStringLoopC parseBitStringLoop
    exact erase_bind_congr rfl fun _ => erase_ite_congr _ rfl <| erase_bind_congr rfl fun _ =>
      erase_bind_congr rfl fun _ => erase_ite_congr _ rfl <|
        erase_bind_congr (erase_getBitsCopyC _) fun _ => erase_ite_congr _ (ih _ _) rfl

theorem erase_parseBitStringC (ext : Bool) (lbP ubP : Option Int) :
    DC.erase (parseBitStringC ext lbP ubP) = parseBitString ext lbP ubP := by
  have hcopy : ∀ n, DC.erase (getBitsCopyC n >>= fun b => (pure (bitsToBytes b, n) : DC (Bytes × Nat))) =
      (getBits n >>= fun b => pure (bitsToBytes b, n)) := fun n => erase_bind_congr (erase_getBitsCopyC n) fun _ => rfl
  unfold parseBitStringC parseBitString
  exact erase_ite_congr _
    (erase_ite_congr _
      (erase_bind_congr rfl fun _ => erase_bind_congr rfl fun _ => erase_ite_congr _ rfl (hcopy _)) (hcopy _))
    (erase_bind_congr rfl fun _ => erase_parseBitStringLoopC _ _ _ _ _)

theorem erase_openTypeOctetsC : ∀ (fuel : Nat) (acc : Bytes),
    DC.erase (openTypeOctetsC fuel acc) = openTypeOctets fuel acc := by
  intro fuel
  induction fuel with
  | zero => intro acc; rfl
  | succ fuel ih =>
    intro acc
    unfold openTypeOctetsC openTypeOctets
    exact erase_bind_congr rfl fun _ => erase_ite_congr _ rfl <| erase_bind_congr rfl fun _ =>
      erase_bind_congr (erase_takeOctetsC _) fun _ => erase_ite_congr _ (ih _) (erase_bind_congr rfl fun _ => rfl)

theorem erase_decElemsC (f : DC Val) : ∀ n, DC.erase (decElemsC f n) = decElems (DC.erase f) n
  | 0 => rfl
  | n + 1 => erase_bind_congr rfl fun _ => erase_bind_congr (erase_decElemsC f n) fun _ => rfl

theorem erase_decSeqFieldsC (f : Ty → Params → DC Val) (rfv : Ty → Val → Res Int) (allFields : List Field) :
    ∀ (fields : List Field) (i oc ob : Nat) (vals : List Val),
      DC.erase (decSeqFieldsC f rfv allFields i oc ob fields vals) =
        decSeqFields (fun ty p => DC.erase (f ty p)) rfv allFields i oc ob fields vals := by
  intro fields
  induction fields with
  | nil => intro i oc ob vals; rfl
  | cons fd rest ih =>
    intro i oc ob vals
    unfold decSeqFieldsC decSeqFields
    refine erase_ite_congr _ (ih _ _ _ _) ?_
    cases resolveRef rfv allFields vals i fd with
    | error e => rfl
    | ok fp => exact erase_bind_congr rfl fun _ => ih _ _ _ _

theorem erase_decLeafC (ty : Ty) (params : Params) (se ve : Bool) :
    DC.erase (decLeafC ty params se ve) = decLeaf ty params se ve := by
  cases ty with
  | bits => exact erase_bind_congr (erase_parseBitStringC _ _ _) fun _ => rfl
  | octs | str => exact erase_bind_congr (erase_parseOctetStringC _ _ _) fun _ => rfl
  | enum | bool | int => exact erase_bind_congr rfl fun _ => rfl
  | _ => rfl

theorem erase_decStructC (f : Ty → Params → DC Val) (rfv : Ty → Val → Res Int) (zero : Ty → Val)
    (sd : StructDef) (params : Params) (ve : Bool) :
    DC.erase (decStructC f rfv zero sd params ve) =
      decStruct (fun ty p => DC.erase (f ty p)) rfv zero sd params ve := by
  unfold decStructC decStruct
  refine erase_bind_congr rfl fun optBits => erase_ite_congr _ (erase_ite_congr _ ?_ ?_)
    (erase_bind_congr (erase_decSeqFieldsC _ _ _ _ _ _ _ _) fun _ => rfl)
  · cases params.refValue with
    | none => rfl
    | some rv =>
      dsimp only
      cases findAlt sd.fields rv with
      | none => rfl
      | some present =>
        dsimp only
        cases sd.fields[present]? with
        | none => rfl
        | some fd =>
          refine erase_bind_congr rfl fun _ => erase_bind_congr (erase_openTypeOctetsC _ _) fun octs => ?_
          -- the inner value is decoded on its own buffer: only its outcome reaches this reader
          funext r
          unfold DC.erase
          rw [DC_bind_apply]
          unfold DC.sub
          cases (f fd.ty fd.params (Rd.ofBytes octs)).1 <;> rfl
  · refine erase_bind_congr rfl fun present => erase_ite_congr _ rfl (erase_ite_congr _ rfl ?_)
    cases sd.fields[present]? with
    | none => rfl
    | some fd => exact erase_bind_congr rfl fun _ => rfl

theorem tick_fst {β : Type} (k : DC β) (r : Rd) : (DC.tickThen k r).1 = (k r).1 := rfl

/-! ### `parseField` by kind -/

/-- the entry of `parseField`: one step, then the "sequence truncated" test -/
def entryC {α : Type} (body : DC α) : DC α :=
  DC.tickThen fun r0 => if r0.len = 0 then (.error .error, Cost.zero) else body r0

def sliceBodyC (f : DC Val) (params : Params) : DC Val :=
  DC.lift (extBits params true) >>= fun x => DC.lift (sliceCount params x.1) >>= fun n =>
    DC.chargeAlloc n >>= fun _ => decElemsC f n >>= fun vs => (pure (.slice vs) : DC Val)

def structBodyC (env : Env) (fuel : Nat) (sd : StructDef) (p : Params) : DC Val :=
  DC.lift (extBits p false) >>= fun x =>
    decStructC (decFieldC env fuel) (refFieldValue env fuel) (zeroVal env fuel) sd p x.2

def leafBodyC (ty : Ty) (params : Params) : DC Val :=
  DC.lift (extBits params false) >>= fun x => decLeafC ty params x.1 x.2

theorem decFieldC_zero (env : Env) (ty : Ty) (p : Params) : decFieldC env 0 ty p = DC.fail .hang := rfl

theorem decFieldC_ptr (env : Env) (fuel : Nat) (t : Ty) (p : Params) :
    decFieldC env (fuel + 1) (.ptr t) p = entryC (decFieldC env fuel t p >>= fun v => (pure (.ptr v) : DC Val)) := rfl

theorem decFieldC_slice (env : Env) (fuel : Nat) (t : Ty) (p : Params) :
    decFieldC env (fuel + 1) (.slice t) p = entryC (sliceBodyC (decFieldC env fuel t (stripSize p)) p) := rfl

theorem decFieldC_struct (env : Env) (fuel id : Nat) (sd : StructDef) (p : Params) (hsd : env[id]? = some sd) :
    decFieldC env (fuel + 1) (.struct id) p = entryC (structBodyC env fuel sd p) := by
  unfold decFieldC
  simp only [hsd]
  rfl

theorem decFieldC_struct_none (env : Env) (fuel id : Nat) (p : Params) (hsd : env[id]? = none) :
    decFieldC env (fuel + 1) (.struct id) p = entryC (DC.fail .error) := by
  unfold decFieldC
  simp only [hsd]
  rfl

theorem decFieldC_leaf (env : Env) (fuel : Nat) (ty : Ty) (p : Params) (h : AperTotal.isLeaf ty = true) :
    decFieldC env (fuel + 1) ty p = entryC (leafBodyC ty p) := by
  cases ty <;> first | rfl | cases h

theorem erase_entryC {α : Type} (body : DC α) : DC.erase (entryC body) = AperTotal.entry (DC.erase body) := by
  funext r
  unfold DC.erase entryC AperTotal.entry DC.tickThen
  dsimp only
  split <;> rfl

/-- **projection lemma**: the instrumented `parseField` without its counters is `parseField` -/
theorem erase_decFieldC (env : Env) : ∀ (fuel : Nat) (ty : Ty) (params : Params),
    DC.erase (decFieldC env fuel ty params) = decField env fuel ty params := by
  intro fuel
  induction fuel with
  | zero => intro ty params; rfl
  | succ fuel ih =>
    intro ty params
    have ihf : (fun ty p => DC.erase (decFieldC env fuel ty p)) = decField env fuel := by
      funext ty p; exact ih ty p
    cases ty with
    | ptr t => rw [decFieldC_ptr, AperTotal.decField_ptr, erase_entryC, erase_bind, ih]; rfl
    | slice t =>
      rw [decFieldC_slice, AperTotal.decField_slice, erase_entryC]
      simp only [sliceBodyC, AperTotal.sliceBody, erase_bind, erase_lift, erase_chargeAlloc, D_pure_bind, erase_decElemsC,
        erase_pure, ih]
    | struct id =>
      cases hsd : env[id]? with
      | none => rw [decFieldC_struct_none _ _ _ _ hsd, AperTotal.decField_struct_none _ _ _ _ hsd, erase_entryC, erase_fail]
      | some sd =>
        rw [decFieldC_struct _ _ _ sd _ hsd, AperTotal.decField_struct _ _ _ sd _ hsd, erase_entryC]
        simp only [structBodyC, AperTotal.structBody, erase_bind, erase_lift, erase_decStructC, ihf]
    | _ =>
      rw [decFieldC_leaf _ _ _ _ rfl, AperTotal.decField_leaf _ _ _ _ rfl, erase_entryC]
      simp only [leafBodyC, AperTotal.leafBody, erase_bind, erase_lift, erase_decLeafC]

/-- **projection lemma** for the entry point -/
theorem unmarshalCost_fst (env : Env) (fuel : Nat) (ty : Ty) (params : Params) (b : Bytes) :
    (unmarshalCost env fuel ty params b).1 = unmarshal env fuel ty params b := by
  unfold unmarshalCost unmarshal
  have h := congrFun (erase_decFieldC env fuel ty params) (Rd.ofBytes b)
  unfold DC.erase at h
  rw [← h]
  rcases decFieldC env fuel ty params (Rd.ofBytes b) with ⟨res, c⟩
  cases res with
  | error e => rfl
  | ok x => obtain ⟨v, r⟩ := x; rfl

end Stgutg.Proofs.AperCost
