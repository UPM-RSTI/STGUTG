/-
  Octet packing: unpacking packed bits gives the bits followed by the zero padding to the octet boundary
  (`bytesToBits_bitsToBytes`); hence packing distributes over a whole number of octets.
-/
import Stgutg.Proofs.Bits

namespace Stgutg.Proofs.AperRTComp
open Stgutg Stgutg.Proofs.Bits

theorem natToBits_bitsToNat (l : Bits) : natToBits l.length (bitsToNat l) = l := by
  induction l with
  | nil => rfl
  | cons x xs ih =>
    rw [List.length_cons, natToBits, bitsToNat_cons]
    have hlt := bitsToNat_lt xs
    congr 1
    · rw [Nat.mul_comm, Nat.testBit_two_pow_mul_add _ hlt]
      simp only [Nat.lt_irrefl, if_false, Nat.sub_self]
      cases x <;> simp
    · rw [← natToBits_mod xs.length xs.length _ (Nat.le_refl _)]
      have : ((if x = true then 1 else 0) * 2 ^ xs.length + bitsToNat xs) % 2 ^ xs.length = bitsToNat xs := by
        rw [Nat.mul_comm, Nat.mul_add_mod, Nat.mod_eq_of_lt hlt]
      rw [this, ih]

theorem byteBits_ofNat_bitsToNat (chunk : Bits) (h : chunk.length = 8) :
    byteBits (UInt8.ofNat (bitsToNat chunk)) = chunk := by
  unfold byteBits
  have e : (UInt8.ofNat (bitsToNat chunk)).toNat = bitsToNat chunk % 2 ^ 8 := by
    simp [UInt8.toNat_ofNat']
  rw [e, natToBits_mod 8 8 _ (Nat.le_refl _)]
  have := natToBits_bitsToNat chunk
  rw [h] at this
  exact this

theorem bitsToBytesAux_nil (fuel : Nat) : bitsToBytesAux fuel [] = [] := by
  cases fuel <;> simp [bitsToBytesAux]

theorem padLen_lt (n : Nat) : padLen n < 8 := by unfold padLen; omega

theorem bytesToBits_bitsToBytesAux : ∀ (fuel : Nat) (l : Bits), l.length ≤ fuel →
    bytesToBits (bitsToBytesAux fuel l) = l ++ List.replicate (padLen l.length) false := by
  intro fuel
  induction fuel with
  | zero =>
    intro l hl
    have : l = [] := List.length_eq_zero_iff.mp (by omega)
    subst this
    simp [bitsToBytesAux, bytesToBits, padLen]
  | succ fuel ih =>
    intro l hl
    unfold bitsToBytesAux
    cases hl0 : l with
    | nil => simp [bytesToBits, padLen]
    | cons x xs =>
      rw [← hl0]
      have hne : l.isEmpty = false := by rw [hl0]; rfl
      have hpos : 0 < l.length := by rw [hl0]; simp
      simp only [hne, Bool.false_eq_true, if_false]
      rw [bytesToBits_cons]
      have hchunk : (l.take 8 ++ List.replicate (8 - (l.take 8).length) false).length = 8 := by
        simp only [List.length_append, List.length_take, List.length_replicate]; omega
      rw [byteBits_ofNat_bitsToNat _ hchunk]
      by_cases h8 : 8 ≤ l.length
      · have ht : (l.take 8).length = 8 := by simp only [List.length_take]; omega
        rw [ht, Nat.sub_self, List.replicate_zero, List.append_nil]
        rw [ih (l.drop 8) (by simp only [List.length_drop]; omega)]
        have hp : padLen (l.drop 8).length = padLen l.length := by
          simp only [List.length_drop]; unfold padLen; omega
        rw [hp, ← List.append_assoc, List.take_append_drop]
      · have ht : l.take 8 = l := List.take_of_length_le (by omega)
        have hd : l.drop 8 = [] := List.drop_of_length_le (by omega)
        rw [ht, hd, bitsToBytesAux_nil]
        have hp : padLen l.length = 8 - l.length := by unfold padLen; omega
        rw [hp]
        simp [bytesToBits]

theorem bytesToBits_bitsToBytes (l : Bits) :
    bytesToBits (bitsToBytes l) = l ++ List.replicate (padLen l.length) false :=
  bytesToBits_bitsToBytesAux l.length l (Nat.le_refl _)

theorem bytesToBits_bitsToBytes_aligned (l : Bits) (h : l.length % 8 = 0) : bytesToBits (bitsToBytes l) = l := by
  rw [bytesToBits_bitsToBytes]
  have : padLen l.length = 0 := by unfold padLen; omega
  rw [this]; simp

theorem bitsToBytes_length (l : Bits) : (bitsToBytes l).length = (l.length + 7) / 8 := by
  have := congrArg List.length (bytesToBits_bitsToBytes l)
  rw [bytesToBits_length, List.length_append, List.length_replicate] at this
  unfold padLen at this
  omega

theorem bitsToBytes_length_aligned (l : Bits) (h : l.length % 8 = 0) : 8 * (bitsToBytes l).length = l.length := by
  have := congrArg List.length (bytesToBits_bitsToBytes_aligned l h)
  rw [bytesToBits_length] at this
  exact this

theorem bitsToBytes_append_aligned (a b : Bits) (h : a.length % 8 = 0) :
    bitsToBytes (a ++ b) = bitsToBytes a ++ bitsToBytes b := by
  apply bytesToBits_inj
  rw [bytesToBits_append, bytesToBits_bitsToBytes (a ++ b), bytesToBits_bitsToBytes_aligned a h, bytesToBits_bitsToBytes b]
  have : padLen (a ++ b).length = padLen b.length := by
    rw [List.length_append]; unfold padLen; omega
  rw [this, List.append_assoc]

end Stgutg.Proofs.AperRTComp
