/-
  C04, composite round trip — the parameter tests of `AperRTCompDefs` (`sizedOK`, `intOK`) as propositions.
-/
import Stgutg.Proofs.AperRTCompDefs
import Stgutg.Proofs.AperSpecComp

namespace Stgutg.Proofs.AperRTComp
open Stgutg Stgutg.Aper Stgutg.Proofs.Bits Stgutg.Proofs.AperRT

theorem sizedOK_spec (p : Params) (h : sizedOK p = true) : SizedParamsOK p ∧ p.valueExt = false := by
  unfold sizedOK at h
  simp only [Bool.and_eq_true, Bool.or_eq_true, Bool.not_eq_true'] at h
  obtain ⟨⟨⟨⟨⟨h1, h2⟩, h3⟩, h4⟩, h5⟩, _⟩ := h
  refine ⟨⟨?_, ?_, ?_, ?_⟩, h5⟩
  · intro hs
    rcases h1 with h1 | h1
    · rw [hs] at h1; cases h1
    · exact h1
  · intro hu
    rcases h2 with h2 | h2
    · rw [hu] at h2; cases h2
    · exact h2
  · intro l hl
    rw [hl] at h3
    simpa using h3
  · exact AperTotal.sizeOK_spec p h4

theorem sizedOK_frag (p : Params) (h : sizedOK p = true) : FragParamsOK p := by
  unfold sizedOK at h
  simp only [Bool.and_eq_true] at h
  have hf := h.2
  unfold fragOK at hf
  simp only [Bool.and_eq_true, Bool.or_eq_true, beq_iff_eq] at hf
  obtain ⟨hA, hB⟩ := hf
  refine ⟨?_, ?_⟩
  · intro hu
    rcases hA with (hA | hA) | hA
    · rw [hu] at hA; cases hA
    · exact Or.inl hA
    · exact Or.inr hA
  · intro u hu hle
    rw [hu] at hB
    simp only [Bool.or_eq_true, decide_eq_true_eq] at hB
    omega

theorem intOK_spec (p : Params) (h : intOK p = true) : ∃ lb ub, p.valueLB = some lb ∧ p.valueUB = some ub ∧
    0 ≤ lb ∧ ub < 2 ^ 63 ∧ (ub - lb + 1 > 65536 → lb = 0) ∧ p.sizeExt = false := by
  unfold intOK at h
  cases hl : p.valueLB with
  | none => rw [hl] at h; simp at h
  | some lb =>
    cases hu : p.valueUB with
    | none => rw [hl, hu] at h; simp at h
    | some ub =>
      rw [hl, hu] at h
      simp only [Bool.and_eq_true, decide_eq_true_eq, Bool.or_eq_true, Bool.not_eq_true'] at h
      obtain ⟨⟨⟨h1, h2⟩, h3⟩, h4⟩ := h
      exact ⟨lb, ub, rfl, rfl, h1, h2, by intro hb; rcases h3 with h3 | h3 <;> omega, h4⟩

end Stgutg.Proofs.AperRTComp
