/-
  The conversion helpers of C17 that need an argument: the AMF identifier as arithmetic on its three octets, the
  protocol configuration options (the three-state reader of `UnMarshal`, one equation per state; round trip with
  `Marshal`; agreement with the TS 24.008 encoding; totality), and what is assumed of `net` for the transport layer
  address (`V4Text`, `V6Text`).
-/
import Stgutg.Model.Convert
import Stgutg.Spec.Convert3gpp
open Stgutg

namespace Stgutg.Proofs.Convert
open Model.Convert


theorem u8OfInt_octet {n : Nat} (h : n < 256) : u8OfInt (n : Int) = UInt8.ofNat n ∧ (UInt8.ofNat n).toNat = n := by
  refine ⟨?_, by rw [UInt8.toNat_ofNat']; omega⟩
  unfold u8OfInt
  congr 1
  omega

/-- the AMF Set ID arithmetic of `AmfIdToNas` on the octets, as numbers -/
theorem amf_set_toNat (b1 b2 : UInt8) :
    ((b1.toUInt16 <<< 2) + ((b2.toUInt16 &&& 0x00c0) >>> 6)).toNat = b1.toNat * 4 + b2.toNat / 64 := by
  have h1 := b1.toNat_lt
  have h2 := b2.toNat_lt
  simp only [UInt16.toNat_add, UInt16.toNat_shiftLeft, UInt16.toNat_shiftRight, UInt16.toNat_and, UInt8.toNat_toUInt16]
  have e2 : (2 : UInt16).toNat % 16 = 2 := by decide
  have e6 : (6 : UInt16).toNat % 16 = 6 := by decide
  have ec : (0x00c0 : UInt16).toNat = 192 := by decide
  rw [e2, e6, ec, Nat.shiftRight_and_distrib, Nat.shiftLeft_eq]
  have e3 : 192 >>> 6 = 2 ^ 2 - 1 := by decide
  rw [e3, Nat.and_two_pow_sub_one_eq_mod, Nat.shiftRight_eq_div_pow]
  omega

theorem amf_pointer_toNat (b2 : UInt8) : (b2 &&& 0x3f).toNat = b2.toNat % 64 := by
  rw [UInt8.toNat_and]
  have : (0x3f : UInt8).toNat = 2 ^ 6 - 1 := by decide
  rw [this, Nat.and_two_pow_sub_one_eq_mod]

/-- all 2^24 identifiers at once: region 8 bits, set 10 bits, pointer 6 bits -/
theorem amfIdToNas_octets (E : Ext) (amfId : Bytes) (n : Nat)
    (hdec : (E.hexDecode amfId).1 = Spec.Convert.amfIdOctets n) :
    ∃ r s p, amfIdToNas E amfId = .ok (r, s, p) ∧
      Spec.Convert.amfIdSplit n = { region := r.toNat, set := s.toNat, pointer := p.toNat } := by
  unfold amfIdToNas
  rw [hdec]
  refine ⟨_, _, _, rfl, ?_⟩
  simp only [Spec.Convert.amfIdSplit, amf_set_toNat, amf_pointer_toNat, UInt8.toNat_ofNat']
  have : (2:Nat) ^ 24 = 16777216 := by decide
  simp only [Spec.Convert.AmfId.mk.injEq]
  refine ⟨trivial, ?_, ?_⟩ <;> omega

theorem amfId_join_split (n : Nat) (hn : n < 2 ^ 24) : Spec.Convert.amfIdJoin (Spec.Convert.amfIdSplit n) = n := by
  simp only [Spec.Convert.amfIdJoin, Spec.Convert.amfIdSplit]
  omega

theorem amfId_split_join (a : Spec.Convert.AmfId) (hr : a.region < 2 ^ 8) (hs : a.set < 2 ^ 10) (hp : a.pointer < 2 ^ 6) :
    Spec.Convert.amfIdSplit (Spec.Convert.amfIdJoin a) = a := by
  cases a with
  | mk r s p =>
    simp only [Spec.Convert.amfIdJoin, Spec.Convert.amfIdSplit, Spec.Convert.AmfId.mk.injEq] at *
    omega


theorem shift8 : (8 : UInt16).toNat % 16 = 8 := by decide

theorem u16_recompose (v : UInt16) : ((v >>> 8).toUInt8.toUInt16 <<< 8) ||| v.toUInt8.toUInt16 = v := by
  apply UInt16.toNat_inj.mp
  have hv := v.toNat_lt
  simp only [UInt16.toNat_or, UInt16.toNat_shiftLeft, UInt8.toNat_toUInt16, UInt16.toNat_toUInt8, UInt16.toNat_shiftRight]
  rw [shift8, Nat.shiftRight_eq_div_pow, Nat.shiftLeft_eq]
  have hb : v.toNat % 2 ^ 8 < 2 ^ 8 := Nat.mod_lt _ (by decide)
  have hlt : v.toNat / 2 ^ 8 % 2 ^ 8 * 2 ^ 8 % 2 ^ 16 = (v.toNat / 2 ^ 8 % 2 ^ 8) <<< 8 := by
    rw [Nat.shiftLeft_eq]; omega
  rw [hlt, ← Nat.shiftLeft_add_eq_or_of_lt hb, Nat.shiftLeft_eq]
  omega

def Consistent (u : PcoUnit) : Prop := u.len.toNat = u.contents.length

theorem pcoLoop_id (f : Nat) (n : Int) (hn : 0 < n) (a b : UInt8) (rd : Bytes) (cur : PcoUnit) (acc : List PcoUnit) :
    pcoLoop (f + 1) .readingID n (a :: b :: rd) cur acc =
      pcoLoop f .readingLength (n - 2) rd { id := (a.toUInt16 <<< 8) ||| b.toUInt16, len := 0, contents := [] } acc := by
  rw [pcoLoop, if_neg (by omega)]

theorem pcoLoop_len (f : Nat) (n : Int) (hn : 0 < n) (l : UInt8) (rd : Bytes) (cur : PcoUnit) (acc : List PcoUnit) :
    pcoLoop (f + 1) .readingLength n (l :: rd) cur acc =
      pcoLoop f .readingContent (n - 1) rd { cur with len := l }
        (if l == 0 then acc ++ [{ cur with len := l }] else acc) := by
  rw [pcoLoop, if_neg (by omega)]

theorem pcoLoop_content (f : Nat) (n : Int) (c t : Bytes) (hn : (c.length : Int) ≤ n) (cur : PcoUnit)
    (acc : List PcoUnit) (hl : cur.len.toNat = c.length) (hc : cur.len = 0 → cur.contents = []) :
    pcoLoop (f + 1) .readingContent n (c ++ t) cur acc =
      pcoLoop f .readingID (n - c.length) t { cur with contents := c }
        (if cur.len == 0 then acc else acc ++ [{ cur with contents := c }]) := by
  by_cases h0 : cur.len = 0
  · -- no contents: the turn only changes the state
    obtain rfl : c = [] := List.eq_nil_of_length_eq_zero (by rw [← hl, h0]; rfl)
    have hcur : { cur with contents := ([] : Bytes) } = cur := by cases cur; simp_all
    rw [hcur, pcoLoop]
    by_cases hn0 : n ≤ 0
    · rw [if_pos hn0, pcoLoop.eq_def, if_pos (by simpa using hn0)]; simp [h0]
    · rw [if_neg hn0]; simp [h0]
  · have hgt : cur.len > 0 := by
      rw [gt_iff_lt, UInt8.lt_iff_toNat_lt]
      exact Nat.pos_of_ne_zero fun e => h0 (UInt8.toNat_inj.mp e)
    have hpos : 0 < c.length := hl ▸ UInt8.lt_iff_toNat_lt.mp hgt
    simp only [beq_iff_eq, h0, if_false]
    rw [pcoLoop, if_neg (by omega), if_pos hgt, if_neg (by rw [List.length_append]; omega), hl, List.take_left,
      List.drop_left]

/-- the reader consumes one marshalled unit in three turns of the loop and appends exactly that unit -/
theorem pcoLoop_unit (u : PcoUnit) (hu : Consistent u) (t : Bytes) (f : Nat) (cur : PcoUnit) (acc : List PcoUnit) :
    ∃ cur', pcoLoop (f + 3) .readingID ((3 + u.contents.length + t.length : Nat) : Int)
        (u16BE u.id ++ [u.len] ++ u.contents ++ t) cur acc
      = pcoLoop f .readingID ((t.length : Nat) : Int) t cur' (acc ++ [u]) := by
  refine ⟨u, ?_⟩
  simp only [u16BE, List.cons_append, List.nil_append]
  rw [pcoLoop_id _ _ (by omega), pcoLoop_len _ _ (by omega), u16_recompose,
    pcoLoop_content _ _ _ _ (by omega) ⟨u.id, u.len, []⟩ _ hu fun _ => rfl]
  have hlen : (↑(3 + u.contents.length + t.length) : Int) - 2 - 1 - u.contents.length = t.length := by omega
  rw [hlen]
  by_cases h0 : u.len = 0
  · have hc : u.contents = [] := List.eq_nil_of_length_eq_zero (by rw [← hu, h0]; rfl)
    have hu' : u = ⟨u.id, 0, []⟩ := by cases u; simp_all
    simp only [h0, hc, beq_self_eq_true, if_true]
    rw [← hu']
  · simp only [beq_iff_eq, h0, if_false]

theorem u16BE_length (v : UInt16) : (u16BE v).length = 2 := rfl

theorem marshalUnits_length_ge : ∀ l : List PcoUnit, 3 * l.length ≤ (pcoMarshalUnits l).length
  | [] => by simp [pcoMarshalUnits]
  | u :: rest => by
    have := marshalUnits_length_ge rest
    simp only [pcoMarshalUnits, List.length_append, List.length_cons, u16BE_length, List.length_nil]
    omega

theorem pcoLoop_units : ∀ (l : List PcoUnit), (∀ u ∈ l, Consistent u) → ∀ (f : Nat) (cur : PcoUnit) (acc : List PcoUnit),
    3 * l.length ≤ f →
    pcoLoop f .readingID (((pcoMarshalUnits l).length : Nat) : Int) (pcoMarshalUnits l) cur acc = .ok (acc ++ l)
  | [], _, f, cur, acc, _ => by
    unfold pcoLoop
    simp [pcoMarshalUnits]
  | u :: rest, hl, f, cur, acc, hf => by
    obtain ⟨f', rfl⟩ : ∃ f', f = f' + 3 := ⟨f - 3, by have : (u :: rest).length = rest.length + 1 := rfl; omega⟩
    have hu := hl u (by simp)
    have hlen : (pcoMarshalUnits (u :: rest)).length = 3 + u.contents.length + (pcoMarshalUnits rest).length := by
      simp only [pcoMarshalUnits, List.length_append, List.length_cons, u16BE_length, List.length_nil]
    obtain ⟨cur', hstep⟩ := pcoLoop_unit u hu (pcoMarshalUnits rest) f' cur acc
    rw [hlen]
    show pcoLoop (f' + 3) .readingID _ (u16BE u.id ++ [u.len] ++ u.contents ++ pcoMarshalUnits rest) cur acc = _
    have hf' : 3 * rest.length ≤ f' := by
      have : (u :: rest).length = rest.length + 1 := rfl
      omega
    rw [hstep, pcoLoop_units rest (fun v hv => hl v (by simp [hv])) f' cur' (acc ++ [u]) hf', List.append_assoc]
    rfl

def toContainer (u : PcoUnit) : Spec.Convert.Container := { id := u.id.toNat, contents := u.contents }

theorem u16BE_spec (v : UInt16) : u16BE v = [UInt8.ofNat (v.toNat / 256), UInt8.ofNat v.toNat] := by
  unfold u16BE
  congr 1
  · apply UInt8.toNat_inj.mp
    rw [UInt16.toNat_toUInt8, UInt16.toNat_shiftRight, UInt8.toNat_ofNat', Nat.shiftRight_eq_div_pow, shift8]

theorem marshalUnits_spec : ∀ (l : List PcoUnit), (∀ u ∈ l, Consistent u) →
    pcoMarshalUnits l = Spec.Convert.pcoEncodeUnits (l.map toContainer)
  | [], _ => rfl
  | u :: rest, hl => by
    have hu : u.len.toNat = u.contents.length := hl u (by simp)
    have ih := marshalUnits_spec rest (fun v hv => hl v (by simp [hv]))
    simp only [pcoMarshalUnits, List.map_cons, Spec.Convert.pcoEncodeUnits, toContainer, u16BE_spec, ih, ← hu,
      UInt8.ofNat_toNat]
    simp

theorem spec_decode_units : ∀ (cs : List Spec.Convert.Container) (fuel : Nat),
    (∀ c ∈ cs, c.id < 65536 ∧ c.contents.length < 256) → (Spec.Convert.pcoEncodeUnits cs).length ≤ fuel →
    Spec.Convert.pcoDecodeUnits fuel (Spec.Convert.pcoEncodeUnits cs) = some cs
  | [], fuel, _, _ => by
    cases fuel <;> rfl
  | c :: rest, fuel, hc, hf => by
    obtain ⟨hid, hlen⟩ := hc c (by simp)
    have hf' : 3 + c.contents.length + (Spec.Convert.pcoEncodeUnits rest).length ≤ fuel := by
      simp only [Spec.Convert.pcoEncodeUnits, List.length_append, List.length_cons, List.length_nil] at hf
      omega
    obtain ⟨f, rfl⟩ : ∃ f, fuel = f + 1 := ⟨fuel - 1, by omega⟩
    show Spec.Convert.pcoDecodeUnits (f + 1) (UInt8.ofNat (c.id / 256) :: UInt8.ofNat c.id :: UInt8.ofNat c.contents.length
      :: (c.contents ++ Spec.Convert.pcoEncodeUnits rest)) = _
    unfold Spec.Convert.pcoDecodeUnits
    have hl : (UInt8.ofNat c.contents.length).toNat = c.contents.length := by
      rw [UInt8.toNat_ofNat']; omega
    have hi : (UInt8.ofNat (c.id / 256)).toNat * 256 + (UInt8.ofNat c.id).toNat = c.id := by
      rw [UInt8.toNat_ofNat', UInt8.toNat_ofNat']; omega
    rw [hl, if_neg (by rw [List.length_append]; omega), List.drop_left, List.take_left,
      spec_decode_units rest f (fun d hd => hc d (by simp [hd])) (by omega), hi]
    rfl


/-- what is left to do: three per unread octet, plus one when the next turn is not an identifier turn -/
def pcoMeasure (st : PcoState) (rd : Bytes) : Nat :=
  3 * rd.length + (match st with | .readingID => 0 | _ => 1)

/-- every turn of the reader's loop makes progress, so it cannot run out of fuel, and no turn traps:
    the only failure of `UnMarshal` is its error return -/
theorem pcoLoop_fails_only_with_error : ∀ (fuel : Nat) (st : PcoState) (n : Int) (rd : Bytes) (cur : PcoUnit)
    (acc : List PcoUnit), pcoMeasure st rd < fuel → ∀ e, pcoLoop fuel st n rd cur acc = .error e → e = Err.error := by
  intro fuel
  induction fuel with
  | zero => intro st n rd cur acc h; omega
  | succ f ih =>
    intro st n rd cur acc h e
    unfold pcoLoop
    by_cases hn : n ≤ 0
    · rw [if_pos hn]; intro he; cases he
    · rw [if_neg hn]
      cases st with
      | readingID =>
        match rd with
        | [] => intro he; cases he; rfl
        | [_] => intro he; cases he; rfl
        | a :: b :: rd' =>
          apply ih
          simp only [pcoMeasure, List.length_cons] at h ⊢
          omega
      | readingLength =>
        match rd with
        | [] => intro he; cases he; rfl
        | l :: rd' =>
          apply ih
          simp only [pcoMeasure, List.length_cons] at h ⊢
          omega
      | readingContent =>
        dsimp only
        split
        · split
          · intro he; cases he; rfl
          · apply ih
            simp only [pcoMeasure, List.length_drop] at h ⊢
            omega
        · apply ih
          simp only [pcoMeasure] at h ⊢
          omega

/-- `a` is the text of the IPv4 address `w.x.y.z` for the standard library: `ParseIP` reads it as that address and
    `IP.String` prints that address as `a` -/
structure V4Text (E : Ext) (a : Bytes) (w x y z : UInt8) : Prop where
  nonempty : a ≠ []
  parse : to4 (E.parseIP a) = some [w, x, y, z]
  print : E.ipString (netIPv4 w x y z) = a

/-- `b` is the text of the 16-octet IPv6 address `ip` for the standard library -/
structure V6Text (E : Ext) (b : Bytes) (ip : Bytes) : Prop where
  nonempty : b ≠ []
  parse : E.parseIP b = some ip
  len : ip.length = 16
  print : E.ipString ip = b

theorem to16_of_len {ip : Bytes} (h : ip.length = 16) : to16 (some ip) = some ip := by
  unfold to16
  split
  · next a b c d heq => injection heq with heq; subst heq; simp at h
  · next l heq => injection heq with heq; subst heq; simp [h]
  · next heq => cases heq

theorem first16_of_len {ip : Bytes} (h : ip.length = 16) : first16 (some ip) = .ok ip := by
  have ht : ip.take 16 = ip := by rw [← h]; exact List.take_length
  simp [first16, h, ht]

end Stgutg.Proofs.Convert
