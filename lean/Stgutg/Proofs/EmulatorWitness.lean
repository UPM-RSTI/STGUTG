/-
  C01 / C02 — concrete conversations for the kernel-checked witnesses (non-vacuity of the end-to-end statements):
  two REAL conversations recorded by the `convo-reg` / `convo-life` correspondence domains on the repaired tree (in-process
  procedures of package stgutg against the scripted AMF): configuration, AMF choices, downlink messages, the uplink messages
  the IMPLEMENTATION sent and what EstablishPDU returned.
  `acceptedRun` = "the reference AMF accepts the model's transcript on these downlink messages"; it is established here for
  the registration conversation with the executable crypto, through the recorded implementation octets (the model
  reproduces them, the reference AMF accepts them), and for the life-cycle conversation with `cheapPrims`, all by kernel
  evaluation (`decide +kernel`, no native_decide; the executable crypto is evaluated in the form of Proofs/CryptoEval.lean);
  Props/C01.lean and Props/C02.lean use the two.  The life-cycle conversation with the executable crypto is
  Proofs/EmulatorWitnessImpl.lean (thorough tier).
  The recorded octets are those of the tree at recording time: after a repair in /repo that changes the wire octets the
  data must be re-generated; the live comparison is the `convo-*` correspondence run.
  Data generated with `VERIF_CONVO_ONLY=proc:1,0,0,0,0:0 corr-verif convo-reg -seed 11` and
  `VERIF_CONVO_ONLY=proc:1,1,1,1,1:0 corr-verif convo-life -seed 12`.
-/
import Stgutg.Model.Emulator
import Stgutg.Model.NetExt
import Stgutg.Spec.Amf
import Stgutg.Proofs.CryptoEval

namespace Stgutg.Proofs.EmulatorWitness
open Stgutg Stgutg.Model.Emulator

/-- the reference AMF's view of a configuration -/
def specOf (c : Cfg) (abba : Bytes) : Spec.Amf.Cfg :=
  { imsi := c.imsi, mcc := c.mcc, mnc := c.mnc, k := c.k, opc := c.opc, op := c.op, gnbId := c.gnbId, bitLength := c.bitlength,
    name := c.name, abba := abba, reg := c.reg, pdu := c.pdu, svc := c.svc, rel := c.rel, dereg := c.dereg }

def toReported (rs : List Report) : List Spec.Amf.Reported := rs.map fun r => { ip := r.ip, teid := r.teid, upf := r.upf }

def reg1Cfg : Cfg :=
  { imsi := [53, 57, 57, 48, 51, 48, 48, 48, 48, 48, 48, 48, 48, 54]
    mcc := [53, 57, 57]
    mnc := [48, 51]
    k := [100, 98, 48, 56, 99, 48, 56, 54, 57, 54, 101, 54, 49, 99, 100, 52, 99, 98, 101, 50, 53, 100, 52, 51, 52, 50, 54, 52, 53, 100, 102, 57]
    opc := [49, 98, 54, 57, 101, 101, 54, 50, 50, 99, 98, 99, 51, 51, 54, 98, 57, 57, 56, 100, 54, 56, 102, 98, 49, 57, 98, 97, 53, 54, 101, 55]
    op := [57, 57, 53, 69, 49, 53, 67, 51, 57, 66, 55, 65, 56, 51, 67, 49, 51, 69, 48, 54, 57, 69, 50, 52, 50, 67, 66, 49, 51, 69, 67, 55]
    gnbId := [81, 125, 80]
    bitlength := 22
    name := [103]
    sst := 1
    sd := [102, 101, 102, 48, 50, 99]
    gnbGtp := [52, 56, 46, 53, 51, 46, 49, 48, 48, 46, 56, 57]
    reg := 1
    pdu := 0
    svc := 0
    rel := 0
    dereg := 0 }

def reg1Choices : List Spec.Amf.Choice :=
  [{ rand := [205, 184, 197, 34, 94, 109, 249, 147, 85, 142, 192, 94, 102, 160, 53, 88], sqn := [253, 199, 99, 0, 165, 7], amf := [158, 40], ngKsi := 2, amfUeNgapId := 107421176,
     ueIp := [10, 60, 21, 73], teid := 708634428, upfIp := [10, 200, 7, 98] }]

/-- the downlink messages the scripted AMF sent in that run -/
def reg1Dls : List Bytes :=
  [[32, 21, 0, 48, 0, 0, 4, 0, 1, 0, 9, 3, 0, 97, 109, 102, 45, 50, 57, 52, 0, 96, 0, 8, 0, 0, 149, 249, 48, 10, 183, 183, 0, 86, 64, 1, 98, 0, 80, 0, 11, 0, 149, 249, 48, 0, 0, 16, 8, 254, 240, 44],
   [0, 4, 64, 65, 0, 0, 3, 0, 10, 0, 5, 96, 6, 103, 29, 248, 0, 85, 0, 2, 0, 6, 0, 38, 0, 43, 42, 126, 0, 86, 2, 2, 0, 0, 33, 205, 184, 197, 34, 94, 109, 249, 147, 85, 142, 192, 94, 102, 160, 53, 88, 32, 16, 64, 121, 134, 117, 119, 36, 158, 40, 190, 105, 216, 158, 49, 62, 137, 35],
   [0, 4, 64, 39, 0, 0, 3, 0, 10, 0, 5, 96, 6, 103, 29, 248, 0, 85, 0, 2, 0, 6, 0, 38, 0, 17, 16, 126, 3, 66, 200, 239, 18, 0, 126, 0, 93, 2, 2, 2, 128, 32, 225],
   [0, 14, 0, 128, 137, 0, 0, 7, 0, 10, 0, 5, 96, 6, 103, 29, 248, 0, 85, 0, 2, 0, 6, 0, 28, 0, 7, 0, 149, 249, 48, 10, 183, 183, 0, 0, 0, 5, 2, 1, 254, 240, 44, 0, 119, 0, 9, 0, 0, 4, 0, 0, 0, 0, 0, 0, 0, 94, 0, 32, 216, 7, 81, 128, 73, 179, 60, 221, 1, 219, 161, 97, 119, 31, 196, 112, 222, 17, 36, 202, 197, 248, 47, 57, 27, 254, 244, 127, 119, 179, 126, 132, 0, 38, 64, 46, 45, 126, 2, 6, 105, 2, 62, 1, 126, 0, 66, 1, 1, 119, 0, 11, 242, 149, 249, 48, 10, 183, 183, 85, 63, 32, 182, 84, 7, 0, 149, 249, 48, 0, 0, 1, 21, 5, 4, 1, 254, 240, 44, 94, 1, 94],
   [0, 4, 64, 41, 0, 0, 3, 0, 10, 0, 5, 96, 6, 103, 29, 248, 0, 85, 0, 2, 0, 6, 0, 38, 0, 19, 18, 126, 2, 51, 230, 160, 49, 2, 126, 0, 84, 67, 6, 144, 118, 101, 114, 105, 102]]

/-- the uplink messages the IMPLEMENTATION sent in that run -/
def reg1ImplUls : List Bytes :=
  [[0, 21, 0, 47, 0, 0, 4, 0, 27, 0, 8, 0, 149, 249, 48, 0, 81, 125, 80, 0, 82, 64, 3, 0, 0, 103, 0, 102, 0, 16, 0, 0, 0, 0, 1, 0, 149, 249, 48, 0, 0, 16, 8, 1, 2, 3, 0, 21, 64, 1, 64],
   [0, 15, 64, 66, 0, 0, 5, 0, 85, 0, 2, 0, 6, 0, 38, 0, 24, 23, 126, 0, 65, 121, 0, 13, 1, 149, 249, 48, 240, 255, 0, 0, 0, 0, 0, 0, 246, 46, 2, 128, 32, 0, 121, 0, 15, 64, 149, 249, 48, 0, 0, 0, 0, 16, 149, 249, 48, 0, 0, 1, 0, 90, 64, 1, 16, 0, 112, 64, 1, 0],
   [0, 46, 64, 63, 0, 0, 4, 0, 10, 0, 5, 96, 6, 103, 29, 248, 0, 85, 0, 2, 0, 6, 0, 38, 0, 22, 21, 126, 0, 87, 45, 16, 86, 1, 39, 84, 177, 173, 57, 108, 254, 44, 18, 25, 164, 170, 143, 193, 0, 121, 64, 15, 64, 149, 249, 48, 0, 0, 0, 0, 16, 149, 249, 48, 0, 0, 1],
   [0, 46, 64, 93, 0, 0, 4, 0, 10, 0, 5, 96, 6, 103, 29, 248, 0, 85, 0, 2, 0, 6, 0, 38, 0, 52, 51, 126, 4, 134, 174, 212, 178, 0, 126, 0, 94, 119, 0, 9, 21, 17, 0, 0, 0, 0, 0, 0, 0, 113, 0, 26, 126, 0, 65, 121, 0, 13, 1, 149, 249, 48, 240, 255, 0, 0, 0, 0, 0, 0, 246, 16, 1, 7, 46, 2, 128, 32, 0, 121, 64, 15, 64, 149, 249, 48, 0, 0, 0, 0, 16, 149, 249, 48, 0, 0, 1],
   [32, 14, 0, 18, 0, 0, 2, 0, 10, 64, 5, 96, 6, 103, 29, 248, 0, 85, 64, 2, 0, 6],
   [0, 46, 64, 52, 0, 0, 4, 0, 10, 0, 5, 96, 6, 103, 29, 248, 0, 85, 0, 2, 0, 6, 0, 38, 0, 11, 10, 126, 2, 12, 137, 33, 196, 1, 126, 0, 67, 0, 121, 64, 15, 64, 149, 249, 48, 0, 0, 0, 0, 16, 149, 249, 48, 0, 0, 1]]

def reg1Abba : Bytes := [0, 0]

def life1Cfg : Cfg :=
  { imsi := [54, 51, 51, 56, 50, 51, 50, 49, 50, 51, 48, 48, 48, 52]
    mcc := [54, 51, 51]
    mnc := [56, 50, 51]
    k := [55, 52, 49, 67, 70, 53, 67, 70, 57, 51, 49, 66, 51, 55, 67, 68, 50, 54, 51, 54, 70, 70, 51, 48, 70, 49, 57, 56, 48, 69, 68, 50]
    opc := []
    op := [98, 55, 56, 101, 99, 53, 99, 53, 98, 48, 97, 53, 97, 54, 99, 55, 57, 102, 53, 48, 56, 98, 100, 53, 99, 57, 102, 97, 98, 98, 100, 56]
    gnbId := [63, 18, 61, 80]
    bitlength := 28
    name := [83, 84, 71, 85, 84, 71, 45, 103, 78, 66, 46, 57, 48, 50]
    sst := 3
    sd := [53, 102, 57, 102, 57, 55]
    gnbGtp := [50, 50, 48, 46, 50, 48, 50, 46, 49, 55, 48, 46, 49, 54, 57]
    reg := 1
    pdu := 1
    svc := 1
    rel := 1
    dereg := 1 }

def life1Choices : List Spec.Amf.Choice :=
  [{ rand := [230, 45, 196, 175, 2, 228, 130, 0, 24, 85, 180, 158, 24, 234, 23, 2], sqn := [140, 254, 185, 153, 154, 190], amf := [207, 204], ngKsi := 0, amfUeNgapId := 900013228284,
     ueIp := [10, 61, 169, 6], teid := 4017866275, upfIp := [10, 200, 83, 150] }]

/-- the downlink messages the scripted AMF sent in that run -/
def life1Dls : List Bytes :=
  [[32, 21, 0, 48, 0, 0, 4, 0, 1, 0, 9, 3, 0, 97, 109, 102, 45, 52, 54, 56, 0, 96, 0, 8, 0, 0, 54, 51, 40, 26, 212, 35, 0, 86, 64, 1, 90, 0, 80, 0, 11, 0, 54, 51, 40, 0, 0, 16, 24, 95, 159, 151],
   [0, 4, 64, 66, 0, 0, 3, 0, 10, 0, 6, 128, 209, 140, 248, 0, 252, 0, 85, 0, 2, 0, 4, 0, 38, 0, 43, 42, 126, 0, 86, 0, 2, 0, 0, 33, 230, 45, 196, 175, 2, 228, 130, 0, 24, 85, 180, 158, 24, 234, 23, 2, 32, 16, 180, 142, 132, 173, 139, 253, 207, 204, 248, 220, 188, 165, 127, 156, 0, 195],
   [0, 4, 64, 40, 0, 0, 3, 0, 10, 0, 6, 128, 209, 140, 248, 0, 252, 0, 85, 0, 2, 0, 4, 0, 38, 0, 17, 16, 126, 3, 198, 144, 26, 255, 0, 126, 0, 93, 2, 0, 2, 128, 32, 225],
   [0, 14, 0, 128, 138, 0, 0, 7, 0, 10, 0, 6, 128, 209, 140, 248, 0, 252, 0, 85, 0, 2, 0, 4, 0, 28, 0, 7, 0, 54, 51, 40, 26, 212, 35, 0, 0, 0, 5, 2, 3, 95, 159, 151, 0, 119, 0, 9, 0, 0, 4, 0, 0, 0, 0, 0, 0, 0, 94, 0, 32, 83, 234, 173, 99, 156, 84, 42, 67, 67, 105, 116, 252, 115, 138, 71, 117, 201, 79, 10, 229, 114, 51, 78, 85, 160, 139, 159, 97, 29, 90, 92, 65, 0, 38, 64, 46, 45, 126, 2, 190, 59, 4, 54, 1, 126, 0, 66, 1, 1, 119, 0, 11, 242, 54, 51, 40, 26, 212, 35, 228, 29, 92, 132, 84, 7, 0, 54, 51, 40, 0, 0, 1, 21, 5, 4, 3, 95, 159, 151, 94, 1, 94],
   [0, 4, 64, 42, 0, 0, 3, 0, 10, 0, 6, 128, 209, 140, 248, 0, 252, 0, 85, 0, 2, 0, 4, 0, 38, 0, 19, 18, 126, 2, 52, 0, 60, 246, 2, 126, 0, 84, 67, 6, 144, 118, 101, 114, 105, 102],
   [0, 29, 0, 128, 142, 0, 0, 3, 0, 10, 0, 6, 128, 209, 140, 248, 0, 252, 0, 85, 0, 2, 0, 4, 0, 74, 0, 119, 0, 64, 4, 62, 126, 2, 195, 95, 139, 9, 3, 126, 0, 104, 1, 0, 47, 46, 4, 1, 194, 17, 0, 9, 1, 0, 6, 49, 49, 1, 1, 255, 1, 6, 6, 0, 100, 6, 0, 100, 41, 5, 1, 10, 61, 169, 6, 34, 4, 3, 95, 159, 151, 37, 9, 8, 105, 110, 116, 101, 114, 110, 101, 116, 18, 4, 64, 96, 95, 159, 151, 47, 0, 0, 4, 0, 130, 0, 10, 12, 5, 245, 225, 0, 48, 5, 245, 225, 0, 0, 139, 0, 10, 1, 240, 10, 200, 83, 150, 239, 123, 198, 35, 0, 134, 0, 1, 0, 0, 136, 0, 7, 0, 1, 0, 0, 9, 28, 0],
   [0, 14, 0, 107, 0, 0, 7, 0, 10, 0, 6, 128, 209, 140, 248, 0, 252, 0, 85, 0, 2, 0, 4, 0, 28, 0, 7, 0, 54, 51, 40, 26, 212, 35, 0, 0, 0, 5, 2, 3, 95, 159, 151, 0, 119, 0, 9, 0, 0, 4, 0, 0, 0, 0, 0, 0, 0, 94, 0, 32, 227, 4, 39, 173, 59, 11, 164, 168, 183, 222, 108, 17, 40, 34, 166, 181, 144, 10, 38, 253, 241, 144, 217, 236, 217, 3, 128, 46, 49, 147, 74, 198, 0, 38, 64, 15, 14, 126, 2, 41, 53, 219, 39, 4, 126, 0, 78, 80, 2, 16, 0],
   [0, 4, 64, 34, 0, 0, 3, 0, 10, 0, 6, 128, 209, 140, 248, 0, 252, 0, 85, 0, 2, 0, 4, 0, 38, 0, 11, 10, 126, 2, 236, 213, 90, 63, 5, 126, 0, 70],
   [0, 41, 0, 20, 0, 0, 2, 0, 114, 0, 8, 8, 209, 140, 248, 0, 252, 0, 4, 0, 15, 64, 1, 72]]

/-- the uplink messages the IMPLEMENTATION sent in that run -/
def life1ImplUls : List Bytes :=
  [[0, 21, 0, 61, 0, 0, 4, 0, 27, 0, 9, 0, 54, 51, 40, 48, 63, 18, 61, 80, 0, 82, 64, 16, 6, 128, 83, 84, 71, 85, 84, 71, 45, 103, 78, 66, 46, 57, 48, 50, 0, 102, 0, 16, 0, 0, 0, 0, 1, 0, 54, 51, 40, 0, 0, 16, 8, 1, 2, 3, 0, 21, 64, 1, 64],
   [0, 15, 64, 65, 0, 0, 5, 0, 85, 0, 2, 0, 4, 0, 38, 0, 23, 22, 126, 0, 65, 121, 0, 12, 1, 54, 51, 40, 240, 255, 0, 0, 18, 50, 0, 64, 46, 2, 128, 32, 0, 121, 0, 15, 64, 54, 51, 40, 0, 0, 0, 0, 16, 54, 51, 40, 0, 0, 1, 0, 90, 64, 1, 16, 0, 112, 64, 1, 0],
   [0, 46, 64, 64, 0, 0, 4, 0, 10, 0, 6, 128, 209, 140, 248, 0, 252, 0, 85, 0, 2, 0, 4, 0, 38, 0, 22, 21, 126, 0, 87, 45, 16, 146, 176, 168, 136, 5, 94, 86, 34, 46, 169, 194, 253, 152, 121, 176, 15, 0, 121, 64, 15, 64, 54, 51, 40, 0, 0, 0, 0, 16, 54, 51, 40, 0, 0, 1],
   [0, 46, 64, 93, 0, 0, 4, 0, 10, 0, 6, 128, 209, 140, 248, 0, 252, 0, 85, 0, 2, 0, 4, 0, 38, 0, 51, 50, 126, 4, 187, 117, 41, 14, 0, 126, 0, 94, 119, 0, 9, 21, 17, 0, 0, 0, 0, 0, 0, 0, 113, 0, 25, 126, 0, 65, 121, 0, 12, 1, 54, 51, 40, 240, 255, 0, 0, 18, 50, 0, 64, 16, 1, 7, 46, 2, 128, 32, 0, 121, 64, 15, 64, 54, 51, 40, 0, 0, 0, 0, 16, 54, 51, 40, 0, 0, 1],
   [32, 14, 0, 19, 0, 0, 2, 0, 10, 64, 6, 128, 209, 140, 248, 0, 252, 0, 85, 64, 2, 0, 4],
   [0, 46, 64, 53, 0, 0, 4, 0, 10, 0, 6, 128, 209, 140, 248, 0, 252, 0, 85, 0, 2, 0, 4, 0, 38, 0, 11, 10, 126, 2, 99, 155, 130, 157, 1, 126, 0, 67, 0, 121, 64, 15, 64, 54, 51, 40, 0, 0, 0, 0, 16, 54, 51, 40, 0, 0, 1],
   [0, 46, 64, 96, 0, 0, 4, 0, 10, 0, 6, 128, 209, 140, 248, 0, 252, 0, 85, 0, 2, 0, 4, 0, 38, 0, 54, 53, 126, 2, 129, 128, 93, 169, 2, 126, 0, 103, 1, 0, 20, 46, 4, 1, 193, 255, 255, 145, 123, 0, 10, 128, 0, 10, 0, 0, 13, 0, 0, 3, 0, 18, 4, 129, 34, 4, 3, 95, 159, 151, 37, 9, 8, 105, 110, 116, 101, 114, 110, 101, 116, 0, 121, 64, 15, 64, 54, 51, 40, 0, 0, 0, 0, 16, 54, 51, 40, 0, 0, 1],
   [32, 29, 0, 40, 0, 0, 3, 0, 10, 64, 6, 128, 209, 140, 248, 0, 252, 0, 85, 64, 2, 0, 4, 0, 75, 64, 17, 0, 0, 4, 13, 0, 3, 224, 220, 202, 170, 169, 0, 0, 0, 1, 0, 1],
   [0, 15, 64, 67, 0, 0, 5, 0, 85, 0, 2, 0, 4, 0, 38, 0, 25, 24, 126, 2, 72, 36, 252, 148, 3, 126, 0, 76, 17, 0, 7, 244, 254, 0, 0, 0, 0, 1, 64, 2, 0, 4, 0, 121, 0, 15, 64, 54, 51, 40, 0, 0, 0, 0, 16, 54, 51, 40, 0, 0, 1, 0, 90, 64, 1, 16, 0, 112, 64, 1, 0],
   [32, 14, 0, 40, 0, 0, 3, 0, 10, 64, 6, 128, 209, 140, 248, 0, 252, 0, 85, 64, 2, 0, 4, 0, 72, 64, 17, 0, 0, 4, 13, 0, 3, 224, 220, 202, 170, 169, 0, 0, 0, 1, 0, 1],
   [0, 46, 64, 62, 0, 0, 4, 0, 10, 0, 6, 128, 209, 140, 248, 0, 252, 0, 85, 0, 2, 0, 4, 0, 38, 0, 20, 19, 126, 2, 21, 69, 233, 72, 4, 126, 0, 103, 1, 0, 4, 46, 4, 1, 209, 18, 4, 0, 121, 64, 15, 64, 54, 51, 40, 0, 0, 0, 0, 16, 54, 51, 40, 0, 0, 1],
   [32, 28, 0, 28, 0, 0, 3, 0, 10, 64, 6, 128, 209, 140, 248, 0, 252, 0, 85, 64, 2, 0, 4, 0, 70, 64, 5, 0, 0, 4, 1, 0],
   [0, 46, 64, 80, 0, 0, 4, 0, 10, 0, 6, 128, 209, 140, 248, 0, 252, 0, 85, 0, 2, 0, 4, 0, 38, 0, 38, 37, 126, 2, 211, 154, 115, 57, 5, 126, 0, 103, 1, 0, 4, 46, 4, 1, 212, 18, 4, 129, 34, 4, 3, 95, 159, 151, 37, 9, 8, 105, 110, 116, 101, 114, 110, 101, 116, 0, 121, 64, 15, 64, 54, 51, 40, 0, 0, 0, 0, 16, 54, 51, 40, 0, 0, 1],
   [0, 46, 64, 68, 0, 0, 4, 0, 10, 0, 6, 128, 209, 140, 248, 0, 252, 0, 85, 0, 2, 0, 4, 0, 38, 0, 26, 25, 126, 2, 136, 162, 60, 55, 6, 126, 0, 69, 65, 0, 12, 1, 54, 51, 40, 240, 255, 0, 0, 18, 50, 0, 64, 0, 121, 64, 15, 64, 54, 51, 40, 0, 0, 0, 0, 16, 54, 51, 40, 0, 0, 1],
   [32, 41, 0, 38, 0, 0, 3, 0, 10, 64, 6, 128, 209, 140, 248, 0, 252, 0, 85, 64, 2, 0, 4, 0, 121, 64, 15, 64, 54, 51, 40, 0, 0, 0, 0, 16, 54, 51, 40, 0, 0, 17]]

def life1ImplReports : List Report :=
  [{ ip := [10, 61, 169, 6], teid := 4017866275, upf := [10, 200, 83, 150] }]

def life1Abba : Bytes := [0, 0]


/-- the end-to-end statement of C01 / C02 on one conversation: the model runs on the configuration and the downlink
    messages, the reference AMF judges its uplink messages (and, for C02, its reports and completion) -/
def acceptedRun (P : Prims) (E : Model.Convert.Ext) (cfg : Cfg) (abba : Bytes) (chs : List Spec.Amf.Choice) (dls : List Bytes)
    (life : Bool) : Bool :=
  match emulate P E cfg dls with
  | ⟨uls, reports, outcome⟩ =>
    Spec.Amf.judge P life (specOf cfg abba) chs uls (if life then some (toReported reports) else none) (outcome == .completed) == .accept

/-- primitives that are cheap to evaluate in the kernel and satisfy every hypothesis the C01 / C02 theorems make about
    primitives (block cipher on 16 octets, 32-octet MAC, CTR as a keystream cipher, CMAC tag of 4 octets) -/
def cheapPrims : Prims :=
  { aes := fun k b => xorBytes k b,
    ctr := fun _ iv m => xorBytes m (List.replicate m.length (iv.getD 4 0 ||| 0x80)),
    cmac := fun k m => [m.foldl (· ^^^ ·) (k.foldl (· ^^^ ·) 0), 0xa1, UInt8.ofNat m.length, 0xa3],
    hmac := fun k m => List.replicate 32 (m.foldl (· + ·) (k.foldl (· ^^^ ·) 0)) }

theorem acceptedRun_eq (P : Prims) (E : Model.Convert.Ext) (cfg : Cfg) (abba : Bytes) (chs : List Spec.Amf.Choice)
    (dls : List Bytes) (life : Bool) :
    acceptedRun P E cfg abba chs dls life =
      (Spec.Amf.judge P life (specOf cfg abba) chs (emulate P E cfg dls).uls
        (if life then some (toReported (emulate P E cfg dls).reports) else none)
        ((emulate P E cfg dls).outcome == .completed) == .accept) := rfl

/-! ### the kernel evaluations (kept here so that editing Props/C01.lean / C02.lean does not repeat them) -/

/-- the model reproduces, octet for octet, the six uplink messages the implementation sent, and completes -/
theorem reg1_model_eq_impl :
    (emulate Crypto.prims Model.NetExt.goExt reg1Cfg reg1Dls).uls = reg1ImplUls ∧
    (emulate Crypto.prims Model.NetExt.goExt reg1Cfg reg1Dls).outcome = .completed := by
  rw [CryptoEval.prims_eq]; decide +kernel

/-- the reference AMF accepts the implementation's transcript (C01's clauses) -/
theorem reg1_accepted :
    Spec.Amf.judge Crypto.prims false (specOf reg1Cfg reg1Abba) reg1Choices reg1ImplUls none true = .accept := by
  rw [CryptoEval.prims_eq]; decide +kernel

/-- NG Setup + registration of one UE, executable AES-128 / SHA-256 / HMAC / CMAC: accepted, the model's transcript being
    the implementation's -/
theorem reg1_accepted_run :
    acceptedRun Crypto.prims Model.NetExt.goExt reg1Cfg reg1Abba reg1Choices reg1Dls false = true := by
  rw [acceptedRun_eq, reg1_model_eq_impl.1, reg1_model_eq_impl.2]
  simp [reg1_accepted]

/-- the whole life cycle of one UE, `cheapPrims`: accepted (≈ 1 min of kernel evaluation) -/
theorem life1_accepted_run :
    acceptedRun cheapPrims Model.NetExt.goExt life1Cfg life1Abba life1Choices life1Dls true = true := by decide +kernel

end Stgutg.Proofs.EmulatorWitness
