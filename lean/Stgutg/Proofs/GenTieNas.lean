import Stgutg.Gen.PureNasProt
import Stgutg.Model.NasProtect
import Stgutg.Proofs.GenTieBase
import Stgutg.Proofs.GenTieCount
import Stgutg.Proofs.Count
/-!
  Tie by translation (C06, C10): `Gen/PureNasProt.lean` is regenerated on every run by `gen pure-nasprot` from the
  source text of
      src/tglib/security.go   NASEncode, NASDecode
      src/tglib/packet.go     EncodeNasPduWithSecurity
      src/tglib/decode.go     GetNasPdu
      src/free5gclib/nas/nas.go   NewMessage, GetSecurityHeaderType
  (the methods of `security.Count` come from `Gen/PureCount.lean`). The theorems below prove, for every UE
  context and every argument, that the generated definitions are the hand models of `Model/NasProtect.lean`.

  How the two sides are related
  * `*RanUeContext`: the generated carrier `RanUeContext` (the fields the functions select) has exactly the fields of the
    hand model's `UeSec` (`toSec` / `ofSec`, inverse to each other by `rfl`). The generated functions return the object
    behind `ue` together with the outcome — also with an error and with a panic — as the hand models do.
  * library calls: the generated functions take a record `Lib`. `libOf` builds it from the hand model's own
    parameters: `security.NASEncrypt` / `security.NASMacCalculate` are `Model.NasAlg.nasEncrypt` / `nasMac` over `Prims`
    (a model `.error .error` is the Go error return, `goErr`), `PlainNasDecode` panics on no octets
    (`Model.NasProtect.handToPlainDecode`, its first statement reads octet 0) and is otherwise an ARBITRARY function
    `pdec`, `PlainNasEncode` is an ARBITRARY function `penc`, `reflect.DeepEqual` an ARBITRARY `deq`; `junk` = what
    `NASEncrypt` leaves in the payload when it returns an error (ARBITRARY; nobody reads it).
  * results: the hand model of `NASEncode` returns octets / error / panic, the Go function (octets, err): `encView` drops
    the octets that accompany an error. The hand models of `NASDecode` / `GetNasPdu` return the octets handed to
    `PlainNasDecode`; the Go functions return the decoded message: `decResult` / `getResult` apply the plain decoder
    to the model's octets.
-/
namespace Stgutg.Proofs.GenTie.Nas
open Stgutg Stgutg.Gen
open Stgutg.Gen.Pure.NasProt Stgutg.Gen.Pure.Count
open Stgutg.Model.NasProtect (UeSec UlOp)

/-- the generated carrier of `tglib.RanUeContext` (trimmed to the fields this group selects) has exactly the
    fields of the hand model's `UeSec` -/
def toSec (u : RanUeContext) : UeSec :=
  { ulCount := u.ULCount.count, dlCount := u.DLCount.count, cipheringAlg := u.CipheringAlg,
    integrityAlg := u.IntegrityAlg, knasEnc := u.KnasEnc, knasInt := u.KnasInt }

def ofSec (u : UeSec) : RanUeContext :=
  { ULCount := ⟨u.ulCount⟩, DLCount := ⟨u.dlCount⟩, CipheringAlg := u.cipheringAlg,
    IntegrityAlg := u.integrityAlg, KnasEnc := u.knasEnc, KnasInt := u.knasInt }

theorem toSec_ofSec (u : UeSec) : toSec (ofSec u) = u := rfl
theorem ofSec_toSec (u : RanUeContext) : ofSec (toSec u) = u := rfl

/-- a Go `(value, err)` pair from a model outcome: `.error .error` is the error the Go function returns (beside a
    value nobody may use, `dflt`), a panic stays a panic -/
def goErr {α : Type} (dflt : α) : Res α → Res (α × Bool)
  | .ok a => .ok (a, false)
  | .error .error => .ok (dflt, true)
  | .error e => .error e

/-- the library record built from the hand model's own parameters -/
def libOf (P : Prims) (penc : Message → Res (Bytes × Bool)) (pdec : Message → Bytes → Res (Message × Bool))
    (deq : Bytes → Bytes → Bool) (junk : Bytes → Bytes) : Lib where
  plainNasEncode := penc
  plainNasDecode := fun m b =>
    match Model.NasProtect.handToPlainDecode b with
    | .ok b => pdec m b
    | .error e => .error e
  nasEncrypt := fun a k c b d p => goErr (junk p) (Model.NasAlg.nasEncrypt P a k c b d p)
  nasMac := fun a k c b d p => goErr [] (Model.NasAlg.nasMac P a k c b d p)
  deepEqualBytes := deq

/-- what the hand model says about a `NASEncode` outcome: state, and octets / error / panic -/
def encView (x : Option RanUeContext × Res (Bytes × Bool)) : Option UeSec × Res Bytes :=
  (x.1.map toSec,
   match x.2 with
   | .ok (b, false) => .ok b
   | .ok (_, true) => .error .error
   | .error e => .error e)

@[simp] theorem Set_eq' (c : Count) (o : UInt16) (s : UInt8) : Count.Set c o s = ⟨Model.NasProtect.Count.set c.count o s⟩ := rfl
@[simp] theorem Get_eq' (c : Count) : Count.Get c = (⟨(Model.NasProtect.Count.get c.count).1⟩, (Model.NasProtect.Count.get c.count).2) := rfl
@[simp] theorem AddOne_eq' (c : Count) : Count.AddOne c = ⟨Model.NasProtect.Count.addOne c.count⟩ := rfl
@[simp] theorem SQN_eq' (c : Count) : Count.SQN c = Model.NasProtect.Count.sqn c.count := rfl
@[simp] theorem SetSQN_eq' (c : Count) (s : UInt8) : Count.SetSQN c s = ⟨Model.NasProtect.Count.setSQN c.count s⟩ := rfl
@[simp] theorem Overflow_eq' (c : Count) : Count.Overflow c = Model.NasProtect.Count.overflow c.count := rfl
@[simp] theorem SetOverflow_eq' (c : Count) (o : UInt16) : Count.SetOverflow c o = ⟨Model.NasProtect.Count.setOverflow c.count o⟩ := rfl

@[simp] theorem bindS_ok {σ α β : Type} (s : σ) (a : α) (f : α → σ × Res β) : Go.bindS s (.ok a) f = f a := rfl
@[simp] theorem bindS_error {σ α β : Type} (s : σ) (e : Err) (f : α → σ × Res β) :
    Go.bindS s (.error e : Res α) f = (s, .error e) := rfl

section
open Stgutg.Model.NasProtect
variable (P : Prims) (penc : Message → Res (Bytes × Bool)) (pdec : Message → Bytes → Res (Message × Bool))
  (deq : Bytes → Bytes → Bool) (junk : Bytes → Bytes)

theorem lib_nasEncrypt (a : UInt8) (k : Bytes) (c : UInt32) (b d : UInt8) (p : Bytes) :
    (libOf P penc pdec deq junk).nasEncrypt a k c b d p = goErr (junk p) (Model.NasAlg.nasEncrypt P a k c b d p) := rfl

theorem lib_nasMac (a : UInt8) (k : Bytes) (c : UInt32) (b d : UInt8) (p : Bytes) :
    (libOf P penc pdec deq junk).nasMac a k c b d p = goErr [] (Model.NasAlg.nasMac P a k c b d p) := rfl

/-- a conditional update of the two counters is an update by conditional values: in the generated carrier … -/
theorem ite_ue {c : Prop} [Decidable c] (a a' d d' : Pure.Count.Count) (x y : UInt8) (z w : Bytes) :
    (if c then RanUeContext.mk a d x y z w else RanUeContext.mk a' d' x y z w) =
      RanUeContext.mk (if c then a else a') (if c then d else d') x y z w := by
  split <;> rfl

/-- … and in the hand model's -/
theorem ite_sec {c : Prop} [Decidable c] (a a' d d' : UInt32) (x y : UInt8) (z w : Bytes) :
    (if c then UeSec.mk a d x y z w else UeSec.mk a' d' x y z w) = UeSec.mk (if c then a else a') (if c then d else d') x y z w := by
  split <;> rfl

theorem ite_count {c : Prop} [Decidable c] (a b : UInt32) :
    (if c then Pure.Count.Count.mk a else .mk b) = Pure.Count.Count.mk (if c then a else b) := by
  split <;> rfl

end

/-- **Tie (C06).** `NASEncode(ue, msg, securityContextAvailable, newSecurityContext)`, `ue` and `msg` non-nil, with
    the plain octets the hand model is given (`hp`: `msg.PlainNasEncode()` returns them without error — the case the
    hand model describes; `NASEncode_noctx` / `NASEncode_plain_fails` say what the code does otherwise). -/
theorem NASEncode_eq (P : Prims) (penc pdec deq junk) (ue : RanUeContext) (msg : Message) (plain : Bytes)
    (a n : Bool) (hp : penc msg = .ok (plain, false)) :
    encView (NASEncode (libOf P penc pdec deq junk) (some ue) (some msg) a n) =
      (let r := Model.NasProtect.nasEncode P (toSec ue)
          { plain := plain, epd := msg.SecurityHeader.ProtocolDiscriminator, sht := msg.SecurityHeader.SecurityHeaderType,
            ctxAvail := a, newCtx := n }
       (some r.1, r.2)) := by
  obtain ⟨⟨ul⟩, ⟨dl⟩, ca, ia, ke, ki⟩ := ue
  cases a
  · unfold NASEncode Model.NasProtect.nasEncode Model.NasProtect.nasEncodeCore
    simp only [libOf, hp]
    rfl
  have hp' : (libOf P penc pdec deq junk).plainNasEncode msg = .ok (plain, false) := hp
  have hCiph : Model.NasProtect.isCipheredType msg.SecurityHeader.SecurityHeaderType =
      (decide (msg.SecurityHeader.SecurityHeaderType = 2) || decide (msg.SecurityHeader.SecurityHeaderType = 4)) := rfl
  show encView _ = Prod.map some id _
  unfold NASEncode Model.NasProtect.nasEncode Model.NasProtect.nasEncodeCore
  -- a new context resets the two counters: conditional values of two fields, no case split
  simp only [hp', lib_nasEncrypt, lib_nasMac, bindS_ok, toSec, Bool.not_true, Bool.false_eq_true, if_false,
    Model.NasProtect.Count.get, SQN_eq', Set_eq', Get_eq', AddOne_eq', ite_ue, ite_sec, ite_count, hCiph,
    Model.NasProtect.bearer3GPP, Model.NasProtect.directionUplink, List.cons_append, List.nil_append]
  generalize (if n = true then Model.NasProtect.Count.set ul 0 0 else ul) = ul'
  generalize (if n = true then Model.NasProtect.Count.set dl 0 0 else dl) = dl'
  -- what is left is the same tree over the outcomes of `NASEncrypt` and `NASMacCalculate` on both sides
  split
  · generalize Model.NasAlg.nasEncrypt P ca ke _ _ _ _ = re
    cases re with
    | error e => cases e <;> rfl
    | ok body =>
      simp only [goErr, bindS_ok, Bool.false_eq_true, if_false]
      generalize Model.NasAlg.nasMac P ia ki _ _ _ _ = rm
      cases rm with
      | error e => cases e <;> rfl
      | ok m => rfl
  · -- integrity only: the hand model has read the counter once more than the code, to no effect
    simp only [Proofs.Count.maskTo24_idem]
    generalize Model.NasAlg.nasMac P ia ki _ _ _ _ = rm
    cases rm with
    | error e => cases e <;> rfl
    | ok m => rfl

/-- `new(nas.Message)` -/
def zeroMsg : Message := { SecurityHeader := ⟨0, 0, 0, 0⟩, rest_ := Go.Rest.zero }

/-- what `NASDecode` returns given the hand model's outcome (the octets handed to `PlainNasDecode`, an error, a
    panic) and the plain decoder: a message that decodes comes back with the decoder's error flag; an error of
    `NASEncrypt` / `NASMacCalculate` comes back as `nil, err` -/
def decResult (pdec : Message → Bytes → Res (Message × Bool)) : Res Bytes → Res (Option Message × Bool)
  | .ok b => match pdec zeroMsg b with
    | .ok (m, e) => .ok (some m, e)
    | .error e => .error e
  | .error .error => .ok (none, true)
  | .error .panic => .error .panic
  | .error .hang => .error .hang

theorem bindS_goErr' {σ α β : Type} (s : σ) (d : α) (r : Res α) (f : α × Bool → σ × Res β) :
    (match goErr d r with
      | .ok a => f a
      | .error e => (s, .error e)) =
      match r with
      | .ok a => f (a, false)
      | .error .error => f (d, true)
      | .error .panic => (s, .error .panic)
      | .error .hang => (s, .error .hang) := by
  cases r with
  | ok a => rfl
  | error e => cases e <;> rfl

/-- a hand-model outcome as `NASDecode` returns it -/
def decView (pdec : Message → Bytes → Res (Message × Bool)) (r : UeSec × Res Bytes) :
    Option RanUeContext × Res (Option Message × Bool) :=
  (some (ofSec r.1), decResult pdec r.2)

theorem zeroMsg_eq : ({ SecurityHeader := ⟨0, 0, 0, 0⟩, rest_ := Go.Rest.zero } : Message) = zeroMsg := rfl

section
open Stgutg.Model.NasProtect
variable (P : Prims) (penc : Message → Res (Bytes × Bool)) (pdec : Message → Bytes → Res (Message × Bool))
  (deq : Bytes → Bytes → Bool) (junk : Bytes → Bytes)

/-- how `NASDecode` ends (four times in the text): `msg.PlainNasDecode(&payload)` on the fresh message -/
theorem plain_step {σ : Type} (s : σ) (p : Bytes) :
    (Go.bindS s (Go.deref (some zeroMsg)) fun m =>
      Go.bindS s ((libOf P penc pdec deq junk).plainNasDecode m p) fun t =>
        (s, (Except.ok (some t.1, t.2) : Res (Option Message × Bool)))) =
      (s, decResult pdec (handToPlainDecode p)) := by
  simp only [Go.deref, Go.bindS, libOf, handToPlainDecode]
  by_cases he : p.isEmpty
  · simp [he, decResult]
  · simp only [he, decResult, Bool.false_eq_true, if_false]
    cases pdec zeroMsg p <;> rfl

/-- `security.NASEncrypt`, `if err != nil { return nil, err }`, then the plain decoder (three times in the text) -/
theorem decipher_step {σ : Type} (s : σ) (d : Bytes) (r : Res Bytes) :
    (Go.bindS s (goErr d r) fun t =>
      if t.2 = true then (s, (Except.ok (none, t.2) : Res (Option Message × Bool)))
      else (s, decResult pdec (handToPlainDecode t.1))) =
      (s, decResult pdec (r >>= handToPlainDecode)) := by
  cases r with
  | ok q => rfl
  | error e => cases e <;> rfl

end

/-- **Tie (C10).** `NASDecode(ue, securityHeaderType, payload)`, `ue` and `payload` non-nil: for every UE context,
    header type and octets, generated = hand model (state and outcome). -/
theorem NASDecode_eq (P : Prims) (penc pdec deq junk) (ue : RanUeContext) (sht : UInt8) (payload : Bytes) :
    NASDecode (libOf P penc pdec deq junk) (some ue) sht (some payload) =
      (let r := Model.NasProtect.nasDecode P (toSec ue) sht payload
       (some (ofSec r.1), decResult pdec r.2)) := by
  obtain ⟨⟨ul⟩, ⟨dl⟩, ca, ia, ke, ki⟩ := ue
  have hNew : Model.NasProtect.isNewContextType sht = (decide (sht = 3) || decide (sht = 4)) := rfl
  have hCiph : Model.NasProtect.isCipheredType sht = (decide (sht = 2) || decide (sht = 4)) := rfl
  show _ = decView pdec _
  unfold NASDecode Model.NasProtect.nasDecode Model.NasProtect.nasDecodeCore
  -- the code's four plain tails and three decipherings become values; the counter updates conditional values of one field
  simp only [zeroMsg_eq, plain_step, lib_nasEncrypt, lib_nasMac, decipher_step, toSec, SQN_eq', Set_eq', SetSQN_eq',
    SetOverflow_eq', Overflow_eq', Get_eq', ite_ue, ite_sec, ite_count, ite_self, Model.NasProtect.Count.get, hNew, hCiph,
    Model.NasProtect.bearer3GPP, Model.NasProtect.directionDownlink, decide_eq_true_eq, beq_iff_eq]
  by_cases h0 : sht = 0
  · simp only [h0, if_true]; rfl
  simp only [h0, if_false]
  by_cases hi : ia = 0
  · -- NIA0: `payload[3:]` is deciphered
    simp only [hi, if_true, sliceFrom_nat payload 3 3 rfl]
    split
    · rfl
    · rw [bindS_ok]
      generalize Model.NasAlg.nasEncrypt P _ _ _ _ _ _ = r
      cases r <;> rfl
  simp only [hi, if_false, ne_eq, not_false_eq_true, if_true]
  rcases hd : payload.drop 6 with _ | ⟨seq, rest⟩
  · -- `payload[0:6]` or `payload[6]` panics
    have hl : payload.length ≤ 6 := List.drop_eq_nil_iff.mp hd
    rw [slice_zero payload 6 6 rfl]
    by_cases h6 : payload.length < 6
    · rw [if_pos h6]; rfl
    · rw [if_neg h6, bindS_ok, show Go.idx payload 6 = _ from idx_nat_oob payload 6 hl]; rfl
  have hl : 6 < payload.length := by
    have := congrArg List.length hd
    simp at this; omega
  have hx : payload[6] = seq := by
    have := congrArg List.head? hd
    simpa [List.head?_drop, List.getElem?_eq_getElem hl] using this
  have h2 : ¬ (payload.take 6).length < 2 := by simp; omega
  rw [slice_zero payload 6 6 rfl, if_neg (show ¬ payload.length < 6 by omega), bindS_ok,
    show Go.idx payload 6 = _ from idx_nat payload 6 hl, bindS_ok, sliceFrom_nat _ 2 2 rfl, if_neg h2, bindS_ok,
    sliceFrom_nat payload 6 6 rfl, if_neg (show ¬ payload.length < 6 by omega), bindS_ok, hd, hx]
  simp only [sliceFrom_nat (seq :: rest) 1 1 rfl, List.length_cons, Nat.lt_one_iff, Nat.add_eq_zero_iff, Nat.one_ne_zero,
    and_false, if_false, bindS_ok, List.drop_succ_cons, List.drop_zero]
  -- what is left is the same tree over the outcomes of `NASMacCalculate` and `NASEncrypt` on both sides
  generalize Model.NasProtect.Count.setSQN _ seq = d
  generalize Model.NasAlg.nasMac P ia ki _ _ _ _ = rm
  cases rm with
  | error e => cases e <;> rfl
  | ok m =>
    simp only [goErr, bindS_ok, Bool.false_eq_true, if_false]
    split
    · generalize Model.NasAlg.nasEncrypt P _ _ _ _ _ _ = re
      cases re <;> rfl
    · rfl

theorem bindS_eta {σ α β : Type} (x : σ × Res (α × β)) :
    (Go.bindS x.1 x.2 fun t => (x.1, (Except.ok (t.1, t.2) : Res (α × β)))) = x := by
  obtain ⟨s, r⟩ := x
  cases r with
  | ok v => rfl
  | error e => rfl

theorem NewMessage_eq : NewMessage = .ok (some zeroMsg) := rfl

/-- the library's plain decoder on a PDU with at least one octet is the parameter `pdec` -/
theorem plainNasDecode_cons (P : Prims) (penc pdec deq junk) (m0 : Message) {pdu : Bytes} (hne : pdu ≠ []) :
    (libOf P penc pdec deq junk).plainNasDecode m0 pdu = pdec m0 pdu := by
  cases pdu with
  | nil => exact absurd rfl hne
  | cons x xs => rfl

/-- `m.SecurityHeader = nas.SecurityHeader{ProtocolDiscriminator: Epd5GSMobilityManagementMessage, SecurityHeaderType: sht}` -/
def withHeader (m : Message) (sht : UInt8) : Message :=
  { m with SecurityHeader := { ProtocolDiscriminator := 0x7e, SecurityHeaderType := sht, MessageAuthenticationCode := 0, SequenceNumber := 0 } }

/-- **Tie (C06).** `EncodeNasPduWithSecurity(ue, pdu, sht, ctxAvail, newCtx)` with a `pdu` the plain decoder accepts
    (`hd`) and whose message, header set, encodes to `plain` (`hp`) — the hand model's reading of its `plain`. -/
theorem EncodeNasPduWithSecurity_eq (P : Prims) (penc pdec deq junk) (ue : RanUeContext) (pdu plain : Bytes) (m : Message)
    (sht : UInt8) (a n : Bool) (hne : pdu ≠ []) (hd : pdec zeroMsg pdu = .ok (m, false))
    (hp : penc (withHeader m sht) = .ok (plain, false)) :
    encView (EncodeNasPduWithSecurity (libOf P penc pdec deq junk) (some ue) pdu sht a n) =
      (let r := Model.NasProtect.encodeNasPduWithSecurity P (toSec ue) plain sht a n
       (some r.1, r.2)) := by
  unfold EncodeNasPduWithSecurity Model.NasProtect.encodeNasPduWithSecurity
  simp only [NewMessage_eq, bindS_ok, Go.deref, plainNasDecode_cons P penc pdec deq junk _ hne, hd, Bool.false_eq_true, if_false,
    bindS_eta]
  exact NASEncode_eq P penc pdec deq junk ue (withHeader m sht) plain a n hp

/-- a PDU the plain decoder refuses (or an empty one: a panic) never reaches `NASEncode`; the UE context is untouched -/
theorem EncodeNasPduWithSecurity_refused (P : Prims) (penc pdec deq junk) (ue : RanUeContext) (pdu : Bytes) (m : Message)
    (sht : UInt8) (a n : Bool) (hne : pdu ≠ []) (hd : pdec zeroMsg pdu = .ok (m, true)) :
    EncodeNasPduWithSecurity (libOf P penc pdec deq junk) (some ue) pdu sht a n = (some ue, .ok ([], true)) := by
  unfold EncodeNasPduWithSecurity
  simp only [NewMessage_eq, bindS_ok, Go.deref, plainNasDecode_cons P penc pdec deq junk _ hne, hd]
  rfl

/-- the hand model's view of `msg.ProtocolIEs.List`: `some v` for an IE whose id is `ProtocolIEIDNASPDU` (38) with value
    `v`, `none` for any other IE -/
def iesOf (l : List DownlinkNASTransportIEs) : List (Option Bytes) :=
  l.map fun ie => if ie.Id.Value = 38 then ie.Value.NASPDU.map (·.Value) else none

/-- every IE whose id says NAS-PDU carries one (what the APER decoder produces; the hand model has no other case) -/
def IesWf (l : List DownlinkNASTransportIEs) : Prop :=
  ∀ ie ∈ l, ie.Id.Value = 38 → ie.Value.NASPDU ≠ none

/-- what `GetNasPdu` returns given the hand model's outcome and the plain decoder -/
def getResult (pdec : Message → Bytes → Res (Message × Bool)) : Res (Option Bytes) → Res (Option Message)
  | .ok (some b) => match pdec zeroMsg b with
    | .ok (m, false) => .ok (some m)
    | .ok (_, true) => .ok none
    | .error e => .error e
  | .ok none => .ok none
  | .error e => .error e

theorem GetNasPdu_loop_eq (P : Prims) (penc pdec deq junk) (l : List DownlinkNASTransportIEs) (hwf : IesWf l)
    (ue : RanUeContext) :
    (Go.bindT (GetNasPdu.loop1 (libOf P penc pdec deq junk) l (some ue)) fun t =>
      match t with
      | .ret k r => (k, (Except.ok r : Res (Option Message)))
      | .next k => (k, .ok none)) =
      (let r := Model.NasProtect.getNasPdu P (toSec ue) (iesOf l)
       (some (ofSec r.1), getResult pdec r.2)) := by
  induction l with
  | nil => simp [GetNasPdu.loop1, Go.bindT, iesOf, Model.NasProtect.getNasPdu, Model.NasProtect.getNasPduWith, getResult, ofSec, toSec]
  | cons ie rest ih =>
    have hwf' : IesWf rest := fun x hx => hwf x (List.mem_cons_of_mem _ hx)
    unfold GetNasPdu.loop1
    by_cases hid : ie.Id.Value = 38
    · have hn := hwf ie (List.mem_cons_self) hid
      obtain ⟨pdu, hpdu⟩ := Option.ne_none_iff_exists'.mp hn
      obtain ⟨v⟩ := pdu
      simp only [hid, decide_true, if_true, hpdu, Go.deref, bindS_ok, GetSecurityHeaderType]
      have hi : iesOf (ie :: rest) = some v :: iesOf rest := by simp [iesOf, hid, hpdu]
      rw [hi]
      simp only [Model.NasProtect.getNasPdu, Model.NasProtect.getNasPduWith]
      rcases v with _ | ⟨a, _ | ⟨sht, tl⟩⟩
      · simp [Go.idx, Go.bindT, getResult, ofSec, toSec]
      · simp [Go.idx, Go.bindT, getResult, ofSec, toSec]
      · simp only [Go.idx, Int.reduceLE, Int.reduceToNat, if_true, List.getElem?_cons_succ, List.getElem?_cons_zero, ok_bind, bindS_ok]
        rw [NASDecode_eq]
        generalize Model.NasProtect.nasDecode P (toSec ue) sht (a :: sht :: tl) = r
        obtain ⟨u, r⟩ := r
        cases r with
        | error e => cases e <;> simp [decResult, Model.NasProtect.nilOnError, getResult, Go.bindT]
        | ok b =>
          simp only [decResult, Model.NasProtect.nilOnError, getResult]
          cases hD : pdec zeroMsg b with
          | error e => simp [Go.bindT]
          | ok v =>
            obtain ⟨m, e⟩ := v
            cases e <;> simp [Go.bindT]
    · simp only [hid, decide_false, Bool.false_eq_true, if_false]
      rw [ih hwf']
      simp [iesOf, hid, Model.NasProtect.getNasPdu, Model.NasProtect.getNasPduWith]

/-- **Tie (C10).** `GetNasPdu(ue, msg)`, `ue` and `msg` non-nil: generated = hand model on the model's view of the IE list. -/
theorem GetNasPdu_eq (P : Prims) (penc pdec deq junk) (ue : RanUeContext) (msg : DownlinkNASTransport)
    (hwf : IesWf msg.ProtocolIEs.List) :
    GetNasPdu (libOf P penc pdec deq junk) (some ue) (some msg) =
      (let r := Model.NasProtect.getNasPdu P (toSec ue) (iesOf msg.ProtocolIEs.List)
       (some (ofSec r.1), getResult pdec r.2)) := by
  unfold GetNasPdu
  simp only [Go.deref, bindS_ok]
  exact GetNasPdu_loop_eq P penc pdec deq junk msg.ProtocolIEs.List hwf ue

/-- `msg == nil`: the first thing `GetNasPdu` does is read `msg.ProtocolIEs` -/
theorem GetNasPdu_nil_msg (L : Lib) (ue : Option RanUeContext) : GetNasPdu L ue none = (ue, .error .panic) := rfl

/-- `ue == nil` -/
theorem NASEncode_nil_ue (L : Lib) (msg : Option Message) (a n : Bool) : NASEncode L none msg a n = (none, .ok ([], true)) := rfl
/-- `msg == nil` -/
theorem NASEncode_nil_msg (L : Lib) (ue : RanUeContext) (a n : Bool) : NASEncode L (some ue) none a n = (some ue, .ok ([], true)) := rfl
/-- `ue == nil` -/
theorem NASDecode_nil_ue (L : Lib) (sht : UInt8) (p : Option Bytes) : NASDecode L none sht p = (none, .ok (none, true)) := rfl

/-- **Tie (C10), with the nil test on the payload.** -/
theorem NASDecode_nilable_eq (P : Prims) (penc pdec deq junk) (ue : RanUeContext) (sht : UInt8) (payload : Option Bytes) :
    NASDecode (libOf P penc pdec deq junk) (some ue) sht payload =
      (let r := Model.NasProtect.nasDecodeNilable P (toSec ue) sht payload
       (some (ofSec r.1), decResult pdec r.2)) := by
  cases payload with
  | none => rfl
  | some p => exact NASDecode_eq P penc pdec deq junk ue sht p

/-- without a security context `NASEncode` is `msg.PlainNasEncode()`, whatever that returns -/
theorem NASEncode_noctx (P : Prims) (penc pdec deq junk) (ue : RanUeContext) (msg : Message) (n : Bool) :
    NASEncode (libOf P penc pdec deq junk) (some ue) (some msg) false n = (some ue, penc msg) := by
  unfold NASEncode
  simp only [libOf]
  cases penc msg with
  | ok v => rfl
  | error e => rfl

/-- the UE context after `if newSecurityContext { ue.ULCount.Set(0, 0); ue.DLCount.Set(0, 0) }` -/
def resetIf (n : Bool) (ue : RanUeContext) : RanUeContext :=
  if n then { ue with ULCount := ⟨Model.NasProtect.Count.set ue.ULCount.count 0 0⟩,
                      DLCount := ⟨Model.NasProtect.Count.set ue.DLCount.count 0 0⟩ } else ue

/-- with a security context, a plain encoder that returns an error (or panics) ends `NASEncode` there: the counters
    have been reset if a new context was announced, nothing else happened (the hand model takes the plain
    octets as given and has no such case) -/
theorem NASEncode_plain_fails (P : Prims) (penc pdec deq junk) (ue : RanUeContext) (msg : Message) (n : Bool)
    (hp : ∀ p, penc msg ≠ .ok (p, false)) :
    NASEncode (libOf P penc pdec deq junk) (some ue) (some msg) true n = (some (resetIf n ue), penc msg) := by
  unfold NASEncode
  simp only [libOf]
  cases h : penc msg with
  | error e => cases n <;> rfl
  | ok v =>
    obtain ⟨p, e⟩ := v
    cases e with
    | false => exact absurd h (hp p)
    | true => cases n <;> rfl

theorem GetSecurityHeaderType_eq (b : Bytes) : GetSecurityHeaderType b = Go.idx b 1 := by
  unfold GetSecurityHeaderType
  cases Go.idx b 1 <;> rfl

/-! ### the hypotheses are satisfiable by non-trivial values -/

/-- `NASEncode_eq`, `EncodeNasPduWithSecurity_eq`: a plain codec, a message and a PDU with `hne`, `hd`, `hp` -/
example : ∃ (penc : Message → Res (Bytes × Bool)) (pdec : Message → Bytes → Res (Message × Bool)) (pdu plain : Bytes) (m : Message),
    pdu ≠ [] ∧ pdec zeroMsg pdu = .ok (m, false) ∧ penc (withHeader m 2) = .ok (plain, false) ∧ plain ≠ [] ∧ m ≠ zeroMsg :=
  ⟨fun m => .ok ([0x7e, 0, 0x5e, (m.rest_.code % 256).toUInt8], false), fun m b => .ok ({ m with rest_ := ⟨b.length⟩ }, false),
    [0x7e, 0, 0x5e], [0x7e, 0, 0x5e, 3], { zeroMsg with rest_ := ⟨3⟩ }, by decide, rfl, rfl, by decide, by decide⟩

/-- `GetNasPdu_eq`: an IE list with a NAS-PDU behind another IE satisfies `IesWf` -/
example : IesWf [⟨⟨10⟩, ⟨none⟩⟩, ⟨⟨38⟩, ⟨some ⟨[0x7e, 2, 1, 2, 3, 4, 5, 0x7e, 0, 0x44]⟩⟩⟩] := by
  intro ie h
  simp only [List.mem_cons, List.mem_nil_iff, or_false] at h
  rcases h with rfl | rfl <;> simp

/-- and `iesOf` reads it as the hand model's list -/
example : iesOf [⟨⟨10⟩, ⟨none⟩⟩, ⟨⟨38⟩, ⟨some ⟨[0x7e, 2, 1]⟩⟩⟩] = [none, some [0x7e, 2, 1]] := by decide

end Stgutg.Proofs.GenTie.Nas
