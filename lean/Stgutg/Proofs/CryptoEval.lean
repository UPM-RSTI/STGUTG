/-
  The executable primitives of Crypto/ in a form the kernel evaluates quickly, with the proof that they are the same
  functions (`prims_eq`), so that a closed statement about `Crypto.prims` can be decided on `evalPrims`.
  What is slow in the kernel is table lookup by index: `Crypto.sb` walks a 256-entry array built from the Rijndael
  formula, `Crypto.schedule` / `Crypto.compress` index arrays grown by `push`.  Here the S-box is one numeral read by
  shifting, and the SHA-256 message schedule is a list grown at the head and consumed in order.
-/
import Stgutg.Crypto.Prims

namespace Stgutg.Proofs.CryptoEval
open Stgutg Stgutg.Crypto

/-! ### AES-128 over an S-box given as a function -/

/-- the Rijndael S-box, entry `i` in bits `8 i … 8 i + 7` (checked against the table of `Crypto.sb` in `sboxArr_eq`) -/
def sboxNat : Nat :=
  0x16bb54b00f2d99416842e6bf0d89a18cdf2855cee9871e9b948ed9691198f8e19e1dc186b95735610ef6034866b53e708a8bbd4b1f74dde8c6b4a61c2e2578ba08ae7a65eaf4566ca94ed58d6d37c8e779e4959162acd3c25c2406490a3a32e0db0b5ede14b8ee4688902a22dc4f816073195d643d7ea7c41744975fec130ccdd2f3ff1021dab6bcf5389d928f40a351a89f3c507f02f94585334d43fbaaefd0cf584c4a39becb6a5bb1fc20ed00d153842fe329b3d63b52a05a6e1b1a2c830975b227ebe28012079a059618c323c7041531d871f1e5a534ccf73f362693fdb7c072a49cafa2d4adf04759fa7dc982ca76abd7fe2b670130c56f6bf27b777c63

def sbN (b : UInt8) : UInt8 := UInt8.ofNat (sboxNat >>> (8 * b.toNat))

theorem sboxArr_eq :
    Spec.Snow3g.SRtable.map UInt8.ofNat = (List.range 256).map fun n => sbN (UInt8.ofNat n) := by decide +kernel

theorem sb_eq : Crypto.sb = sbN := by
  funext b
  have hb := b.toNat_lt
  simp [Crypto.sb, sboxArr, sboxArr_eq, hb]

def nextKeyW (sb : UInt8 → UInt8) (k : Bytes) (rc : UInt8) : Bytes :=
  let g (i : Nat) := k.getD i 0
  let t0 := sb (g 13) ^^^ rc
  let t1 := sb (g 14)
  let t2 := sb (g 15)
  let t3 := sb (g 12)
  let w0 := [g 0 ^^^ t0, g 1 ^^^ t1, g 2 ^^^ t2, g 3 ^^^ t3]
  let w1 := List.zipWith (· ^^^ ·) w0 [g 4, g 5, g 6, g 7]
  let w2 := List.zipWith (· ^^^ ·) w1 [g 8, g 9, g 10, g 11]
  let w3 := List.zipWith (· ^^^ ·) w2 [g 12, g 13, g 14, g 15]
  w0 ++ w1 ++ w2 ++ w3

def roundKeysW (sb : UInt8 → UInt8) (k : Bytes) : List Bytes :=
  (rcon.foldl (fun (acc : List Bytes × Bytes) rc => let nk := nextKeyW sb acc.2 rc; (nk :: acc.1, nk)) ([k], k)).1.reverse

def subShiftW (sb : UInt8 → UInt8) (s : Bytes) : Bytes :=
  let g (i : Nat) := sb (s.getD i 0)
  [g 0, g 5, g 10, g 15, g 4, g 9, g 14, g 3, g 8, g 13, g 2, g 7, g 12, g 1, g 6, g 11]

/-- `Crypto.aes128` with the S-box as a parameter -/
def aesW (sb : UInt8 → UInt8) (key blk : Bytes) : Bytes :=
  match roundKeysW sb key with
  | k0 :: rest =>
    let s := xorBytes blk k0
    let mids := rest.take 9
    let s := mids.foldl (fun s rk => xorBytes (mixColumns (subShiftW sb s)) rk) s
    match rest.drop 9 with
    | [k10] => xorBytes (subShiftW sb s) k10
    | _ => []
  | [] => []

theorem aes128_eq : Crypto.aes128 = aesW sbN := by
  have : Crypto.aes128 = aesW Crypto.sb := rfl
  rw [this, sb_eq]

/-! ### SHA-256 with the message schedule as a list -/

/-- W_t from the schedule so far, newest word first -/
def schedStep (r : List UInt32) : List UInt32 :=
  (smallSigma1 (r.getD 1 0) + r.getD 6 0 + smallSigma0 (r.getD 14 0) + r.getD 15 0) :: r

def scheduleL (blk : Bytes) : List UInt32 :=
  ((List.range 48).foldl (fun r _ => schedStep r) (blockWords blk).toList.reverse).reverse

def round (s : Sha256State) (kw : UInt32 × UInt32) : Sha256State :=
  let t1 := s.h + bigSigma1 s.e + ch s.e s.f s.g + kw.1 + kw.2
  let t2 := bigSigma0 s.a + maj s.a s.b s.c
  ⟨t1 + t2, s.a, s.b, s.c, s.d + t1, s.e, s.f, s.g⟩

def compressL (st : Sha256State) (blk : Bytes) : Sha256State :=
  let r := (sha256K.toList.zip (scheduleL blk)).foldl round st
  ⟨st.a + r.a, st.b + r.b, st.c + r.c, st.d + r.d, st.e + r.e, st.f + r.f, st.g + r.g, st.h + r.h⟩

theorem getD_size_sub (w : Array UInt32) (k : Nat) (hk : k < w.size) :
    w.getD (w.size - 1 - k) 0 = w.toList.reverse.getD k 0 := by
  rw [Array.getD_eq_getD_getElem?, List.getD_eq_getElem?_getD, List.getElem?_reverse (by simpa using hk),
    Array.getElem?_toList, Array.length_toList]

/-- the step of `Crypto.schedule` -/
def schedPush (w : Array UInt32) (j : Nat) : Array UInt32 :=
  let t := j + 16
  w.push (smallSigma1 (w.getD (t - 2) 0) + w.getD (t - 7) 0 + smallSigma0 (w.getD (t - 15) 0) + w.getD (t - 16) 0)

/-- the array `Crypto.schedule` builds, read backwards, is the list `schedStep` builds: step `j` appends to an array of
    size `16 + j` a word computed from the entries 2, 7, 15 and 16 places from its end -/
theorem schedule_fold (w0 : Array UInt32) (h0 : w0.size = 16) (n : Nat) :
    ((List.range n).foldl schedPush w0).size = 16 + n ∧
    ((List.range n).foldl schedPush w0).toList.reverse = (List.range n).foldl (fun r _ => schedStep r) w0.toList.reverse := by
  induction n with
  | zero => simp [h0]
  | succ n ih =>
    simp only [List.range_succ, List.foldl_append, List.foldl_cons, List.foldl_nil, schedPush]
    obtain ⟨hs, hr⟩ := ih
    generalize (List.range n).foldl _ w0 = w at hs hr ⊢
    refine ⟨by simp [hs]; omega, ?_⟩
    rw [← hr, Array.toList_push, List.reverse_append, schedStep]
    have e (k : Nat) (hk : k < 16) : n + 16 - (k + 1) = w.size - 1 - k := by omega
    simp only [List.reverse_cons, List.reverse_nil, List.nil_append, List.singleton_append,
      e 1 (by omega), e 6 (by omega), e 14 (by omega), e 15 (by omega)]
    rw [getD_size_sub w 1 (by omega), getD_size_sub w 6 (by omega), getD_size_sub w 14 (by omega),
      getD_size_sub w 15 (by omega)]

theorem blockWords_size (blk : Bytes) : (blockWords blk).size = 16 := by simp [blockWords]

theorem schedule_size (blk : Bytes) : (schedule blk).size = 64 :=
  (schedule_fold (blockWords blk) (blockWords_size blk) 48).1

theorem schedule_toList (blk : Bytes) : (schedule blk).toList = scheduleL blk := by
  rw [scheduleL, ← (schedule_fold (blockWords blk) (blockWords_size blk) 48).2, List.reverse_reverse]
  rfl

/-- reading two tables of size `n` at `0 … n - 1` is walking them side by side -/
theorem foldl_range_getD {σ : Type} (g : σ → UInt32 × UInt32 → σ) (s0 : σ) (ks ws : Array UInt32) (n : Nat)
    (hk : ks.size = n) (hw : ws.size = n) :
    (List.range n).foldl (fun s t => g s (ks.getD t 0, ws.getD t 0)) s0 = (ks.toList.zip ws.toList).foldl g s0 := by
  have : ks.toList.zip ws.toList = (List.range n).map fun t => (ks.getD t 0, ws.getD t 0) := by
    apply List.ext_getElem
    · simp [hk, hw]
    · intro i h1 h2
      have hi : i < n := by simpa using h2
      simp [Array.getD_eq_getD_getElem?, hk, hw, hi]
  rw [this, List.foldl_map]

theorem compress_eq : compress = compressL := by
  funext st blk
  simp only [compress, compressL, ← schedule_toList,
    ← foldl_range_getD round st sha256K (schedule blk) 64 rfl (schedule_size blk), round]

/-! ### HMAC-SHA-256 over a compression function given as a parameter -/

def sha256BlocksW (cmp : Sha256State → Bytes → Sha256State) : Nat → Sha256State → Bytes → Sha256State
  | 0, st, _ => st
  | fuel + 1, st, m => if m.isEmpty then st else sha256BlocksW cmp fuel (cmp st (m.take 64)) (m.drop 64)

def sha256W (cmp : Sha256State → Bytes → Sha256State) (msg : Bytes) : Bytes :=
  let p := sha256Pad msg
  (sha256BlocksW cmp (p.length / 64 + 1) (Sha256State.ofList sha256H0) p).toList.flatMap word32Bytes

/-- `Crypto.hmacSha256` with the compression function as a parameter -/
def hmacW (cmp : Sha256State → Bytes → Sha256State) (key msg : Bytes) : Bytes :=
  let k0 := if key.length > 64 then sha256W cmp key else key
  let k0 := k0 ++ List.replicate (64 - k0.length) 0
  let ipad := k0.map (· ^^^ 0x36)
  let opad := k0.map (· ^^^ 0x5c)
  sha256W cmp (opad ++ sha256W cmp (ipad ++ msg))

theorem sha256Blocks_eq (fuel : Nat) (st : Sha256State) (m : Bytes) :
    sha256Blocks fuel st m = sha256BlocksW compress fuel st m := by
  induction fuel generalizing st m with
  | zero => rfl
  | succ n ih => simp only [sha256Blocks, sha256BlocksW, ih]

theorem hmacSha256_eq : hmacSha256 = hmacW compressL := by
  have hs : sha256 = sha256W compress := by funext m; simp only [sha256, sha256W, sha256Blocks_eq]
  have : hmacSha256 = hmacW compress := by funext k m; simp only [hmacSha256, hmacW, hs]
  rw [this, compress_eq]

/-! ### the primitives -/

def evalPrims : Prims :=
  { aes := aesW sbN, ctr := ctrMode (aesW sbN), cmac := cmacMode (aesW sbN), hmac := hmacW compressL }

theorem prims_eq : Crypto.prims = evalPrims := by
  rw [Crypto.prims, aes128_eq, hmacSha256_eq, evalPrims]

end Stgutg.Proofs.CryptoEval
