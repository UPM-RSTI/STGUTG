/-
  SUCI and PLMN encodings on digit lists (C11, and the PLMN part of C17).

  Digits are `Nat`s below 10 and `asc` turns them into the text the Go code receives. `PlmnForm` names the digits of a
  3-digit MCC and a 2- or 3-digit MNC as figure 9.11.3.4.3 of TS 24.501 places them; on it `plmn3`, its reader,
  `PlmnIDToNas` and the buffer of `EncodeSuci` are each stated once, and `suci_buffer` / `suci_decodes` put them together
  for a `ValidImsi`.
  The half-octet facts (`pack`, `octet`, `lo`, `hi`, `nib`) are finite tables, checked by evaluation.
-/
import Stgutg.Model.Suci
import Stgutg.Model.Convert
import Stgutg.Spec.Ts24501Identity
open Stgutg

namespace Stgutg.Proofs.Suci
open Model.Suci Spec.Identity

def asc (ds : List Nat) : Bytes := ds.map fun d => UInt8.ofNat (48 + d)

theorem digit_toNat {d : Nat} (h : d < 10) : (UInt8.ofNat (48 + d)).toNat = 48 + d := by
  rw [UInt8.toNat_ofNat']; omega

theorem digit_range {d : Nat} (h : d < 10) : ((48 : UInt8) ≤ UInt8.ofNat (48 + d) && UInt8.ofNat (48 + d) ≤ 57) = true := by
  simp only [Bool.and_eq_true, decide_eq_true_eq, UInt8.le_iff_toNat_le, digit_toNat h]
  have e48 : (48 : UInt8).toNat = 48 := rfl
  have e57 : (57 : UInt8).toNat = 57 := rfl
  omega

theorem pack_fin : ∀ a b : Fin 10, pack (UInt8.ofNat (48 + a.val)) (UInt8.ofNat (48 + b.val)) = octet a.val b.val := by decide +kernel
theorem packF_fin : ∀ a : Fin 10, ((0xf : UInt8) <<< 4) ||| hexCharToByte (UInt8.ofNat (48 + a.val)) = octet 15 a.val := by decide +kernel
theorem lo_hi_fin : ∀ h l : Fin 16, lo (octet h.val l.val) = l.val ∧ hi (octet h.val l.val) = h.val := by decide +kernel

theorem pack_digit {a b : Nat} (ha : a < 10) (hb : b < 10) :
    pack (UInt8.ofNat (48 + a)) (UInt8.ofNat (48 + b)) = octet a b := pack_fin ⟨a, ha⟩ ⟨b, hb⟩
theorem packF_digit {a : Nat} (ha : a < 10) :
    ((0xf : UInt8) <<< 4) ||| hexCharToByte (UInt8.ofNat (48 + a)) = octet 15 a := packF_fin ⟨a, ha⟩
theorem lo_octet {h l : Nat} (hh : h < 16) (hl : l < 16) : lo (octet h l) = l := (lo_hi_fin ⟨h, hh⟩ ⟨l, hl⟩).1
theorem hi_octet {h l : Nat} (hh : h < 16) (hl : l < 16) : hi (octet h l) = h := (lo_hi_fin ⟨h, hh⟩ ⟨l, hl⟩).2

/-- the MSIN loop of the code is the BCD packing of the figure -/
theorem packMsin_asc : ∀ (ms : List Nat), (∀ d ∈ ms, d < 10) → packMsin (asc ms) = bcdEncode ms
  | [], _ => rfl
  | [a], h => by
    have ha : a < 10 := h a (by simp)
    show [((0xf : UInt8) <<< 4) ||| hexCharToByte (UInt8.ofNat (48 + a))] = [octet 15 a]
    rw [packF_digit ha]
  | a :: b :: rest, h => by
    have ha : a < 10 := h a (by simp)
    have hb : b < 10 := h b (by simp)
    have ih := packMsin_asc rest (fun d hd => h d (by simp [hd]))
    simp only [asc, List.map_cons, packMsin, bcdEncode] at ih ⊢
    rw [pack_digit hb ha, ih]

theorem bcdDecode_encode : ∀ (ms : List Nat), (∀ d ∈ ms, d < 10) → bcdDecode (bcdEncode ms) = some ms
  | [], _ => rfl
  | [a], h => by
    have ha : a < 10 := h a (by simp)
    simp [bcdEncode, bcdDecode, lo_octet (by omega : 15 < 16) (by omega : a < 16), hi_octet (by omega : 15 < 16) (by omega : a < 16), ha]
  | [a, b], h => by
    have ha : a < 10 := h a (by simp)
    have hb : b < 10 := h b (by simp)
    have hb' : b ≠ 15 := by omega
    simp [bcdEncode, bcdDecode, lo_octet (by omega : b < 16) (by omega : a < 16), hi_octet (by omega : b < 16) (by omega : a < 16), ha, hb, hb']
  | a :: b :: c :: rest, h => by
    have ha : a < 10 := h a (by simp)
    have hb : b < 10 := h b (by simp)
    have ih := bcdDecode_encode (c :: rest) (fun d hd => h d (List.mem_cons_of_mem _ (List.mem_cons_of_mem _ hd)))
    have hne : bcdEncode (c :: rest) ≠ [] := by cases rest <;> simp [bcdEncode]
    show bcdDecode (octet b a :: bcdEncode (c :: rest)) = _
    obtain ⟨x, xs, hx⟩ := List.exists_cons_of_ne_nil hne
    rw [hx] at ih ⊢
    simp only [bcdDecode, lo_octet (by omega : b < 16) (by omega : a < 16), hi_octet (by omega : b < 16) (by omega : a < 16)]
    simp [ha, hb, ih]


theorem asc_append (a b : List Nat) : asc (a ++ b) = asc a ++ asc b := List.map_append ..

/-- the digits of a PLMN identity as figure 9.11.3.4.3 places them: `f` stands in the upper half of the second
    octet — the third MNC digit, or 15 when the MNC has two -/
def PlmnForm (mcc mnc : List Nat) (c1 c2 c3 n1 n2 f : Nat) : Prop :=
  mcc = [c1, c2, c3] ∧ (mnc = [n1, n2] ∧ f = 15 ∨ mnc = [n1, n2, f] ∧ f < 10) ∧
    c1 < 10 ∧ c2 < 10 ∧ c3 < 10 ∧ n1 < 10 ∧ n2 < 10

theorem plmnForm_of_digits {mcc mnc : List Nat} (h3 : mcc.length = 3) (h23 : mnc.length = 2 ∨ mnc.length = 3)
    (hd : ∀ d ∈ mcc ++ mnc, d < 10) : ∃ c1 c2 c3 n1 n2 f, PlmnForm mcc mnc c1 c2 c3 n1 n2 f := by
  match mcc, h3 with
  | [c1, c2, c3], _ =>
    rcases h23 with h2 | h3'
    · match mnc, h2 with
      | [n1, n2], _ =>
        exact ⟨c1, c2, c3, n1, n2, 15, rfl, .inl ⟨rfl, rfl⟩, hd c1 (by simp), hd c2 (by simp), hd c3 (by simp),
          hd n1 (by simp), hd n2 (by simp)⟩
    · match mnc, h3' with
      | [n1, n2, n3], _ =>
        exact ⟨c1, c2, c3, n1, n2, n3, rfl, .inr ⟨rfl, hd n3 (by simp)⟩, hd c1 (by simp), hd c2 (by simp),
          hd c3 (by simp), hd n1 (by simp), hd n2 (by simp)⟩

theorem plmn3_form {mcc mnc : List Nat} {c1 c2 c3 n1 n2 f : Nat} (h : PlmnForm mcc mnc c1 c2 c3 n1 n2 f) :
    plmn3 mcc mnc = some [octet c2 c1, octet f c3, octet n2 n1] := by
  obtain ⟨rfl, hm, h1, h2, h3, h4, h5⟩ := h
  rcases hm with ⟨rfl, rfl⟩ | ⟨rfl, h6⟩ <;> simp [plmn3, allDigits, isDigit, *]

/-- `plmn3` is defined on nothing else -/
theorem plmn3_some {mcc mnc : List Nat} {p : Bytes} (h : plmn3 mcc mnc = some p) :
    ∃ c1 c2 c3 n1 n2 f, PlmnForm mcc mnc c1 c2 c3 n1 n2 f ∧ p = [octet c2 c1, octet f c3, octet n2 n1] := by
  unfold plmn3 at h
  split at h
  · next c1 c2 c3 n1 n2 =>
    split at h
    · next hd =>
      simp [allDigits, isDigit] at hd
      exact ⟨c1, c2, c3, n1, n2, 15, ⟨rfl, .inl ⟨rfl, rfl⟩, hd.1.1, hd.1.2.1, hd.1.2.2, hd.2.1, hd.2.2⟩,
        (Option.some.inj h).symm⟩
    · cases h
  · next c1 c2 c3 n1 n2 n3 =>
    split at h
    · next hd =>
      simp [allDigits, isDigit] at hd
      exact ⟨c1, c2, c3, n1, n2, n3, ⟨rfl, .inr ⟨rfl, hd.2.2.2⟩, hd.1.1, hd.1.2.1, hd.1.2.2, hd.2.1, hd.2.2.1⟩,
        (Option.some.inj h).symm⟩
    · cases h
  · cases h

/-- the buffer the code builds, in the vocabulary of the figure -/
theorem encodeSuci_form {mcc mnc msin : List Nat} {c1 c2 c3 n1 n2 f : Nat} (h : PlmnForm mcc mnc c1 c2 c3 n1 n2 f)
    (hm : ∀ d ∈ msin, d < 10) :
    Model.Suci.encodeSuci (asc (mcc ++ mnc ++ msin)) (mnc.length : Int) =
      .ok ([0x01, octet c2 c1, octet f c3, octet n2 n1, 0xf0, 0xff, 0x00, 0x00] ++ bcdEncode msin) := by
  obtain ⟨rfl, hmnc, h1, h2, h3, h4, h5⟩ := h
  rcases hmnc with ⟨rfl, rfl⟩ | ⟨rfl, h6⟩
  · show Model.Suci.encodeSuci (UInt8.ofNat (48 + c1) :: UInt8.ofNat (48 + c2) :: UInt8.ofNat (48 + c3) ::
      UInt8.ofNat (48 + n1) :: UInt8.ofNat (48 + n2) :: asc msin) 2 = _
    unfold Model.Suci.encodeSuci
    dsimp only
    rw [if_neg (by decide)]
    show Except.ok ([0x01, pack _ _, _, pack _ _, 0xf0, 0xff, 0x00, 0x00] ++ packMsin (asc msin)) = _
    rw [pack_digit h2 h1, packF_digit h3, pack_digit h5 h4, packMsin_asc msin hm]
  · show Model.Suci.encodeSuci (UInt8.ofNat (48 + c1) :: UInt8.ofNat (48 + c2) :: UInt8.ofNat (48 + c3) ::
      UInt8.ofNat (48 + n1) :: UInt8.ofNat (48 + n2) :: UInt8.ofNat (48 + f) :: asc msin) 3 = _
    unfold Model.Suci.encodeSuci
    dsimp only
    rw [if_pos (by decide)]
    show Except.ok ([0x01, pack _ _, pack _ _, pack _ _, 0xf0, 0xff, 0x00, 0x00] ++ packMsin (asc msin)) = _
    rw [pack_digit h2 h1, pack_digit h6 h3, pack_digit h5 h4, packMsin_asc msin hm]

theorem plmn3Decode_plmn3 (mcc mnc : List Nat) (p : Bytes) (h : plmn3 mcc mnc = some p) :
    plmn3Decode p = some (mcc, mnc) := by
  obtain ⟨c1, c2, c3, n1, n2, f, ⟨rfl, hm, h1, h2, h3, h4, h5⟩, rfl⟩ := plmn3_some h
  have hf : f < 16 := by omega
  simp only [plmn3Decode, lo_octet (by omega : c2 < 16) (by omega : c1 < 16),
    hi_octet (by omega : c2 < 16) (by omega : c1 < 16), lo_octet hf (by omega : c3 < 16),
    hi_octet hf (by omega : c3 < 16), lo_octet (by omega : n2 < 16) (by omega : n1 < 16),
    hi_octet (by omega : n2 < 16) (by omega : n1 < 16)]
  rcases hm with ⟨rfl, rfl⟩ | ⟨rfl, h6⟩
  · simp [allDigits, isDigit, h1, h2, h3, h4, h5]
  · have h6' : f ≠ 15 := by omega
    simp [allDigits, isDigit, h1, h2, h3, h4, h5, h6, h6']

theorem routing_default : routingDecode 0xf0 0xff = some [0] := by decide

/-- reading a buffer of the shape the emulator builds -/
theorem decodeSuci_shape (o5 o6 o7 : UInt8) (out : Bytes) (mcc mnc msin : List Nat)
    (hp : plmn3Decode [o5, o6, o7] = some (mcc, mnc)) (hm : bcdDecode out = some msin) (hne : msin ≠ []) :
    decodeSuci ([0x01, o5, o6, o7, 0xf0, 0xff, 0x00, 0x00] ++ out) = some (nullSchemeSuci mcc mnc msin) := by
  show decodeSuci (0x01 :: o5 :: o6 :: o7 :: 0xf0 :: 0xff :: 0x00 :: 0x00 :: out) = _
  unfold decodeSuci
  dsimp only
  rw [if_neg (by decide), hp, routing_default, hm]
  dsimp only
  have h0 : (hi (0 : UInt8) = 0 && lo (0 : UInt8) = 0) = true := by decide
  have h1 : (!msin.isEmpty) = true := by cases msin <;> simp_all
  rw [h0, h1]
  simp [nullSchemeSuci]
  decide


-- 105 109 115 105 45 is "imsi-"
theorem digit_ne_i : ∀ d : Fin 10, UInt8.ofNat (48 + d.val) ≠ 105 := by decide +kernel

theorem trim_digits (c : Nat) (rest : Bytes) (hc : c < 10) :
    trimImsiPrefix (UInt8.ofNat (48 + c) :: rest) = UInt8.ofNat (48 + c) :: rest := by
  unfold trimImsiPrefix
  split
  · next h =>
    injection h with h _
    exact absurd h (digit_ne_i ⟨c, hc⟩)
  · rfl

theorem trim_prefix (rest : Bytes) : trimImsiPrefix ([105, 109, 115, 105, 45] ++ rest) = rest := rfl

theorem atoi_digit {d : Nat} (hd : d < 10) (k : Nat) : Model.Convert.atoiOr k (UInt8.ofNat (48 + d)) = d := by
  unfold Model.Convert.atoiOr
  rw [if_pos (digit_range hd), digit_toNat hd, Nat.add_sub_cancel_left]

theorem nib_fin : ∀ h l : Fin 16, Model.Convert.nib h.val l.val = octet h.val l.val := by decide +kernel

theorem nib_octet {h l : Nat} (hh : h < 16) (hl : l < 16) : Model.Convert.nib h l = octet h l := nib_fin ⟨h, hh⟩ ⟨l, hl⟩

theorem plmnIDToNas_digits (mcc mnc : List Nat) (p : Bytes) (h : plmn3 mcc mnc = some p) :
    Model.Convert.plmnIDToNas (asc mcc) (asc mnc) = .ok p := by
  obtain ⟨c1, c2, c3, n1, n2, f, ⟨rfl, hm, h1, h2, h3, h4, h5⟩, rfl⟩ := plmn3_some h
  rcases hm with ⟨rfl, rfl⟩ | ⟨rfl, h6⟩
  · simp only [asc, List.map, Model.Convert.plmnIDToNas, atoi_digit h1, atoi_digit h2, atoi_digit h3, atoi_digit h4,
      atoi_digit h5, nib_octet (by omega : c2 < 16) (by omega : c1 < 16), nib_octet (by omega : 15 < 16) (by omega : c3 < 16),
      nib_octet (by omega : n2 < 16) (by omega : n1 < 16)]
  · simp only [asc, List.map, Model.Convert.plmnIDToNas, atoi_digit h1, atoi_digit h2, atoi_digit h3, atoi_digit h4,
      atoi_digit h5, atoi_digit h6, nib_octet (by omega : c2 < 16) (by omega : c1 < 16),
      nib_octet (by omega : f < 16) (by omega : c3 < 16), nib_octet (by omega : n2 < 16) (by omega : n1 < 16)]

theorem octet_inj {a b c d : Nat} (ha : a < 16) (hb : b < 16) (hc : c < 16) (hd : d < 16)
    (h : octet a b = octet c d) : a = c ∧ b = d := by
  have h1 := congrArg hi h
  have h2 := congrArg lo h
  rw [hi_octet ha hb, hi_octet hc hd] at h1
  rw [lo_octet ha hb, lo_octet hc hd] at h2
  exact ⟨h1, h2⟩


/-- an IMSI as C11 reads it. A legal IMSI has at most 15 digits, i.e. MSIN length ≤ 10; no upper bound is needed below -/
structure ValidImsi (mcc mnc msin : List Nat) : Prop where
  mcc3 : mcc.length = 3
  mnc23 : mnc.length = 2 ∨ mnc.length = 3
  msin1 : 1 ≤ msin.length
  digits : ∀ d ∈ mcc ++ mnc ++ msin, d < 10

/-- what `EncodeSuci(imsi, len(mnc))` returns for a valid IMSI, as octets of figure 9.11.3.4.3 -/
theorem suci_buffer {mcc mnc msin : List Nat} (h : ValidImsi mcc mnc msin) :
    ∃ o5 o6 o7, Spec.Identity.plmn3 mcc mnc = some [o5, o6, o7] ∧
      Model.Suci.encodeSuci (asc (mcc ++ mnc ++ msin)) (mnc.length : Int) =
        .ok ([0x01, o5, o6, o7, 0xf0, 0xff, 0x00, 0x00] ++ Spec.Identity.bcdEncode msin) := by
  obtain ⟨c1, c2, c3, n1, n2, f, hf⟩ := plmnForm_of_digits h.mcc3 h.mnc23 fun d hd => h.digits d (List.mem_append_left _ hd)
  exact ⟨_, _, _, plmn3_form hf, encodeSuci_form hf fun d hd => h.digits d (List.mem_append_right _ hd)⟩

theorem suci_decodes {mcc mnc msin : List Nat} (h : ValidImsi mcc mnc msin) :
    ∃ buf, Model.Suci.encodeSuci (asc (mcc ++ mnc ++ msin)) (mnc.length : Int) = .ok buf ∧
      Spec.Identity.decodeSuci buf = some (Spec.Identity.nullSchemeSuci mcc mnc msin) := by
  obtain ⟨o5, o6, o7, hp, hb⟩ := suci_buffer h
  refine ⟨_, hb, ?_⟩
  have hm : ∀ d ∈ msin, d < 10 := fun d hd => h.digits d (by simp [hd])
  have hne : msin ≠ [] := by
    intro e; have := h.msin1; simp [e] at this
  exact decodeSuci_shape _ _ _ _ mcc mnc msin (plmn3Decode_plmn3 mcc mnc _ hp) (bcdDecode_encode msin hm) hne

end Stgutg.Proofs.Suci
