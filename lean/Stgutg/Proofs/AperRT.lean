/-
  C04 helper lemmas: the decoder model reads back what the encoder model wrote.
  `RT bits pos m a` : started at bit position `pos` on input `bits ++ tail` (any tail), the decoder
  computation `m` returns `a` and leaves exactly `tail`.

  Each round trip `RT_x` is read off the lemma that says what a successful call of the encoder function returned
  (`appendX_ok`, `Proofs/AperEnc.lean`; `appendConstraintValue_ok` and `strEnc_ok` here, in the decoder's terms).
-/
import Stgutg.Model.AperDec
import Stgutg.Proofs.AperEnc

namespace Stgutg.Proofs.AperRT
open Stgutg Stgutg.Aper Stgutg.Proofs.Bits

def mkRd (l : Bits) (pos : Nat) : Rd := ⟨l, pos, l.length⟩

/-- the input is a whole number of octets: whatever follows `bits` completes the last octet -/
def RT {α : Type} (bits : Bits) (pos : Nat) (m : D α) (a : α) : Prop :=
  ∀ tail, (pos + bits.length + tail.length) % 8 = 0 →
    m (mkRd (bits ++ tail) pos) = .ok (a, mkRd tail (pos + bits.length))

theorem D_pure_apply {α : Type} (a : α) (r : Rd) : (pure a : D α) r = .ok (a, r) := rfl
theorem D_bind_apply {α β : Type} (m : D α) (f : α → D β) (r : Rd) :
    (m >>= f) r = match m r with | .ok (a, r') => f a r' | .error e => .error e := rfl

theorem D_bind_assoc_apply {α β γ : Type} (m : D α) (f : α → D β) (g : β → D γ) (r : Rd) :
    ((m >>= f) >>= g) r = (m >>= fun x => f x >>= g) r := by
  rw [D_bind_apply, D_bind_apply, D_bind_apply]
  cases m r with
  | error e => rfl
  | ok x => rfl

theorem RT_pure {α : Type} (pos : Nat) (a : α) : RT [] pos (pure a : D α) a := by
  intro tail _; simp [D_pure_apply]

theorem RT_bind {α β : Type} {b1 b2 : Bits} {pos : Nat} {m : D α} {f : α → D β} {a : α} {c : β}
    (h1 : RT b1 pos m a) (h2 : RT b2 (pos + b1.length) (f a) c) : RT (b1 ++ b2) pos (m >>= f) c := by
  intro tail ht
  have e1 : (pos + b1.length + (b2 ++ tail).length) % 8 = 0 := by
    rw [List.length_append] at ht ⊢; rw [← ht]; congr 1; omega
  have e2 : (pos + b1.length + b2.length + tail.length) % 8 = 0 := by
    rw [List.length_append] at ht; rw [← ht]; congr 1; omega
  rw [D_bind_apply, List.append_assoc, h1 (b2 ++ tail) e1]
  dsimp only
  rw [h2 tail e2, List.length_append, Nat.add_assoc]

theorem RT_seq {β : Type} {b1 b2 : Bits} {pos : Nat} {m : D Unit} {k : D β} {c : β}
    (h1 : RT b1 pos m ()) (h2 : RT b2 (pos + b1.length) k c) : RT (b1 ++ b2) pos (m >>= fun _ => k) c :=
  RT_bind h1 h2

theorem RT_congr_bits {α : Type} {b b' : Bits} {pos : Nat} {m : D α} {a : α} (h : b = b') (hr : RT b pos m a) :
    RT b' pos m a := h ▸ hr

theorem RT_bind_nil {α β : Type} {b : Bits} {pos : Nat} {m : D α} {f : α → D β} {a : α} {c : β}
    (h1 : RT b pos m a) (h2 : RT [] (pos + b.length) (f a) c) : RT b pos (m >>= f) c :=
  RT_congr_bits (List.append_nil b) (RT_bind h1 h2)

theorem RT_map {α β : Type} {bits : Bits} {pos : Nat} {m : D α} {a : α} (g : α → β) (h : RT bits pos m a) :
    RT bits pos (m >>= fun x => (pure (g x) : D β)) (g a) :=
  RT_bind_nil h (RT_pure _ (g a))

theorem RT_bind_map {α β γ : Type} {bits : Bits} {pos : Nat} {m : D α} {f : α → D β} {b : β} (g : β → γ)
    (h : RT bits pos (m >>= f) b) : RT bits pos (m >>= fun x => f x >>= fun y => (pure (g y) : D γ)) (g b) := by
  intro tail ht
  rw [← D_bind_assoc_apply]
  exact RT_map g h tail ht

theorem RT_get {α : Type} (bits : Bits) (pos : Nat) (k : Rd → D α) (a : α)
    (h : ∀ r, RT bits pos (k r) a) : RT bits pos (D.get >>= k) a := by
  intro tail ht
  rw [D_bind_apply]
  exact h _ tail ht

/-- `D.get` sees a reader that holds at least the bits the statement is about -/
theorem RT_get_len {α : Type} (bits : Bits) (pos : Nat) (k : Rd → D α) (a : α)
    (h : ∀ r, bits.length ≤ r.len → RT bits pos (k r) a) : RT bits pos (D.get >>= k) a := by
  intro tail ht
  rw [D_bind_apply]
  exact h (mkRd (bits ++ tail) pos) (by simp [mkRd]) tail ht

/-- a computation wrapped in log-and-continue behaves as the computation when it succeeds -/
theorem RT_catchErr {α : Type} {bits : Bits} {pos : Nat} {m : D α} {a : α} (hd : Rd → α × Rd)
    (h : RT bits pos m a) : RT bits pos (D.catchErr m hd) a := by
  intro tail ht
  unfold D.catchErr
  rw [h tail ht]

/-! ### bit fields -/

theorem RT_getBits (b : Bits) (pos : Nat) (hne : b.length ≠ 0) : RT b pos (getBits b.length) b := by
  intro tail _
  unfold getBits mkRd
  simp only [hne, if_false, List.length_append]
  have : ¬ b.length > b.length + tail.length := by omega
  simp [this]

theorem RT_getBitsValue (w v : Nat) (pos : Nat) (hw : w ≠ 0) (hv : v < 2 ^ w) (hv64 : v < 2 ^ 64) :
    RT (natToBits w v) pos (getBitsValue w) v := by
  have h := RT_map (fun b => bitsToNat b % 2 ^ 64) (RT_getBits (natToBits w v) pos (by simpa using hw))
  rw [natToBits_length, bitsToNat_natToBits_of_lt w v hv, Nat.mod_eq_of_lt hv64] at h
  exact h

theorem RT_getBit (pos : Nat) (b : Bool) : RT [b] pos (getBitsValue 1) (if b then 1 else 0) := by
  have h := RT_getBitsValue 1 (if b then 1 else 0) pos (by decide) (by cases b <;> decide) (by cases b <;> decide)
  have e : natToBits 1 (if b then 1 else 0) = [b] := by cases b <;> rfl
  rw [e] at h; exact h

theorem RT_takeOctets (pos : Nat) (bs : Bytes) : RT (bytesToBits bs) pos (takeOctets bs.length) bs := by
  intro tail _
  unfold takeOctets mkRd
  have hl := bytesToBits_length bs
  simp only [List.length_append, hl]
  have : ¬ 8 * bs.length > 8 * bs.length + tail.length := by omega
  simp only [this, if_false]
  have ht : (bytesToBits bs ++ tail).take (8 * bs.length) = bytesToBits bs := by rw [← hl]; simp
  have hd : (bytesToBits bs ++ tail).drop (8 * bs.length) = tail := by rw [← hl]; simp
  rw [ht, hd, bitsToBytes_bytesToBits]
  simp

theorem RT_align (pos : Nat) : RT (alignBits pos) pos parseAlignBits () := by
  intro tail ht
  have hp : (mkRd (alignBits pos ++ tail) pos).pos = pos := rfl
  unfold parseAlignBits
  rw [hp]
  by_cases h : pos % 8 > 0
  · -- the padding is the number 0 in a field of 8 − pos % 8 bits
    have hk : alignBits pos = natToBits (8 - pos % 8) 0 := by
      rw [natToBits_zero, alignBits, padLen, Nat.mod_eq_of_lt (by omega)]
    rw [hk] at ht ⊢
    rw [if_pos h, RT_getBitsValue (8 - pos % 8) 0 pos (by omega) (Nat.two_pow_pos _) (by decide) tail ht]
    rfl
  · rw [if_neg h, alignBits, padLen, show (8 - pos % 8) % 8 = 0 by omega]
    rfl

/-! ### `putBitsValue` -/

theorem pow_lt_64 (n v : Nat) (hn : n < 64) (hv : v < 2 ^ n) : v < 2 ^ 64 :=
  Nat.lt_of_lt_of_le hv (Nat.pow_le_pow_right (by decide) (by omega))

theorem RT_putBitsValue (pos v n : Nat) (bits : Bits) (hn : n ≠ 0) (hn64 : n < 64)
    (h : putBitsValue v n = .ok bits) : RT bits pos (getBitsValue n) v := by
  have ⟨hb, hv⟩ := putBitsValue_ok h
  rw [hb]
  exact RT_getBitsValue n v pos hn (hv hn hn64) (pow_lt_64 n v hn64 (hv hn hn64))

/-! ### constrained whole numbers and length determinants -/

/-- a successful `appendConstraintValue` wrote `v` in a field of `w` bits, octet-aligned (`al`) for the one- and two-octet
    forms, and `parseConstraintValue` reads a field of that shape -/
theorem appendConstraintValue_ok {pos : Nat} {range : Int} {v : Nat} {bits : Bits}
    (h : appendConstraintValue pos range v = .ok bits) :
    ∃ (w : Nat) (al : Bool), w ≠ 0 ∧ w < 64 ∧ v < 2 ^ w ∧
      bits = (if al then alignBits pos else []) ++ natToBits w v ∧
      parseConstraintValue range = (if al then parseAlignBits >>= fun _ => getBitsValue w else getBitsValue w) := by
  unfold appendConstraintValue at h
  unfold parseConstraintValue
  by_cases h255 : range ≤ 255
  · simp only [h255, if_true] at h ⊢
    by_cases hneg : range < 0
    · simp [hneg, err] at h
    · simp only [hneg, if_false] at h ⊢
      have ⟨w0, w64⟩ := AperSpec.bitsForRange_pos range
      have ⟨hb, hv⟩ := putBitsValue_ok h
      exact ⟨_, false, w0, w64, hv w0 w64, hb, rfl⟩
  · simp only [h255, if_false] at h ⊢
    by_cases h256 : range = 256
    · simp only [h256, if_true] at h ⊢
      obtain ⟨b, hb, rfl⟩ := bind_pure_ok h
      have ⟨hb', hv⟩ := putBitsValue_ok hb
      exact ⟨8, true, by decide, by decide, hv (by decide) (by decide), by rw [hb']; rfl, rfl⟩
    · simp only [h256, if_false] at h ⊢
      by_cases h64k : range ≤ 65536
      · simp only [h64k, if_true] at h ⊢
        obtain ⟨b, hb, rfl⟩ := bind_pure_ok h
        have ⟨hb', hv⟩ := putBitsValue_ok hb
        exact ⟨16, true, by decide, by decide, hv (by decide) (by decide), by rw [hb']; rfl, rfl⟩
      · simp [h64k, err] at h

theorem RT_constraintValue (pos : Nat) (range : Int) (v : Nat) (bits : Bits)
    (h : appendConstraintValue pos range v = .ok bits) : RT bits pos (parseConstraintValue range) v := by
  obtain ⟨w, al, w0, w64, hv, rfl, hp⟩ := appendConstraintValue_ok h
  rw [hp]
  cases al
  · exact RT_getBitsValue w v pos w0 hv (pow_lt_64 w v w64 hv)
  · exact RT_seq (RT_align pos) (RT_getBitsValue w v _ w0 hv (pow_lt_64 w v w64 hv))

theorem len7_facts : ∀ v : Fin 128, v.val &&& 128 = 0 ∧ v.val &&& 0x7f = v.val := by decide

theorem hi6_facts : ∀ hi : Fin 64, (128 + hi.val) &&& 128 ≠ 0 ∧ (128 + hi.val) &&& 64 = 0 ∧ (128 + hi.val) &&& 63 = hi.val := by
  decide

/-- two-octet length determinant: with x = v ||| 0x8000 (v < 16384), the first octet is 10xxxxxx and the 14 bits give v back -/
theorem len14_facts (v : Nat) (hv : v < 16384) :
    (v ||| 0x8000) < 65536 ∧ ((v ||| 0x8000) / 256) &&& 128 ≠ 0 ∧ ((v ||| 0x8000) / 256) &&& 64 = 0 ∧
    ((((v ||| 0x8000) / 256) &&& 63) <<< 8) ||| ((v ||| 0x8000) % 256) = v ∧
    (v ||| 0x8000) / 256 < 256 := by
  have hor : v ||| 0x8000 = 32768 + v := by
    have := Nat.two_pow_add_eq_or_of_lt (i := 15) (b := v) (by omega) 1
    rw [Nat.or_comm]
    simpa using this.symm
  rw [hor]
  have hdiv : (32768 + v) / 256 = 128 + v / 256 := by omega
  have hmod : (32768 + v) % 256 = v % 256 := by omega
  rw [hdiv, hmod]
  have hhi : v / 256 < 64 := by omega
  have ⟨f1, f2, f3⟩ := hi6_facts ⟨v / 256, hhi⟩
  simp only at f1 f2 f3
  refine ⟨by omega, f1, f2, ?_, by omega⟩
  rw [f3]
  have := Nat.shiftLeft_add_eq_or_of_lt (i := 8) (b := v % 256) (Nat.mod_lt _ (by decide)) (v / 256)
  rw [← this, Nat.shiftLeft_eq]
  have e : (2 : Nat) ^ 8 = 256 := by decide
  rw [e]
  omega

theorem RT_length (pos : Nat) (sr : Int) (v : Nat) (bits : Bits) (hv : v < 16384)
    (h : appendLength pos sr v = .ok bits) : RT bits pos (parseLength sr) (v, false) := by
  unfold parseLength
  rcases appendLength_ok h with ⟨h1, h2, hc⟩ | ⟨hc, rfl⟩
  · rw [if_pos ⟨h1, h2⟩]
    exact RT_map (fun v => (v, false)) (RT_constraintValue pos sr v bits hc)
  · rw [if_neg hc]
    refine RT_seq (RT_align pos) ?_
    by_cases h127 : v ≤ 127
    · rw [if_pos h127]
      have ⟨f1, f2⟩ := len7_facts ⟨v, by omega⟩
      refine RT_bind_nil (RT_getBitsValue 8 v _ (by decide) (by omega) (by omega)) ?_
      simp only at f1 f2
      simp only [f1, if_true, f2]
      exact RT_pure _ _
    · rw [if_neg h127, if_pos (by omega : v ≤ 16383)]
      have ⟨g1, g2, g3, g4, g5⟩ := len14_facts v hv
      have e256 : (2 : Nat) ^ 8 = 256 := by decide
      have hsplit : natToBits 16 (v ||| 0x8000) = natToBits 8 ((v ||| 0x8000) / 256) ++ natToBits 8 ((v ||| 0x8000) % 256) := by
        have h1 := natToBits_add 8 8 (v ||| 0x8000)
        have h2 := natToBits_mod 8 8 (v ||| 0x8000) (Nat.le_refl _)
        rw [e256] at h1 h2
        rw [h2]; exact h1
      rw [hsplit]
      refine RT_bind (RT_getBitsValue 8 _ _ (by decide) (by omega) (by omega)) ?_
      simp only [g2, if_false, g3, if_true]
      have hsecond := RT_map (fun second => (((((v ||| 0x8000) / 256) &&& 63) <<< 8) ||| second, false))
        (RT_getBitsValue 8 ((v ||| 0x8000) % 256)
          (pos + (alignBits pos).length + (natToBits 8 ((v ||| 0x8000) / 256)).length) (by decide) (by omega) (by omega))
      rw [g4] at hsecond
      exact hsecond

/-! ### the extension bits and the leaf level of `parseField` -/

theorem RT_flag (pos : Nat) (c b : Bool) (h : c = false → b = false) :
    RT (if c then [b] else []) pos (if c then do let x ← getBitsValue 1; pure (x != 0) else pure false : D Bool) b := by
  cases c
  · rw [h rfl]; exact RT_pure _ _
  · have := RT_map (fun x => x != 0) (RT_getBit pos b)
    cases b <;> exact this

/-- the extension bits the encoder wrote (none where the parameters declare none) are what `extBits` reads -/
theorem RT_extBits (pos : Nat) (params : Params) (isSlice se ve : Bool)
    (hs : params.sizeExt = false → se = false) (hv : (params.valueExt && !isSlice) = false → ve = false) :
    RT ((if params.sizeExt then [se] else []) ++ (if (params.valueExt && !isSlice) then [ve] else [])) pos
      (extBits params isSlice) (se, ve) := by
  unfold extBits
  exact RT_bind (RT_flag pos _ se hs) (RT_bind_nil (RT_flag _ _ ve hv) (RT_pure _ _))

theorem RT_extBits_sized (pos : Nat) (params : Params) (isSlice : Bool) (se : Bool)
    (hv : (params.valueExt && !isSlice) = false) (hse : params.sizeExt = false → se = false) :
    RT (if params.sizeExt then [se] else []) pos (extBits params isSlice) (se, false) := by
  simpa [hv] using RT_extBits pos params isSlice se false hse (fun _ => rfl)

theorem RT_extBits_leaf (pos : Nat) (params : Params) (hs : params.sizeExt = false) :
    RT (if params.valueExt then [false] else []) pos (extBits params false) (false, false) := by
  simpa [hs] using RT_extBits pos params false false false (fun _ => rfl) (fun _ => rfl)

/-- the leaf branch of parseField -/
def leafDec (ty : Ty) (params : Params) : D Val :=
  extBits params false >>= fun x => decLeaf ty params x.1 x.2

theorem RT_enum (pos n : Nat) (params : Params) (bits : Bits)
    (h : appendEnumerated pos n params.valueExt params.valueLB params.valueUB = .ok bits)
    (hs : params.sizeExt = false) (hlb : params.valueLB = some 0) :
    RT bits pos (leafDec .enum params) (.enum n) := by
  obtain ⟨lb, ub, hl, hu, h1, h2, hcase⟩ := appendEnumerated_ok h
  rw [hlb] at hl; cases hl
  have hext := RT_extBits_leaf pos params hs
  have hdec : decLeaf .enum params false false =
      (if ub - 0 + 1 > 1 then parseConstraintValue (ub - 0 + 1) else pure 0) >>= fun k => pure (Val.enum k) := by
    unfold decLeaf parseEnumerated
    rw [hlb, hu]; rfl
  unfold leafDec
  rcases hcase with ⟨hr, b, hb, rfl⟩ | ⟨hr, rfl⟩
  · refine RT_bind hext ?_
    rw [hdec, if_pos hr]
    exact RT_map Val.enum (RT_constraintValue _ _ _ _ hb)
  · have hn : n = 0 := by omega
    subst hn
    refine RT_bind_nil hext ?_
    rw [hdec, if_neg hr]
    exact RT_map Val.enum (RT_pure _ 0)

theorem RT_leaf_bool (pos : Nat) (b : Bool) (params : Params)
    (hs : params.sizeExt = false) (hv : params.valueExt = false) :
    RT [b] pos (leafDec .bool params) (.bool b) := by
  have hx : RT [] pos (extBits params false) (false, false) := by
    simpa [hs, hv] using RT_extBits pos params false false false (fun _ => rfl) (fun _ => rfl)
  have hb := RT_map (fun x => Val.bool (decide (x = 1))) (RT_getBit pos b)
  have : Val.bool (decide ((if b then 1 else 0) = 1)) = Val.bool b := by cases b <;> rfl
  rw [this] at hb
  exact RT_bind hx hb

/-! ### INTEGER -/

/-- the octet count `appendInteger` computes for a value below 2^63 after the first shift (by 8 bits, or by 7 to keep the
    sign bit clear): between 1 and 8, and that many octets less one hold the shifted value -/
theorem octetCount9 (n s : Nat) (hs : s = 7 ∨ s = 8) (hn : n < 2 ^ 63) :
    1 ≤ octetCount 9 (n >>> s) ∧ octetCount 9 (n >>> s) ≤ 8 ∧ n >>> s < 256 ^ (octetCount 9 (n >>> s) - 1) := by
  have hx : n >>> s < 256 ^ 7 := by
    rw [Nat.shiftRight_eq_div_pow, show (256 : Nat) ^ 7 = 2 ^ 56 by decide]
    refine Nat.div_lt_of_lt_mul (Nat.lt_of_lt_of_le hn ?_)
    rw [← Nat.pow_add]
    exact Nat.pow_le_pow_right (by decide) (by omega)
  have hx9 := Nat.lt_of_lt_of_le hx (Nat.pow_le_pow_right (by decide : 0 < 256) (by decide : 7 ≤ 9))
  obtain ⟨h1, _, h3, _⟩ := AperSpec.octetCount_char 9 _ hx9
  exact ⟨h1, AperSpec.octetCount_le' 9 _ 7 hx9 hx, h3⟩

theorem toInt64_small (n : Nat) (h : n < 2 ^ 63) : toInt64 n = n := by
  unfold toInt64
  have : n % 2 ^ 64 = n := Nat.mod_eq_of_lt (by omega)
  simp only [this]
  have h' : n < 9223372036854775808 := by have e : (2:Nat)^63 = 9223372036854775808 := by decide
                                          omega
  simp [h']

theorem wrapInt64_small (i : Int) (h0 : 0 ≤ i) (h : i < 2 ^ 63) : wrapInt64 i = i := by
  unfold wrapInt64
  have hm : i % (2 ^ 64 : Int) = i := Int.emod_eq_of_lt h0 (by omega)
  rw [hm]
  have : toInt64 i.toNat = i.toNat := toInt64_small i.toNat (by omega)
  rw [this]; omega

/-- INTEGER with a root `lb..ub` (0 ≤ lb, ub < 2^63): every value inside the root (if the range is above 64K it must start
    at 0), and every value above it (below 2^63) when the type is extensible, is read back -/
theorem RT_int (pos : Nat) (v : Int) (params : Params) (bits : Bits) (lb ub : Int)
    (hlb : params.valueLB = some lb) (hub : params.valueUB = some ub)
    (hv1 : lb ≤ v) (hv2 : v ≤ ub ∨ (params.valueExt = true ∧ v < 2 ^ 63)) (hlb0 : 0 ≤ lb) (hub63 : ub < 2 ^ 63)
    (hbig : v ≤ ub → ub - lb + 1 > 65536 → lb = 0)
    (hs : params.sizeExt = false)
    (h : appendInteger pos v params.valueExt params.valueLB params.valueUB = .ok bits) :
    RT bits pos (leafDec .int params) (.int v) := by
  rw [hlb, hub] at h
  obtain ⟨pre, u, hu, _, hcase⟩ := appendInteger_ok h
  have hv63 : v < 2 ^ 63 := by
    rcases hv2 with h' | h'
    · omega
    · exact h'.2
  rw [if_neg (by omega)] at hu
  subst hu
  have hn63 : v.toNat < 2 ^ 63 := by omega
  have hw : wrapInt64 (toInt64 v.toNat + 0) = v := by
    rw [toInt64_small v.toNat hn63, show ((v.toNat : Nat) : Int) + 0 = v by omega, wrapInt64_small v (by omega) hv63]
  have hdec : ∀ (ve : Bool) (b2 : Bits) (pos2 : Nat), RT b2 pos2 (parseInteger ve (some lb) (some ub)) v →
      RT b2 pos2 (decLeaf .int params false ve) (.int v) := by
    intro ve b2 pos2 hp
    unfold decLeaf
    rw [hlb, hub]
    exact RT_map Val.int hp
  unfold leafDec
  rcases hcase with ⟨hle, rfl, hroot⟩ | ⟨hgt, hext, rfl, body, hp, rfl⟩
  · have hext := RT_extBits_leaf pos params hs
    have hrpos : ¬ (ub - lb + 1 ≤ 0) := by omega
    rcases hroot with ⟨hr1, rfl⟩ | ⟨hr1, hr64, b, hb, rfl⟩ | ⟨hr64, lenBits, body, hp1, hp2, rfl⟩
    · refine RT_bind_nil hext (hdec _ _ _ ?_)
      unfold parseInteger
      simp only [Bool.false_eq_true, if_false, hr1, if_true]
      rw [show ub = v by omega]
      exact RT_pure _ v
    · refine RT_bind hext (hdec _ _ _ ?_)
      unfold parseInteger
      simp only [Bool.false_eq_true, if_false, hr1, hrpos, hr64, if_true]
      have := RT_map (fun (raw : Nat) => wrapInt64 ((raw : Int) + lb)) (RT_constraintValue _ _ _ _ hb)
      rw [show ((v - lb).toNat : Int) + lb = v by omega, wrapInt64_small v (by omega) (by omega)] at this
      exact this
    · -- range above 64K: octet count − 1, align, minimal octets
      obtain rfl : lb = 0 := hbig hle (by omega)
      have hr64' : ¬ ub - 0 + 1 ≤ 65536 := by omega
      have hr1 : ¬ ub - 0 + 1 = 1 := by omega
      obtain ⟨hk1, hk8, _⟩ := octetCount9 v.toNat 8 (Or.inr rfl) hn63
      generalize octetCount 9 (v.toNat >>> 8) = k at hp1 hp2 hk8 hk1
      have ⟨hw1, hw2⟩ := AperSpec.bitsForRange_pos ((rangeByteLen (ub - 0 + 1) : Nat) : Int)
      rw [show (v - 0).toNat = v.toNat by simp] at hp2
      have ⟨hbody, hvb⟩ := putBitsValue_ok64 v.toNat (8 * k) body (by omega) (by omega) (by omega) hp2
      rw [List.append_assoc, List.append_assoc]
      refine RT_bind hext (hdec _ _ _ ?_)
      unfold parseInteger
      simp only [Bool.false_eq_true, if_false, hr1, hrpos, hr64']
      refine RT_bind (RT_putBitsValue _ (k - 1) _ lenBits hw1 hw2 hp1) ?_
      rw [show k - 1 + 1 = k by omega]
      refine RT_seq (RT_align _) ?_
      rw [Nat.mul_comm k 8, hbody]
      refine RT_bind_nil (RT_getBitsValue (8 * k) v.toNat _ (by omega) hvb (by omega)) ?_
      rw [hw]
      exact RT_pure _ _
  · -- above the root: extension bit 1, length octet, minimal two's complement with the sign bit clear
    have h1 : ¬ ((-1 : Int) = 1) := by decide
    have h2 : ((-1 : Int) ≤ 0) := by decide
    have h3 : ((-1 : Int) < 0) := by decide
    obtain ⟨hk1, hk8, hlt⟩ := octetCount9 v.toNat 7 (Or.inl rfl) hn63
    generalize octetCount 9 (v.toNat >>> 7) = k at hp hk1 hk8 hlt
    have hvk : v.toNat < 2 ^ (8 * k - 1) := by
      rw [Nat.shiftRight_eq_div_pow, AperSpec.pow256] at hlt
      rw [show 8 * k - 1 = 8 * (k - 1) + 7 by omega, Nat.pow_add]
      exact (Nat.div_lt_iff_lt_mul (by decide)).mp hlt
    have hpow : (2 : Nat) ^ (8 * k - 1) < 2 ^ (8 * k) := Nat.pow_lt_pow_right (by decide) (by omega)
    have hbody : (v % ((2 ^ (8 * k) : Nat) : Int)).toNat = v.toNat := by
      rw [Int.emod_eq_of_lt (by omega) (by omega)]
    rw [hbody] at hp
    have ⟨hb, hvb⟩ := putBitsValue_ok64 v.toNat (8 * k) body (by omega) (by omega) (by omega) hp
    rw [List.append_assoc, List.append_assoc]
    have hx : RT [true] pos (extBits params false) (false, true) := by
      simpa [hs, hext] using RT_extBits pos params false false true (fun _ => rfl) (by simp [hext])
    refine RT_bind hx (hdec _ _ _ ?_)
    unfold parseInteger
    simp only [if_true, h1, if_false, h2, h3]
    refine RT_seq (RT_align _) ?_
    have hoct := RT_takeOctets (pos + [true].length + (alignBits (pos + [true].length)).length) [UInt8.ofNat k]
    rw [bytesToBits_single k (by omega)] at hoct
    refine RT_bind hoct ?_
    have hhead : (([UInt8.ofNat k] : Bytes).headD 0).toNat = k := by
      simp [UInt8.toNat_ofNat']; omega
    simp only [hhead]
    rw [if_neg (by omega : ¬ k = 0), Nat.mul_comm k 8, hb]
    refine RT_bind_nil (RT_getBitsValue (8 * k) v.toNat _ (by omega) hvb (by omega)) ?_
    have hlt64 : 8 * k - 1 < 64 := by omega
    simp only [hlt64, if_true, and_two_pow_of_lt _ _ hvk, Nat.lt_irrefl, if_false]
    rw [hw]
    exact RT_pure _ _

/-! ### strings: the size preamble and the common body `strEnc` -/

/-- what the parameters of a sized type must satisfy for the encoder and decoder to agree on the preamble -/
def SizedParamsOK (params : Params) : Prop :=
  (params.sizeExt = true → params.sizeLB.isSome ∧ params.sizeUB.isSome) ∧
  (params.sizeUB.isSome → params.sizeLB.isSome) ∧
  (∀ l, params.sizeLB = some l → 0 ≤ l) ∧
  (∀ u, params.sizeUB = some u → u - params.sizeLB.getD 0 + 1 = 1 → u ≥ 1)

/-- the size preamble of the encoder in the decoder's terms: the extension bit `se` it wrote and the bounds that
    `sizeBounds se` derives; a fixed size is at least one item -/
theorem sizePreamble_ok {len : Nat} {params : Params} {pre : Bits} {lb ub sr : Int} (hok : SizedParamsOK params)
    (h : sizePreamble len params.sizeExt params.sizeLB params.sizeUB = .ok (pre, lb, ub, sr)) :
    ∃ (se : Bool) (ub' : Int), pre = (if params.sizeExt then [se] else []) ∧ (params.sizeExt = false → se = false) ∧
      sizeBounds se params.sizeLB params.sizeUB = (lb, ub', sr) ∧ 0 ≤ lb ∧ (sr = 1 → ub' = ub ∧ 1 ≤ ub) := by
  obtain ⟨hext, hpair, hlbnn, hfix⟩ := hok
  unfold sizePreamble at h
  cases hl : params.sizeLB with
  | none =>
    -- no bounds at all, hence no extension marker
    have hu : params.sizeUB = none := by
      cases hu : params.sizeUB with
      | none => rfl
      | some u => rw [hl, hu] at hpair; exact absurd (hpair rfl) (by simp)
    have he : params.sizeExt = false := by
      cases he : params.sizeExt with
      | false => rfl
      | true => rw [hl] at hext; exact absurd (hext he).1 (by simp)
    rw [hl] at h
    cases h
    exact ⟨false, -1, by rw [he]; rfl, fun _ => rfl, by rw [hu]; rfl, Int.le_refl 0, fun h => absurd h (by decide)⟩
  | some l =>
    have hl0 := hlbnn l hl
    rw [hl] at h
    cases hu : params.sizeUB with
    | none =>
      have he : params.sizeExt = false := by
        cases he : params.sizeExt with
        | false => rfl
        | true => rw [hu] at hext; exact absurd (hext he).2 (by simp)
      rw [hu] at h
      cases h
      exact ⟨false, -1, by rw [he]; rfl, fun _ => rfl, rfl, hl0, fun h => absurd h (by decide)⟩
    | some u =>
      have hfix' := hfix u hu
      rw [hl] at hfix'
      rw [hu] at h
      dsimp only at h
      by_cases hle : (len : Int) ≤ u
      · rw [if_pos hle] at h
        by_cases hshort : u > 65535 ∧ (len : Int) < l
        · rw [if_pos hshort] at h; cases h
        · rw [if_neg hshort] at h; cases h
          refine ⟨false, _, rfl, fun _ => rfl, rfl, ?_, fun hsr => ⟨rfl, hfix' ?_⟩⟩
          · by_cases h64 : ub > 65535
            · rw [if_pos h64]
            · rw [if_neg h64]; exact hl0
          · by_cases h64 : ub > 65535
            · rw [if_pos h64] at hsr; exact absurd hsr (by decide)
            · rw [if_neg h64] at hsr; exact hsr
      · rw [if_neg hle] at h
        cases he : params.sizeExt with
        | false => rw [he] at h; cases h
        | true =>
          rw [he] at h; cases h
          exact ⟨true, -1, rfl, fun hf => absurd hf (by decide), rfl, Int.le_refl 0, fun hsr => absurd hsr (by decide)⟩

/-- a successful `AperSpec.strEnc` (the common body of `appendOctetString` and `appendBitString`), in the decoder's terms
    (`sizePreamble_ok`): a fixed size is written without a length, aligned when it exceeds two octets; any other size
    through the fragmentation loop -/
theorem strEnc_ok {unit pos n octs : Nat} {content : Bits} {params : Params} {bits : Bits}
    (hok : SizedParamsOK params)
    (h : AperSpec.strEnc unit pos n octs content params.sizeExt params.sizeLB params.sizeUB = .ok bits) :
    ∃ (se : Bool) (pre : Bits) (lb ub ub0 sr : Int),
      sizePreamble n params.sizeExt params.sizeLB params.sizeUB = .ok (pre, lb, ub0, sr) ∧
      pre = (if params.sizeExt then [se] else []) ∧ (params.sizeExt = false → se = false) ∧
      sizeBounds se params.sizeLB params.sizeUB = (lb, ub, sr) ∧ 0 ≤ lb ∧
      ((sr = 1 ∧ ub = n ∧ 1 ≤ n ∧
          bits = pre ++ ((if octs > 2 then alignBits (pos + pre.length) else []) ++ content)) ∨
       (sr ≠ 1 ∧ lb ≤ n ∧ ∃ b, fragLoop unit sr lb.toNat (n / 16384 + 2) (pos + pre.length) (n - lb.toNat) content = .ok b ∧
          bits = pre ++ b)) := by
  obtain ⟨pre, lb, ub0, sr, hsp, hcase⟩ := strEnc_cases h
  obtain ⟨se, ub, hpre, hse, hsb, hlb0, hfix⟩ := sizePreamble_ok hok hsp
  refine ⟨se, pre, lb, ub, ub0, sr, hsp, hpre, hse, hsb, hlb0, ?_⟩
  rcases hcase with ⟨hsr, hn, rfl⟩ | ⟨hsr, hge, b, hb, rfl⟩
  · obtain ⟨hub, hub1⟩ := hfix hsr
    exact Or.inl ⟨hsr, by omega, by omega, rfl⟩
  · exact Or.inr ⟨hsr, hge, b, hb, rfl⟩

end Stgutg.Proofs.AperRT
