/-
  C04, composite round trip — CHOICE (index) and open types (`encOpenType` / `openTypeOctets`, the inner value
  decoded from its own buffer, alternative found through the reference value).
-/
import Stgutg.Proofs.AperRTCompSeq

namespace Stgutg.Proofs.AperRTComp
open Stgutg Stgutg.Aper Stgutg.Proofs.Bits Stgutg.Proofs.AperRT

/-- an unfragmented open type: length determinant, alignment, the padded inner encoding; the decoder returns its octets -/
theorem RT_openType (pos1 : Nat) (inner bits : Bits) (fuel : Nat) (hne : inner ≠ [])
    (hlen : (inner.length + 7) / 8 < 16384) (h : encOpenType pos1 inner = .ok bits) :
    RT bits pos1 (openTypeOctets (fuel + 1) []) (bitsToBytes (inner ++ alignBits inner.length)) :=
  RT_openType_any pos1 inner bits (fuel + 1) (by omega) h

theorem RT_choiceIndex (pos present : Nat) (ext : Bool) (ubP : Option Int) (ib : Bits) (hd : Rd → Nat × Rd)
    (hp : 0 < present) (h : appendChoiceIndex pos present ext ubP = .ok ib) :
    RT ib pos (D.catchErr (getChoiceIndex false ubP) hd) present := by
  obtain ⟨ub, rfl, hub, hc⟩ := appendChoiceIndex_ok h
  apply RT_catchErr
  unfold getChoiceIndex
  simp only [Bool.false_eq_true, if_false]
  rw [if_neg (by omega)]
  have := RT_map (fun raw => raw + 1) (RT_constraintValue _ _ _ _ hc)
  rw [show present - 1 + 1 = present by omega] at this
  exact this

theorem altsOKFrom_spec (fields : List Field) : ∀ (l : List Field) (j0 : Nat), altsOKFrom fields j0 l = true →
    ∀ k (f : Aper.Field) rv, l[k]? = some f → f.params.refValue = some rv → findAlt fields rv = some (j0 + k) := by
  intro l
  induction l with
  | nil => intro j0 _ k f rv h; simp at h
  | cons x xs ih =>
    intro j0 hok k f rv hk hrv
    simp only [altsOKFrom, Bool.and_eq_true] at hok
    cases k with
    | zero =>
      simp only [List.getElem?_cons_zero, Option.some.injEq] at hk
      subst hk
      rw [hrv] at hok
      simpa using hok.1
    | succ k =>
      simp only [List.getElem?_cons_succ] at hk
      have := ih (j0 + 1) hok.2 k f rv hk hrv
      rw [this]; congr 1; omega

theorem findAlt_of_altsOK (fields : List Field) (h : altsOKFrom fields 1 (fields.drop 1) = true)
    (j : Nat) (fd : Aper.Field) (rv : Int) (hj : 0 < j) (hfd : fields[j]? = some fd) (hrv : fd.params.refValue = some rv) :
    findAlt fields rv = some j := by
  have := altsOKFrom_spec fields (fields.drop 1) 1 h (j - 1) fd rv (by
    rw [List.getElem?_drop]
    have : 1 + (j - 1) = j := by omega
    rw [this]; exact hfd) hrv
  rw [this]; congr 1; omega

theorem RT_decStruct_choice (f : Nat → Ty → Params → Val → Res Bits) (g : Ty → Params → D Val) (rfv : Ty → Val → Res Int)
    (zero : Ty → Val) (sd : StructDef) (params : Params) (pos1 : Nat) (fs : List Val) (b : Bits)
    (hc : isChoice sd = true) (hopt0 : optCountOf sd = 0)
    (halts : altsOKFrom sd.fields 1 (sd.fields.drop 1) = true)
    (Halt : ∀ (p : Int) (fd : Aper.Field) (alt : Val) (pos : Nat) (a : Bits), fs[0]? = some (.int p) → 0 < p →
      sd.fields[p.toNat]? = some fd → fs[p.toNat]? = some alt →
      f pos fd.ty fd.params alt = .ok a →
        a ≠ [] ∧ RT' a pos (g fd.ty fd.params) alt)
    (hshape : ∀ (p : Int) (alt : Val), fs[0]? = some (.int p) → 0 < p → fs[p.toNat]? = some alt →
      setAt (setAt (sd.fields.map fun fd => zero fd.ty) 0 (.int p)) p.toNat alt = fs)
    (h : encChoice f sd params pos1 fs = .ok b) :
    RT b pos1 (decStruct g rfv zero sd params false) (.struct fs) := by
  obtain ⟨p, rest, fd, alt, hfs, hp0, hplen, hfd, halt, hcase⟩ := AperSpec.encChoice_inv f sd params pos1 fs b h
  have hfs0 : fs[0]? = some (.int p) := by rw [hfs]; rfl
  have hsh := hshape p alt hfs0 hp0 halt
  have hpi : ((p.toNat : Nat) : Int) = p := by omega
  have hsh' : setAt (setAt (sd.fields.map fun fd => zero fd.ty) 0 (.int ↑p.toNat)) p.toNat alt = fs := by
    rw [hpi]; exact hsh
  unfold decStruct
  dsimp only
  unfold optCountOf at hopt0
  rw [hopt0]
  have hb0 : RT [] pos1 (if 0 > 0 then getBitsValue 0 else pure 0 : D Nat) 0 := by
    simp only [Nat.lt_irrefl, if_false]; exact RT_pure _ _
  rw [← List.nil_append b]
  refine RT_bind hb0 ?_
  simp only [hc, if_true, List.length_nil, Nat.add_zero]
  rcases hcase with ⟨hot, rv, inner, hrv, hfrv, hinner, hopen⟩ | ⟨hot, ib, ab, hib, hab, hbeq⟩
  · -- open type
    simp only [hot, if_true, hrv]
    rw [findAlt_of_altsOK sd.fields halts p.toNat fd rv (by omega) hfd hfrv]
    simp only [hfd]
    obtain ⟨hine, hirt⟩ := Halt p fd alt 0 inner hfs0 hp0 hfd halt hinner
    apply RT_get_len
    intro r0 hr0
    have hoct := RT_openType_of pos1 inner b (r0.len + 1 + 1) (Or.inr (by omega)) hopen
    have hpl := AperSpec.padded_length inner
    have hmod : (inner ++ alignBits inner.length).length % 8 = 0 := by rw [hpl]; omega
    have hrd : Rd.ofBytes (bitsToBytes (inner ++ alignBits inner.length)) = mkRd (inner ++ alignBits inner.length) 0 := by
      unfold Rd.ofBytes mkRd
      rw [bytesToBits_bitsToBytes_aligned _ hmod, bitsToBytes_length_aligned _ hmod]
    have hdec := hirt (alignBits inner.length) (by
      rw [Nat.zero_add, ← List.length_append]; exact hmod) (by simp [hine])
    have := RT_bind (f := fun octs =>
        (match g fd.ty fd.params (Rd.ofBytes octs) with
          | .error e => D.fail e
          | .ok (v, _) => pure (.struct (setAt (setAt (sd.fields.map fun fd => zero fd.ty) 0 (.int ↑p.toNat)) p.toNat v)) : D Val))
      hoct (c := .struct fs) (b2 := []) (by
        rw [hrd, hdec]
        dsimp only
        rw [hsh']
        exact RT_pure _ _)
    rw [List.append_nil] at this
    exact this
  · -- CHOICE index, then the alternative
    have hot' : ¬ (params.openType = true) := by rw [hot]; simp
    simp only [hot']
    rw [hbeq]
    refine RT_bind (RT_choiceIndex pos1 p.toNat params.valueExt params.valueUB ib _ (by omega) hib) ?_
    have h1 : ¬ (p.toNat = 0) := by omega
    have h2 : ¬ (p.toNat ≥ sd.fields.length) := by omega
    simp only [h1, if_false, h2, hfd]
    obtain ⟨hane, hart⟩ := Halt p fd alt (pos1 + ib.length) ab hfs0 hp0 hfd halt hab
    have := RT_map (fun v => Val.struct (setAt (setAt (sd.fields.map fun fd => zero fd.ty) 0 (.int ↑p.toNat)) p.toNat v))
      (hart.toRT hane)
    rw [hsh'] at this
    exact this

end Stgutg.Proofs.AperRTComp
