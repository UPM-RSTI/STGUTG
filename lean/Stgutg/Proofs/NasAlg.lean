/-
  NEA1 / NIA1 / NEA2 / NIA2 of security.go (Model/NasAlg.lean) against 128-EEA1 / EIA1 / EEA2 / EIA2 (Spec/NasAlg.lean).
  The code xors word by word and masks the last keystream word where the specification xors octet by octet
  (`xorWords_eq`, `maskLast_xor`); it shifts BEARER and DIRECTION into place where the specification multiplies.
-/
import Stgutg.Model.NasAlg
import Stgutg.Spec.NasAlg
import Stgutg.Proofs.Snow3g
import Stgutg.Proofs.Count
import Stgutg.Proofs.Hex

namespace Stgutg.Proofs.NasAlg
open Stgutg Stgutg.Model.NasAlg

theorem zipWith_append_right {α β γ : Type} (f : α → β → γ) (l : List α) (a b : List β) :
    List.zipWith f l (a ++ b) = List.zipWith f (l.take a.length) a ++ List.zipWith f (l.drop a.length) b := by
  induction a generalizing l with
  | nil => simp
  | cons x a ih =>
    cases l with
    | nil => simp
    | cons y l => simp [ih]

theorem zipWith_take_right {α β γ : Type} (f : α → β → γ) (l : List α) (r : List β) :
    List.zipWith f l (r.take l.length) = List.zipWith f l r := by
  induction l generalizing r with
  | nil => simp
  | cons y l ih =>
    cases r with
    | nil => simp
    | cons x r => simp [ih]

theorem zipWith_congr_take {α β γ : Type} (f : α → β → γ) (l : List α) (a b : List β)
    (h : a.take l.length = b.take l.length) : List.zipWith f l a = List.zipWith f l b := by
  rw [← zipWith_take_right f l a, ← zipWith_take_right f l b, h]

theorem xorWords_eq (ws : List UInt32) (ibs : Bytes) :
    xorWords ws ibs = xorBytes ibs (ws.flatMap u32Bytes) := by
  induction ws generalizing ibs with
  | nil => simp [xorWords, xorBytes]
  | cons w ws ih =>
    simp only [xorWords, List.flatMap_cons, xorBytes, zipWith_append_right, u32Bytes_length]
    rw [ih]; rfl

theorem flatMap_u32Bytes_length (ws : List UInt32) : (ws.flatMap u32Bytes).length = 4 * ws.length := by
  induction ws with
  | nil => rfl
  | cons w ws ih => simp [List.flatMap_cons, ih]; omega

/-! ### the mask on the last keystream word never touches an octet that is used -/

/-- an octet of `w` survives a mask whose corresponding octet is all ones -/
theorem byte_and (w m s : UInt32) (h : (m >>> s).toUInt8 = -1) : ((w &&& m) >>> s).toUInt8 = (w >>> s).toUInt8 := by
  rw [UInt32.shiftRight_and, UInt32.toUInt8_and, h, UInt8.and_neg_one]

/-- with r = 8k bits (k = 1,2,3) kept, the first k octets of the last word are unchanged -/
theorem masked_take (w : UInt32) (k : Nat) (hk : k = 1 ∨ k = 2 ∨ k = 3) :
    (u32Bytes (w &&& ~~~(shl32 1 (32 - 8 * k) - 1))).take k = (u32Bytes w).take k := by
  rcases hk with rfl | rfl | rfl <;> simp (disch := decide) only [u32Bytes, List.take, byte_and]

theorem maskLast_xor (ibs : Bytes) (ks : List UInt32)
    (hl : ks.length = (8 * ibs.length + 31) / 32) :
    xorBytes ibs ((maskLast ((8 * ibs.length) % 32) ks).flatMap u32Bytes) = xorBytes ibs (ks.flatMap u32Bytes) := by
  unfold maskLast
  split
  · rfl
  · rename_i hr
    cases hlast : ks.getLast? with
    | none => rfl
    | some w =>
      obtain ⟨ys, rfl⟩ := List.getLast?_eq_some_iff.mp hlast
      apply zipWith_congr_take
      have hr8 : (8 * ibs.length) % 32 = 8 * (ibs.length % 4) := Nat.mul_mod_mul_left 8 ibs.length 4
      have hk : (ibs.length % 4 = 1 ∨ ibs.length % 4 = 2 ∨ ibs.length % 4 = 3) := by
        have : ∀ k, k < 4 → ¬ 8 * k = 0 → (k = 1 ∨ k = 2 ∨ k = 3) := by decide
        exact this _ (Nat.mod_lt _ (by decide)) (hr8 ▸ hr)
      have hdl : (ys.flatMap u32Bytes).length = ibs.length - ibs.length % 4 := by
        -- with |ibs| = 4q + k, 0 < k < 4, the keystream has q + 1 words: q whole words before the last
        have e : 8 * ibs.length + 31 = 32 * (ibs.length / 4) + (8 * (ibs.length % 4) + 31) := by omega
        rw [List.length_append, List.length_singleton, e, Nat.mul_add_div (by decide)] at hl
        rw [flatMap_u32Bytes_length, Nat.sub_eq_of_eq_add (Nat.div_add_mod ibs.length 4).symm]
        rcases hk with h | h | h <;> rw [h] at hl <;> exact congrArg (4 * ·) (Nat.add_right_cancel (m := 1) hl)
      have hsub : ibs.length - (ibs.length - ibs.length % 4) = ibs.length % 4 := Nat.sub_sub_self (Nat.mod_le _ _)
      simp only [List.dropLast_concat, List.flatMap_append, List.flatMap_cons, List.flatMap_nil, List.append_nil,
        List.take_append, hdl, hsub, hr8]
      rw [masked_take w _ hk]

/-! ### BEARER / DIRECTION packing: a shift is a multiplication, and fields that do not overlap add up -/

theorem shl_toUInt32 (x : UInt8) (k : Nat) (hk : k < 32) :
    x.toUInt32 <<< UInt32.ofNat k = UInt32.ofNat (x.toNat * 2 ^ k) := by
  apply UInt32.toNat_inj.mp
  rw [UInt32.toNat_shiftLeft, UInt32.toNat_ofNat', UInt32.toNat_ofNat', Nat.shiftLeft_eq, UInt8.toNat_toUInt32,
    Nat.mod_eq_of_lt (a := k) (by omega), Nat.mod_eq_of_lt hk]

theorem shl_octet (x : UInt8) (k : Nat) (hk : k < 8) : x <<< UInt8.ofNat k = UInt8.ofNat (x.toNat * 2 ^ k) := by
  apply UInt8.toNat_inj.mp
  rw [UInt8.toNat_shiftLeft, UInt8.toNat_ofNat', UInt8.toNat_ofNat', Nat.shiftLeft_eq,
    Nat.mod_eq_of_lt (a := k) (by omega), Nat.mod_eq_of_lt hk]

/-- the SNOW 3G IV word `bearer << 27 | dir << 26` of NEA1 -/
theorem bearerDirWord_eq (b d : UInt8) (hd : d.toNat < 2) :
    (b.toUInt32 <<< 27) ||| (d.toUInt32 <<< 26) = Spec.NasAlg.bearerDirWord b.toNat d.toNat := by
  rw [show b.toUInt32 <<< 27 = _ from shl_toUInt32 b 27 (by decide),
    show d.toUInt32 <<< 26 = _ from shl_toUInt32 d 26 (by decide), ← UInt32.ofNat_or,
    Proofs.Count.mul_pow_or _ _ 27 (by omega)]
  rfl

/-- octet 4 `bearer << 3 | dir << 2` of the AES counter block / CMAC prefix of NEA2 and NIA2 -/
theorem bearerDirOctet_eq (b d : UInt8) (hd : d.toNat < 2) :
    (b <<< 3) ||| (d <<< 2) = UInt8.ofNat (b.toNat * 8 + d.toNat * 4) := by
  rw [show b <<< 3 = _ from shl_octet b 3 (by decide), show d <<< 2 = _ from shl_octet d 2 (by decide), ← UInt8.ofNat_or,
    Proofs.Count.mul_pow_or _ _ 3 (by omega)]

theorem nea1_eq (ck : Bytes) (count : UInt32) (bearer dir : UInt8) (msg : Bytes) (hd : dir.toNat < 2) :
    nea1 ck count bearer.toUInt32 dir.toUInt32 msg
      = .ok (Spec.NasAlg.eea1 ck count bearer.toNat dir.toNat msg) := by
  simp only [nea1, keyWords, Spec.NasAlg.eea1, Spec.NasAlg.eea1Keystream, bearerDirWord_eq bearer dir hd,
    Proofs.Snow3g.init_eq, Proofs.Snow3g.keystream_eq, xorWords_eq]
  congr 1
  rw [maskLast_xor msg _ (by simp [Proofs.Snow3g.keystream_length])]
  simp only [xorBytes]
  exact (zipWith_take_right _ msg _).symm

theorem mulx64_eq (v c : UInt64) : mulx64 v c = Spec.NasAlg.MUL64x v c := rfl
theorem mulxPow64_eq (v : UInt64) (i : Nat) (c : UInt64) : mulxPow64 v i c = Spec.NasAlg.MUL64xPOW v i c := by
  induction i with
  | zero => rfl
  | succ n ih => simp [mulxPow64, Spec.NasAlg.MUL64xPOW, ih, mulx64_eq]
theorem mul64_eq (v p c : UInt64) : mul64 v p c = Spec.NasAlg.MUL64 v p c := by
  simp only [mul64, Spec.NasAlg.MUL64, mulxPow64_eq]

theorem evalBlocks_eq (p : UInt64) (fuel : Nat) (ev : UInt64) (msg : Bytes) :
    evalBlocks p fuel ev msg
      = (Spec.NasAlg.blocks64 fuel msg).foldl (fun e m => Spec.NasAlg.MUL64 (e ^^^ m) p 0x1b) ev := by
  induction fuel generalizing ev msg with
  | zero => rfl
  | succ n ih =>
    simp only [evalBlocks, Spec.NasAlg.blocks64]
    split
    · simp [mul64_eq]
    · simp [ih, mul64_eq]

theorem nia1_eq (ik : Bytes) (count : UInt32) (bearer dir : UInt8) (msg : Bytes) (hm : msg ≠ []) :
    nia1 ik count bearer dir.toUInt32 msg
      = .ok (Spec.NasAlg.eia1 ik count bearer.toNat dir.toNat msg) := by
  have h2 : bearer.toUInt32 <<< 27 = _ := shl_toUInt32 bearer 27 (by decide)
  have h3 : dir.toUInt32 <<< 15 = _ := shl_toUInt32 dir 15 (by decide)
  have h4 : dir.toUInt32 <<< 31 = _ := shl_toUInt32 dir 31 (by decide)
  have hne : msg.isEmpty = false := by cases msg <;> simp_all
  simp only [nia1, hne, keyWords, Spec.NasAlg.eia1, h2, h3, h4,
    Proofs.Snow3g.init_eq, Proofs.Snow3g.keystream_eq]
  generalize hks : Spec.Snow3g.keystream 5 _ = ks
  have hlen : ks.length = 5 := by rw [← hks]; exact Proofs.Snow3g.keystream_length 5 _
  match ks, hlen with
  | [z0, z1, z2, z3, z4], _ => simp [evalBlocks_eq, mul64_eq]

theorem nea2_eq (P : Prims) (key : Bytes) (count : UInt32) (bearer dir : UInt8) (msg : Bytes) (hd : dir.toNat < 2) :
    nea2 P key count bearer dir msg = .ok (Spec.NasAlg.eea2 P key count bearer.toNat dir.toNat msg) := by
  simp [nea2, Spec.NasAlg.eea2, counterPrefix, Spec.NasAlg.countBearerDir, bearerDirOctet_eq bearer dir hd, List.replicate]

theorem nia2_eq (P : Prims) (key : Bytes) (count : UInt32) (bearer dir : UInt8) (msg : Bytes) (hd : dir.toNat < 2) :
    nia2 P key count bearer dir msg = .ok (Spec.NasAlg.eia2 P key count bearer.toNat dir.toNat msg) := by
  simp [nia2, Spec.NasAlg.eia2, counterPrefix, Spec.NasAlg.countBearerDir, bearerDirOctet_eq bearer dir hd]

/-! ### the range checks of `NASEncrypt` / `NASMacCalculate` -/

theorem guards_pass (bearer dir : UInt8) (hb : bearer.toNat < 32) (hd : dir.toNat < 2) :
    ¬ bearer > 0x1f ∧ ¬ dir > 1 :=
  ⟨fun h => absurd (UInt8.lt_iff_toNat_lt.mp h) (by simp; omega), fun h => absurd (UInt8.lt_iff_toNat_lt.mp h) (by simp; omega)⟩

theorem nasEncrypt_inrange (P : Prims) (alg : UInt8) (key : Bytes) (count : UInt32) (bearer dir : UInt8) (msg : Bytes)
    (hb : bearer.toNat < 32) (hd : dir.toNat < 2) :
    nasEncrypt P alg key count bearer dir msg =
      match alg with
      | 0 => .ok msg
      | 1 => nea1 key count bearer.toUInt32 dir.toUInt32 msg
      | 2 => nea2 P key count bearer dir msg
      | _ => .error .error := by
  obtain ⟨hb', hd'⟩ := guards_pass bearer dir hb hd
  simp only [nasEncrypt, hb', hd', if_false]
  rfl

theorem nasMac_inrange (P : Prims) (alg : UInt8) (key : Bytes) (count : UInt32) (bearer dir : UInt8) (msg : Bytes)
    (hb : bearer.toNat < 32) (hd : dir.toNat < 2) :
    nasMac P alg key count bearer dir msg =
      match alg with
      | 0 => .ok []
      | 1 => nia1 key count bearer dir.toUInt32 msg
      | 2 => nia2 P key count bearer dir msg
      | _ => .error .error := by
  obtain ⟨hb', hd'⟩ := guards_pass bearer dir hb hd
  simp only [nasMac, hb', hd', if_false]
  rfl

end Stgutg.Proofs.NasAlg
