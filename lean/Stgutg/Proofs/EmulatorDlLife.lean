/-
  C02 helper: the emulator's reading of the specified downlink messages of the procedures after registration
  (Spec/AmfDownlink.lean, section "after registration"): PDU SESSION RESOURCE SETUP REQUEST and UE CONTEXT RELEASE COMMAND (the
  INITIAL CONTEXT SETUP REQUEST with the Service Accept and the DOWNLINK NAS TRANSPORT with the Deregistration Accept have the
  shapes of Proofs/EmulatorDownlink.lean).
  NGAP: each value is the evaluation of a skeleton that passes the static analysis of C13, so the specification encodes it and
  the library decoder (model) returns it (C03 + C04). Setup request: `EstablishPDU`'s glue finds the item and the two extractors
  return the assigned triple (C12).
-/
import Stgutg.Proofs.EmulatorDownlinkNas
import Stgutg.Props.C02

namespace Stgutg.Proofs.EmulatorDlLife
open Stgutg Stgutg.Aper Stgutg.Builders Stgutg.Model.Convert Stgutg.Model.Emulator
open Stgutg.Proofs.BuildersOk Stgutg.Proofs.Builders Stgutg.Proofs.BuildersTm Stgutg.Proofs.BuildersRange
open Stgutg.Proofs.BuildersRoles Stgutg.Proofs.BuildersPath Stgutg.Proofs.EmulatorDownlink

def tmSetupReq : Tm := initiating 29 Builders.reject 12 [
  ieT 10 Builders.reject 5 1 (.struct [.hole (.arg 0)]),
  ieT 85 Builders.reject 5 2 (.struct [.hole (.arg 1)]),
  ieT 74 Builders.reject 5 5 (.struct [.slice [.struct [.struct [.hole (.arg 2)], .ptr (.struct [.hole (.argOcts 3)]), snssaiT,
    .hole (.argOcts 4), .nil]]])]

/-- `message` is a placeholder here and in `tUeCtxRel`, as in `EmulatorDownlink.tDnt` -/
def tSetupReq : Template :=
  { name := "PDUSessionResourceSetupRequest", message := .UplinkNASTransport, roles := [.amf, .ran, .psi, .nas, .nas], dims := [],
    cases := [⟨[], .val tmSetupReq⟩] }

theorem setupReq_eval (E : Ext) (plmn : Bytes) (amf ran psi : Int) (nas tr : Bytes) :
    Spec.AmfDl.pduSessionResourceSetupRequest amf ran psi nas tr =
      eval E ⟨plmn, [.int amf, .int ran, .int psi, .octs nas, .octs tr]⟩ .nil tmSetupReq := rfl

theorem setupReq_static :
    (skOK true tmSetupReq && (skObls tmSetupReq).all fun o => explicitOK tSetupReq o && (oblIndex o).isNone) = true := by
  decide +kernel

/-- **PDU SESSION RESOURCE SETUP REQUEST**: identifiers in range, a PDU session ID in 0..255, any NAS-PDU and any transfer octets:
    encoded by the specification, decoded by the emulator -/
theorem setupReq_roundtrip (amf ran psi : Int) (nas tr : Bytes) (ha0 : 0 ≤ amf) (ha1 : amf < 2 ^ 40) (hr0 : 0 ≤ ran)
    (hr1 : ran < 2 ^ 32) (hp0 : 0 ≤ psi) (hp1 : psi ≤ 255) :
    ∃ bs, Spec.AmfDl.ngap (Spec.AmfDl.pduSessionResourceSetupRequest amf ran psi nas tr) = some bs ∧
      ngapDecode bs = .ok (Spec.AmfDl.pduSessionResourceSetupRequest amf ran psi nas tr) := by
  apply ngap_roundtrip
  rw [setupReq_eval Model.NetExt.goExt [0, 0, 0] amf ran psi nas tr]
  apply skeleton_okV _ tSetupReq _ _ setupReq_static
  refine fun hn => ⟨rfl, fun i => ?_, fun i hi _ => absurd hi (hn i)⟩
  rcases i with _ | _ | _ | _ | _ | i
  exacts [⟨amf, rfl, ha0, ha1⟩, ⟨ran, rfl, hr0, hr1⟩, ⟨psi, rfl, hp0, hp1⟩, trivial, trivial, trivial]

def tmUeCtxRel : Tm := initiating 41 Builders.reject 16 [
  ieT 114 Builders.reject 2 1 (choiceT 3 1 (.ptr (.struct [.struct [.hole (.arg 0)], .struct [.hole (.arg 1)], .nil]))),
  ieT 15 Builders.ignore 2 2 (choiceT 6 3 (.ptr (.struct [.enum 2])))]

def tUeCtxRel : Template :=
  { name := "UEContextReleaseCommand", message := .UplinkNASTransport, roles := [.amf, .ran], dims := [],
    cases := [⟨[], .val tmUeCtxRel⟩] }

theorem ueCtxRel_eval (E : Ext) (plmn : Bytes) (amf ran : Int) :
    Spec.AmfDl.ueContextReleaseCommand amf ran = eval E ⟨plmn, [.int amf, .int ran]⟩ .nil tmUeCtxRel := rfl

theorem ueCtxRel_static :
    (skOK true tmUeCtxRel && (skObls tmUeCtxRel).all fun o => explicitOK tUeCtxRel o && (oblIndex o).isNone) = true := by
  decide +kernel

/-- **UE CONTEXT RELEASE COMMAND** with the UE NGAP ID pair in range -/
theorem ueCtxRel_roundtrip (amf ran : Int) (ha0 : 0 ≤ amf) (ha1 : amf < 2 ^ 40) (hr0 : 0 ≤ ran) (hr1 : ran < 2 ^ 32) :
    ∃ bs, Spec.AmfDl.ngap (Spec.AmfDl.ueContextReleaseCommand amf ran) = some bs ∧
      ngapDecode bs = .ok (Spec.AmfDl.ueContextReleaseCommand amf ran) := by
  apply ngap_roundtrip
  rw [ueCtxRel_eval Model.NetExt.goExt [0, 0, 0] amf ran]
  refine skeleton_okV _ tUeCtxRel _ _ ueCtxRel_static fun hn => ⟨rfl, fun i => ?_, fun i hi _ => absurd hi (hn i)⟩
  rcases i with _ | _ | i
  exacts [⟨amf, rfl, ha0, ha1⟩, ⟨ran, rfl, hr0, hr1⟩, trivial]

/-- the AMF's type-2 protection under 5G-EA0 / 128-5G-IA2 is TS 24.501 9.1.1's layout with a 4-octet MAC: the form C12 speaks about -/
theorem protectAt_eq (P : Prims) (hP : Proofs.NasProtect.PrimsOk P) (ctx : Spec.NasSecurity.SecCtx) (hia : ctx.ia = 2) (hea : ctx.ea = 0)
    (c : Nat) (plain : Bytes) :
    ∃ mac sqn, mac.length = 4 ∧ Spec.AmfDl.protectAt P ctx c plain = some (Spec.SetupRequest.protect ⟨2, mac, sqn⟩ plain) := by
  refine ⟨(P.cmac ctx.kNasInt (Spec.NasAlg.countBearerDir (Spec.NasSecurity.count32 (c % Spec.NasSecurity.countMod))
      Spec.NasSecurity.bearer3gpp Spec.NasSecurity.downlink ++
      (UInt8.ofNat (Spec.NasSecurity.sqnOf (c % Spec.NasSecurity.countMod)) :: plain))).take 4,
    UInt8.ofNat (Spec.NasSecurity.sqnOf (c % Spec.NasSecurity.countMod)), ?_, ?_⟩
  · have := hP.cmac_len ctx.kNasInt (Spec.NasAlg.countBearerDir (Spec.NasSecurity.count32 (c % Spec.NasSecurity.countMod))
      Spec.NasSecurity.bearer3gpp Spec.NasSecurity.downlink ++
      (UInt8.ofNat (Spec.NasSecurity.sqnOf (c % Spec.NasSecurity.countMod)) :: plain))
    simp only [List.length_take]; omega
  · simp [Spec.AmfDl.protectAt, Spec.NasSecurity.amfProtect, Spec.NasSecurity.newContext, Spec.NasSecurity.protect,
      Spec.NasSecurity.protectedType, Spec.NasSecurity.bodyAsSent, Spec.NasSecurity.ciphered, Spec.NasSecurity.macOf, hia, hea,
      Spec.NasAlg.nea, Spec.NasAlg.nia, Spec.NasAlg.eia2, Spec.SetupRequest.protect]

theorem natBE_succ (w n : Nat) : natBE (w + 1) n = UInt8.ofNat (n / 256 ^ w) :: natBE w n := by
  unfold natBE
  rw [List.range_succ_eq_map, List.map_cons, List.map_map]
  refine congrArg₂ _ rfl (List.map_congr_left fun i _ => ?_)
  show UInt8.ofNat (n / 256 ^ (w + 1 - 1 - (i + 1))) = _
  rw [Nat.add_sub_cancel, Nat.sub_sub, Nat.add_comm 1 i]

theorem beNat_natBE (w n : Nat) : beNat (natBE w n) = n % 256 ^ w := by
  induction w with
  | zero => rw [Nat.pow_zero, Nat.mod_one]; rfl
  | succ w ih =>
    rw [natBE_succ, Proofs.Milenage.beNat_cons, ih, Proofs.Extract.natBE_length, UInt8.toNat_ofNat', Nat.pow_succ]
    show n / 256 ^ w % 256 * 256 ^ w + n % 256 ^ w = n % (256 ^ w * 256)
    rw [Nat.mod_mul, Nat.mul_comm, Nat.add_comm]

theorem beNat_natBE4 (n : Nat) (h : n < 2 ^ 32) : beNat (natBE 4 n) = n := by
  rw [beNat_natBE]; exact Nat.mod_eq_of_lt h

/-- the setup list `FindPDUSessionResourceSetupListSUReq` finds in the specified message, its first item's NAS-PDU and transfer -/
theorem setupReq_carries (amf ran psi : Int) (nas tr : Bytes) :
    Props.C02.CarriesItem (Spec.AmfDl.pduSessionResourceSetupRequest amf ran psi nas tr) nas tr :=
  ⟨.struct [.slice [.struct [.struct [.int psi], .ptr (.struct [.octs nas]), Spec.AmfDl.snssaiV, .octs tr, .nil]]],
   .struct [.struct [.int psi], .ptr (.struct [.octs nas]), Spec.AmfDl.snssaiV, .octs tr, .nil], [], rfl, rfl, rfl, rfl⟩

/-- **what `EstablishPDU` reports from the specified setup request is the assigned triple**: for every PSI / PTI below 256, UE
    address and UPF address of four octets, TEID below 2^32, DL NAS COUNT and security context with 128-5G-IA2 / 5G-EA0 (C12 through
    the glue of `EstablishPDU`) -/
theorem extractReport_spec (P : Prims) (hP : Proofs.NasProtect.PrimsOk P) (ctx : Spec.NasSecurity.SecCtx) (hia : ctx.ia = 2)
    (hea : ctx.ea = 0) (c psi pti : Nat) (ueIp upfIp : Bytes) (teid : Nat) (hip : ueIp.length = 4) (hupf : upfIp.length = 4)
    (hteid : teid < 2 ^ 32) (amf ran psi' : Int) (n : Bytes)
    (hn : Spec.AmfDl.protectAt P ctx c (Spec.AmfDl.dlNasTransportAccept psi pti ueIp) = some n) :
    extractReport (Spec.AmfDl.pduSessionResourceSetupRequest amf ran psi' n (Spec.AmfDl.setupTransfer upfIp teid).encode) =
      .ok { ip := ueIp, teid := teid, upf := upfIp } := by
  obtain ⟨mac, sqn, hmac, hp⟩ := protectAt_eq P hP ctx hia hea c (Spec.AmfDl.dlNasTransportAccept psi pti ueIp)
  rw [hp] at hn
  cases hn
  have hwf : (Spec.AmfDl.establishmentAccept psi pti ueIp).WellFormed :=
    ⟨by show ([0x01, 0x00, 0x06, 0x31, 0x31, 0x01, 0x01, 0xff, 0x01] : Bytes).length < 65536; decide, rfl⟩
  have hlen : (Spec.AmfDl.establishmentAccept psi pti ueIp).encode.length < 65530 := by
    apply Props.C12.C12_ip_size _ rfl ueIp hip 0x01 rfl
    simp [Spec.AmfDl.establishmentAccept, Spec.AmfDl.snssaiNas, Spec.AmfDl.dnnInternet]
  have htwf : (Spec.AmfDl.setupTransfer upfIp teid).WellFormed := by
    refine ⟨?_, ?_, ?_, ?_, ?_, ?_⟩
    · intro dl ul h; cases h; decide
    · exact Proofs.Extract.natBE_length 4 teid
    · show 1 ≤ upfIp.length; omega
    · show upfIp.length ≤ 20; omega
    · intro p h; cases h; decide
    · intro l h; cases h; simp
  have := Props.C02.C02_reports _ ⟨2, mac, sqn⟩ 1 (Spec.AmfDl.establishmentAccept psi pti ueIp) (some (UInt8.ofNat psi)) none none none
    ueIp (Spec.AmfDl.setupTransfer upfIp teid) hmac hwf rfl hip hlen htwf hupf
    (setupReq_carries amf ran psi' _ _)
  have e : Spec.SetupRequest.protect ⟨2, mac, sqn⟩ (Spec.AmfDl.dlNasTransportAccept psi pti ueIp) =
      Spec.SetupRequest.nasPdu ⟨2, mac, sqn⟩ 1 (Spec.AmfDl.establishmentAccept psi pti ueIp) (some (UInt8.ofNat psi)) := rfl
  rw [e, this]
  show Except.ok ({ ip := ueIp, teid := beNat (natBE 4 teid), upf := upfIp } : Report) = _
  rw [beNat_natBE4 teid hteid]

/-- the hypotheses of `extractReport_spec` are satisfiable: the protected NAS message exists for every plain message -/
example : ∃ n, Spec.AmfDl.protectAt Proofs.NasProtect.toyPrims { ia := 2, ea := 0, kNasInt := [1], kNasEnc := [2] } 3
    (Spec.AmfDl.dlNasTransportAccept 5 1 [10, 45, 0, 2]) = some n := by
  obtain ⟨mac, sqn, _, h⟩ := protectAt_eq Proofs.NasProtect.toyPrims Proofs.NasProtect.toyPrims_ok
    { ia := 2, ea := 0, kNasInt := [1], kNasEnc := [2] } rfl rfl 3 (Spec.AmfDl.dlNasTransportAccept 5 1 [10, 45, 0, 2])
  exact ⟨_, h⟩

end Stgutg.Proofs.EmulatorDlLife
