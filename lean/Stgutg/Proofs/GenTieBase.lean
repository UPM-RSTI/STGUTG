import Stgutg.Gen.PureRt
import Stgutg.Proofs.Hex
/-!
  Lemmas about the runtime of the `gen pure-*` translators (Gen/PureRt.lean) used by the tie theorems
  (Proofs/GenTie*.lean: generated definition = hand model): what the fixed-width arithmetic, the index and the slice
  expressions compute when their operands are natural numbers, which is how the hand models count; the single steps of a
  computation in `Res`; the induction for counted loops.

  Translated code names a bound by an `Int` expression (`(6 : Int)`, `Go.iadd i 1`), which `rw` does not match with a cast
  `((6 : Nat) : Int)`: the arithmetic and slice lemmas at natural numbers take the expression `i`, the number `a` and `i = a`
  (`rfl` for a literal, an `iadd_nat` equation for a sum). The index and assignment lemmas are stated at a cast `(n : Int)`, which
  is what a loop counter is; at a literal, `show Go.idx l 6 = _ from idx_nat l 6 h`.

  The runtime of one grammar has its lemmas with that group: `Go.bindS` (state threaded through failing steps) in GenTieNas,
  `Go.Sl` in GenTieExtractBase, `Go.forLt` (invariant rule `Milenage.forLt_inv`, itself by `forLt_ind`) and `Go.copyAt` in
  GenTieMilenageBase, the variable shifts and big-endian words of Gen/PureRtSec.lean in GenTieSecNas.
-/
namespace Stgutg.Proofs.GenTie
open Stgutg Stgutg.Gen

@[simp] theorem ok_bind {α β : Type} (a : α) (f : α → Res β) : (Except.ok a >>= f) = f a := rfl
@[simp] theorem error_bind {α β : Type} (e : Err) (f : α → Res β) : ((Except.error e : Res α) >>= f) = .error e := rfl

theorem bind_ok {α β : Type} {x : Res α} {f : α → Res β} {b : β} (h : (x >>= f) = .ok b) :
    ∃ a, x = .ok a ∧ f a = .ok b := by
  cases x with
  | error e => cases h
  | ok a => exact ⟨a, rfl, h⟩

/-- two computations that start with the same step agree (the first seen through `p`) if they agree after it -/
theorem bind_congr_map {α β γ : Type} (p : β → γ) (x : Res α) (F : α → Res β) (G : α → Res γ)
    (h : ∀ a, x = .ok a → Except.map p (F a) = G a) : Except.map p (x >>= F) = (x >>= G) := by
  cases x with
  | error e => rfl
  | ok a => exact h a rfl

/-- … the same when the first side's step is the other's seen through `g` -/
theorem bind_congr_map' {α α' β γ : Type} (g : α → α') (p : β → γ) (x : Res α) (F : α' → Res β) (G : α → Res γ)
    (h : ∀ a, x = .ok a → Except.map p (F (g a)) = G a) : Except.map p (Except.map g x >>= F) = (x >>= G) := by
  cases x with
  | error e => rfl
  | ok a => exact h a rfl

/-! ### `int` arithmetic: inside the 64-bit range the wrap is the identity -/

theorem wrapInt_of_range {x : Int} (h1 : -2 ^ 63 ≤ x) (h2 : x < 2 ^ 63) : Go.wrapInt x = x := by
  unfold Go.wrapInt; omega

theorem iadd_of_range {a b : Int} (h1 : -2 ^ 63 ≤ a + b) (h2 : a + b < 2 ^ 63) : Go.iadd a b = a + b :=
  wrapInt_of_range h1 h2

theorem isub_of_range {a b : Int} (h1 : -2 ^ 63 ≤ a - b) (h2 : a - b < 2 ^ 63) : Go.isub a b = a - b :=
  wrapInt_of_range h1 h2

theorem iadd_nat (a b : Nat) (i j : Int) (hi : i = a) (hj : j = b) (h : a + b < 2 ^ 63) :
    Go.iadd i j = ((a + b : Nat) : Int) := by
  subst hi hj; rw [iadd_of_range] <;> omega

/-- `i++` -/
theorem iadd_one (k : Nat) (h : k + 1 < 2 ^ 63) : Go.iadd (k : Int) 1 = ((k + 1 : Nat) : Int) :=
  iadd_nat k 1 _ _ rfl rfl h

theorem isub_nat (a b : Nat) (i j : Int) (hi : i = a) (hj : j = b) (h : b ≤ a) (ha : a < 2 ^ 63) :
    Go.isub i j = ((a - b : Nat) : Int) := by
  subst hi hj; rw [isub_of_range] <;> omega

theorem isub_neg (a b : Nat) (i j : Int) (hi : i = a) (hj : j = b) (h : a < b) (hb : b < 2 ^ 63) :
    Go.isub i j < 0 := by
  subst hi hj; rw [isub_of_range] <;> omega

/-! ### `x[i]`, `x[i] = v`, `x[a:]`, `x[a:b]`, `copy`, `make` at natural-number positions -/

theorem idx_some {α : Type} (l : List α) (n : Nat) (v : α) (h : l[n]? = some v) : Go.idx l (n : Int) = .ok v := by
  simp [Go.idx, h]

theorem idx_none {α : Type} (l : List α) (n : Nat) (h : l[n]? = none) : Go.idx l (n : Int) = .error .panic := by
  simp [Go.idx, h]

theorem idx_nat {α : Type} (l : List α) (n : Nat) (h : n < l.length) : Go.idx l (n : Int) = .ok l[n] :=
  idx_some l n _ (List.getElem?_eq_getElem h)

theorem idx_nat_oob {α : Type} (l : List α) (n : Nat) (h : l.length ≤ n) : Go.idx l (n : Int) = .error .panic :=
  idx_none l n (List.getElem?_eq_none h)

theorem set_nat {α : Type} (l : List α) (j : Nat) (v : α) :
    Go.set l (j : Int) v = if j < l.length then .ok (l.set j v) else .error .panic := by
  unfold Go.set
  by_cases h : j < l.length
  · rw [if_pos (by omega), if_pos h, Int.toNat_natCast]
  · rw [if_neg (by omega), if_neg h]

theorem set_last {α : Type} (b : List α) (z v : α) :
    Go.set (b ++ [z]) (b.length : Int) v = .ok (b ++ [v]) := by
  rw [set_nat, if_pos (by simp), List.set_append_right _ _ (Nat.le_refl _), Nat.sub_self, List.set_cons_zero]

theorem sliceFrom_nat {α : Type} (l : List α) (i : Int) (n : Nat) (h : i = n) :
    Go.sliceFrom l i = if l.length < n then .error .panic else .ok (l.drop n) := by
  subst h; unfold Go.sliceFrom
  by_cases c : l.length < n
  · rw [if_neg (by omega), if_pos c]
  · rw [if_pos (by omega), if_neg c, Int.toNat_natCast]

theorem slice_nat {α : Type} (l : List α) (i j : Int) (a b : Nat) (hi : i = a) (hj : j = b) (hab : a ≤ b) :
    Go.slice l i j = if l.length < b then .error .panic else .ok ((l.drop a).take (b - a)) := by
  subst hi hj; unfold Go.slice
  by_cases c : l.length < b
  · rw [if_neg (by omega), if_pos c]
  · rw [if_pos (by omega), if_neg c, Int.toNat_natCast, Int.toNat_natCast]

/-- `x[:b]` -/
theorem slice_zero {α : Type} (l : List α) (j : Int) (b : Nat) (hj : j = b) :
    Go.slice l 0 j = if l.length < b then .error .panic else .ok (l.take b) :=
  slice_nat l 0 j 0 b rfl hj (Nat.zero_le _)

theorem copy_full {α : Type} (dst src : List α) (h : dst.length = src.length) : Go.copy dst src = src := by
  unfold Go.copy
  rw [h, List.take_length, ← h, List.drop_length, List.append_nil]

theorem make_nat {α : Type} (z : α) (n : Nat) : Go.make z (n : Int) = .ok (List.replicate n z) := by
  rw [Go.make, if_pos (Int.natCast_nonneg n), Int.toNat_natCast]

/-! ### counted loops -/

/-- Every counted loop `for i := …; i < n; i++` is translated as a recursion on fuel that tests the counter, runs the body and
    calls itself with one unit of fuel less (by `Go.forLt`, or as a definition of its own): a claim `C fuel k` about the call
    with counter `k` follows for all fuel that outlasts the remaining `n - k` rounds from the exit at `n` and one round. -/
theorem forLt_ind {n : Nat} {C : Nat → Nat → Prop} (done : ∀ fuel, C (fuel + 1) n)
    (step : ∀ fuel k, k < n → C fuel (k + 1) → C (fuel + 1) k) :
    ∀ fuel k, k ≤ n → n - k < fuel → C fuel k := by
  intro fuel
  induction fuel with
  | zero => intro k _ h; omega
  | succ f ih =>
    intro k hk hf
    by_cases hlt : k < n
    · exact step f k hlt (ih (k + 1) (by omega) (by omega))
    · rw [show k = n by omega]; exact done f

end Stgutg.Proofs.GenTie
