import Stgutg.Proofs.GenTieMilenageBase
/-!
  Tie by translation (C15): `Gen/PureMilenage.lean` is regenerated from src/free5gclib/milenage/milenage.go on every run by
  `gen pure-milenage` (the buffer grammar, harness/cmd/gen/pure_milenage.go). The theorems here and `os_memcmp_eq` in
  Proofs/GenTieMilenageBase.lean prove that the translated functions ARE the hand model `Model/Milenage.lean` that the C15
  theorems are about: for every argument length, output buffers nil or of the documented sizes (whatever they hold), every
  key, and every block cipher that returns 16 octets (`AesLen`). The library record is instantiated by `libOf`.
  Tied: os_memcmp, milenageF1, F1, milenageF2345, F2345, GenerateOPC, MilenageGenerate, Milenage_check, Milenage_auts — every
  function of the group (for the last three: output buffers fresh and of the documented sizes, as the hand model has them).
-/
namespace Stgutg.Proofs.GenTie.Milenage
open Stgutg Stgutg.Gen Stgutg.Proofs.GenTie
open Stgutg.Model.Milenage
open Stgutg.Proofs.Hex (xorBytes_length)
open Stgutg.Proofs.Milenage (take_full scatter_length)

/-! ### milenageF1 -/

/-- how an outcome of the hand model `milenageF1` (what is written to mac_a, mac_s) reads on the translated function:
    (err != nil, mac_a afterwards, mac_s afterwards); `ma`, `ms` = the caller's buffers (none = nil) -/
def f1Res (ma ms : Option Bytes) : Res (Bytes × Bytes) → Res (Bool × Option Bytes × Option Bytes)
  | .ok (a, s) => .ok (false, ma.map (fun _ => a), ms.map (fun _ => s))
  | .error .error => .ok (true, ma, ms)
  | .error e => .error e

/-- **Tie.** the translated `milenageF1` against the hand model: for all input lengths; `ma`, `ms` = the buffers mac_a, mac_s
    (nil, or 8 octets holding anything): a present buffer receives the model's value, a NewCipher error leaves both untouched -/
theorem milenageF1_eq (P : Prims) (hE : AesLen P) (opc k rand sqn amf : Bytes) (ma ms : Option Bytes)
    (hma : ∀ b, ma = some b → b.length = 8) (hms : ∀ b, ms = some b → b.length = 8) :
    Pure.Milenage.milenageF1 (libOf P) opc k rand sqn amf ma ms =
      f1Res ma ms (Model.Milenage.milenageF1 P opc k rand sqn amf) := by
  unfold Pure.Milenage.milenageF1 Model.Milenage.milenageF1
  dsimp only
  rw [xor16Loop rand opc _ (List.length_replicate ..)]
  by_cases h' : rand.length < 16 ∨ opc.length < 16
  · rw [if_pos h', if_pos h', error_bind]
    rfl
  have h : 16 ≤ rand.length ∧ 16 ≤ opc.length := by omega
  rw [if_neg h', if_neg h', ok_bind]
  have hX : (xor16 rand opc).length = 16 := xor16_len h.1 h.2
  generalize xor16 rand opc = X at hX ⊢
  by_cases hv : k.length = 16 ∨ k.length = 24 ∨ k.length = 32
  case neg =>
    rw [lib_new_bad P hv, nc_bad hv, ok_bind]
    dsimp only
    rw [if_pos rfl, optOut_optBytes, optOut_optBytes]
    rfl
  rw [lib_new_ok P hv, nc_ok hv, ok_bind]
  dsimp only
  -- by `rw`, not `simp only`: `lib_bs` and `make16` hold by `rfl`, so simp would use them without a proof term and leave the
  -- kernel to find them again underneath the loops that follow
  rw [if_neg Bool.false_ne_true, lib_bs, ok_bind, make16, ok_bind,
    lib_enc P k (List.replicate 16 (0 : UInt8)) X hX (by simp), ok_bind]
  have hT : (P.aes k X).length = 16 := hE k X hv hX
  generalize P.aes k X = T at hT ⊢
  rw [slice_zero _ 6 6 rfl]
  by_cases h6 : sqn.length < 6
  · rw [if_pos h6, if_pos h6, error_bind]
    rfl
  have hS : (sqn.take 6).length = 6 := by rw [List.length_take]; omega
  rw [if_neg h6, if_neg h6, ok_bind, tmp2_1 _ hS, ok_bind, slice_zero _ 2 2 rfl]
  by_cases h2 : amf.length < 2
  · rw [if_pos h2, if_pos h2, error_bind]
    rfl
  have hA : (amf.take 2).length = 2 := by rw [List.length_take]; omega
  rw [if_neg h2, if_neg h2, ok_bind, tmp2_2 _ _ hS hA, ok_bind, tmp2_3 _ _ hS hA, ok_bind, tmp2_4 _ _ hS hA, ok_bind]
  have hW : (sqn.take 6 ++ amf.take 2 ++ (sqn.take 6 ++ amf.take 2)).length = 16 := by
    simp only [List.length_append]; omega
  generalize sqn.take 6 ++ amf.take 2 ++ (sqn.take 6 ++ amf.take 2) = W at hW ⊢
  rw [scatterLoop W opc _ 8 8 rfl (by decide) (by omega) h.2 (List.length_replicate ..), ok_bind]
  have hV : (scatter 8 (xor16 W opc)).length = 16 := scatter_length _ _
  generalize scatter 8 (xor16 W opc) = V at hV ⊢
  rw [xorIntoLoop T V 16 16 rfl (by decide) (by omega) hV, ok_bind, take_full hT]
  have hY : (xorBytes V T).length = 16 := by rw [xorBytes_length]; omega
  generalize xorBytes V T = Y at hY ⊢
  rw [ok_bind, make16, ok_bind, lib_enc P k (List.replicate 16 (0 : UInt8)) Y hY (by simp), ok_bind]
  have hO : (P.aes k Y).length = 16 := hE k Y hv hY
  generalize P.aes k Y = O at hO ⊢
  rw [xorIntoLoop opc O 16 16 rfl (by decide) h.2 hO, ok_bind]
  have hR : (xorBytes O (opc.take 16)).length = 16 := by rw [xorBytes_length, List.length_take]; omega
  generalize xorBytes O (opc.take 16) = R at hR ⊢
  have c8 : ¬ R.length < 8 := by omega
  have c16 : ¬ R.length < 16 := by omega
  have l8 : (R.take 8).length = 8 := by rw [List.length_take]; omega
  have l8' : (R.drop 8).length = 8 := by rw [List.length_drop]; omega
  have e8 : (R.drop 8).take 8 = R.drop 8 := List.take_of_length_le (by rw [List.length_drop]; omega)
  rw [slice_zero _ 8 8 rfl, if_neg c8, ok_bind, out_buf ma (R.take 8) 8 hma l8, slice_nat _ 8 16 8 16 rfl rfl (by decide), if_neg c16, ok_bind,
    e8, out_buf ms (R.drop 8) 8 hms l8', optOut_map, optOut_map]
  rfl

/-- **Tie.** the exported wrapper `F1` -/
theorem F1_eq (P : Prims) (hE : AesLen P) (opc k rand sqn amf : Bytes) (ma ms : Option Bytes)
    (hma : ∀ b, ma = some b → b.length = 8) (hms : ∀ b, ms = some b → b.length = 8) :
    Pure.Milenage.F1 (libOf P) opc k rand sqn amf ma ms =
      f1Res ma ms (Model.Milenage.F1 P opc k rand sqn amf) := by
  unfold Pure.Milenage.F1 Model.Milenage.F1
  dsimp only
  simp only [optOut_optBytes]
  rw [milenageF1_eq P hE opc k rand sqn amf ma ms hma hms]
  cases hm : Model.Milenage.milenageF1 P opc k rand sqn amf with
  | error e =>
    cases e with
    | error => simp [f1Res, optOut_optBytes]
    | panic => rfl
    | hang => rfl
  | ok r =>
    obtain ⟨a, s⟩ := r
    cases ma <;> cases ms <;> rfl

/-! ### GenerateOPC -/

/-- **Tie.** the translated `GenerateOPC`: (opc, err != nil); on an error the slice returned is nil (no octets) -/
theorem GenerateOPC_eq (P : Prims) (hE : AesLen P) (k op : Bytes) :
    Pure.Milenage.GenerateOPC (libOf P) k op =
      (match Model.Milenage.GenerateOPC P k op with
      | .ok v => .ok (v, false)
      | .error .error => .ok ([], true)
      | .error e => .error e) := by
  unfold Pure.Milenage.GenerateOPC Model.Milenage.GenerateOPC
  dsimp only
  by_cases hv : k.length = 16 ∨ k.length = 24 ∨ k.length = 32
  case neg =>
    simp [lib_new_bad P hv, nc_bad hv]
  simp only [lib_new_ok P hv, nc_ok hv, ok_bind, Bool.false_eq_true, if_false, lib_bs, make16]
  by_cases h16 : op.length < 16
  · simp [h16, lib_enc_short P k _ op h16]
  have c16 : 16 ≤ op.length := by omega
  have e := lib_enc_take P k (List.replicate 16 (0 : UInt8)) op c16 (List.length_replicate ..)
  have hO : (P.aes k (op.take 16)).length = 16 := hE k _ hv (by rw [List.length_take]; omega)
  simp only [e, ok_bind, h16, if_false]
  generalize P.aes k (op.take 16) = O at hO ⊢
  simp only [xorIntoLoop op O 16 16 rfl (by decide) c16 hO, ok_bind]

/-! ### milenageF2345 -/

theorem opt_isSome (r : Option Bytes) (v : Bytes) : opt r.isSome v = r.map (fun _ => v) := by cases r <;> rfl

/-- the f3 / f4 branch of milenageF2345 (`if ck != nil { … }`): what it leaves in tmp1 and in the buffer -/
theorem branch_f34 (P : Prims) (hE : AesLen P) (k : Bytes) (hv : k.length = 16 ∨ k.length = 24 ∨ k.length = 32)
    (T opc tmp1 : Bytes) (hT : T.length = 16) (hop : 16 ≤ opc.length) (h1 : tmp1.length = 16)
    (o : Option Bytes) (ho : ∀ b, o = some b → b.length = 16) (c : UInt8) (s : Nat) (sI : Int) (hs : sI = s) (hs62 : s < 2 ^ 62)
    {β : Type} (f : Bytes × Bytes → Res β) :
    ((if (!o.isNone) then
        Go.forLt (scatterStep T opc sI) (16 : Int) (Int.toNat ((16 : Int) - (0 : Int)) + 1) (0 : Int) tmp1 >>= fun t35 =>
        Go.idx t35 (15 : Int) >>= fun t36 =>
        Go.set t35 (15 : Int) (t36 ^^^ c) >>= fun t37 =>
        (libOf P).encrypt (some k) (Go.optBytes o) t37 >>= fun t38 =>
        Go.forLt (xorIntoStep opc) (16 : Int) (Int.toNat ((16 : Int) - (0 : Int)) + 1) (0 : Int) t38 >>= fun t43 =>
        .ok (t37, t43)
      else .ok (tmp1, Go.optBytes o)) >>= f)
    = f (if o.isNone then tmp1 else xorLast (scatter s (xor16 T opc)) c,
         Go.optBytes (o.map fun _ => xorBytes (P.aes k (xorLast (scatter s (xor16 T opc)) c)) (opc.take 16))) := by
  cases o with
  | none => rfl
  | some b =>
    have hb : b.length = 16 := ho b rfl
    have hZ : (scatter s (xor16 T opc)).length = 16 := scatter_length _ _
    have hZ' : (xorLast (scatter s (xor16 T opc)) c).length = 16 := by rw [xorLast_length]; exact hZ
    have hQ := hE k _ hv hZ'
    simp only [Option.isNone_some, Bool.not_false, if_true, Bool.false_eq_true, if_false, Option.map_some, Go.optBytes,
      scatterLoop T opc tmp1 sI s hs hs62 (by omega) hop h1, ok_bind, xorLast_step _ c hZ, lib_enc P k b _ hZ' hb,
      xorIntoLoop opc _ 16 16 rfl (by decide) hop hQ]

/-- the f5* branch (`if akstar != nil { … }`) -/
theorem branch_f5s (P : Prims) (hE : AesLen P) (k : Bytes) (hv : k.length = 16 ∨ k.length = 24 ∨ k.length = 32)
    (T opc tmp1 : Bytes) (hT : T.length = 16) (hop : 16 ≤ opc.length) (h1 : tmp1.length = 16)
    (o : Option Bytes) (ho : ∀ b, o = some b → b.length = 6)
    {β : Type} (f : Bytes × Bytes → Res β) :
    ((if (!o.isNone) then
        Go.forLt (scatterStep T opc (4 : Int)) (16 : Int) (Int.toNat ((16 : Int) - (0 : Int)) + 1) (0 : Int) tmp1 >>= fun t63 =>
        Go.idx t63 (15 : Int) >>= fun t64 =>
        Go.set t63 (15 : Int) (t64 ^^^ (8 : UInt8)) >>= fun t65 =>
        (libOf P).encrypt (some k) t65 t65 >>= fun t66 =>
        Go.forLt (xorStep t66 opc) (6 : Int) (Int.toNat ((6 : Int) - (0 : Int)) + 1) (0 : Int) (Go.optBytes o) >>= fun t71 =>
        .ok (t66, t71)
      else .ok (tmp1, Go.optBytes o)) >>= f)
    = f (if o.isNone then tmp1 else P.aes k (xorLast (scatter 4 (xor16 T opc)) 8),
         Go.optBytes (o.map fun _ =>
           xorBytes ((P.aes k (xorLast (scatter 4 (xor16 T opc)) 8)).take 6) (opc.take 6))) := by
  cases o with
  | none => rfl
  | some b =>
    have hb : b.length = 6 := ho b rfl
    have hZ : (scatter 4 (xor16 T opc)).length = 16 := scatter_length _ _
    have hZ' : (xorLast (scatter 4 (xor16 T opc)) 8).length = 16 := by rw [xorLast_length]; exact hZ
    have hQ := hE k _ hv hZ'
    simp only [Option.isNone_some, Bool.not_false, if_true, Bool.false_eq_true, if_false, Option.map_some, Go.optBytes,
      scatterLoop T opc tmp1 4 4 rfl (by decide) (by omega) hop h1, ok_bind, xorLast_step _ (8 : UInt8) hZ,
      lib_enc P k _ _ hZ' hZ', xorLoop_fit (P.aes k (xorLast (scatter 4 (xor16 T opc)) 8)) opc b 6 6 rfl (by decide) hb,
      show ¬ ((P.aes k (xorLast (scatter 4 (xor16 T opc)) 8)).length < 6 ∨ opc.length < 6) by omega]

/-- **Tie.** the translated `milenageF2345` against the hand model: for all input lengths; each buffer nil or of its
    documented size (holding anything); a NewCipher error leaves all buffers untouched -/
theorem milenageF2345_eq (P : Prims) (hE : AesLen P) (opc k rand : Bytes) (r c i a s : Option Bytes)
    (hr : ∀ b, r = some b → b.length = 8) (hc : ∀ b, c = some b → b.length = 16) (hi : ∀ b, i = some b → b.length = 16)
    (ha : ∀ b, a = some b → b.length = 6) (hs : ∀ b, s = some b → b.length = 6) :
    Pure.Milenage.milenageF2345 (libOf P) opc k rand r c i a s =
      (match Model.Milenage.milenageF2345 P opc k rand r.isSome c.isSome i.isSome a.isSome s.isSome with
      | .ok o => .ok (false, o.res, o.ck, o.ik, o.ak, o.akstar)
      | .error .error => .ok (true, r, c, i, a, s)
      | .error e => .error e) := by
  unfold Pure.Milenage.milenageF2345 Model.Milenage.milenageF2345
  dsimp only
  rw [xor16Loop rand opc _ (List.length_replicate ..)]
  by_cases h' : rand.length < 16 ∨ opc.length < 16
  · simp only [h', if_true, error_bind]
  have h : 16 ≤ rand.length ∧ 16 ≤ opc.length := by omega
  simp only [h', if_false, ok_bind]
  have hX : (xor16 rand opc).length = 16 := xor16_len h.1 h.2
  generalize xor16 rand opc = X at hX ⊢
  by_cases hv : k.length = 16 ∨ k.length = 24 ∨ k.length = 32
  case neg =>
    rw [lib_new_bad P hv, nc_bad hv]
    simp only [ok_bind, if_true, optOut_optBytes]
  simp only [lib_new_ok P hv, nc_ok hv, ok_bind, Bool.false_eq_true, if_false, lib_bs, make16,
    lib_enc P k (List.replicate 16 (0 : UInt8)) X hX (by simp)]
  have hT : (P.aes k X).length = 16 := hE k X hv hX
  generalize P.aes k X = T at hT ⊢
  simp only [xor16Loop T opc X hX, show ¬ (T.length < 16 ∨ opc.length < 16) by omega, if_false, ok_bind]
  have hU : (xor16 T opc).length = 16 := xor16_len (by omega) h.2
  simp only [xorLast_step (xor16 T opc) (1 : UInt8) hU]
  have hU1 : (xorLast (xor16 T opc) 1).length = 16 := by rw [xorLast_length]; exact hU
  simp only [ok_bind, lib_enc P k (List.replicate 16 (0 : UInt8)) _ hU1 (by simp)]
  have hE3 : (P.aes k (xorLast (xor16 T opc) 1)).length = 16 := hE k _ hv hU1
  simp only [xorIntoLoop opc _ 16 16 rfl (by decide) h.2 hE3, ok_bind]
  have hR : (xorBytes (P.aes k (xorLast (xor16 T opc) 1)) (opc.take 16)).length = 16 := by
    rw [xorBytes_length, List.length_take]; omega
  generalize xorBytes (P.aes k (xorLast (xor16 T opc) 1)) (opc.take 16) = R at hR ⊢
  have c6 : ¬ R.length < 6 := by omega
  have c16 : ¬ R.length < 16 := by omega
  have l6 : (R.take 6).length = 6 := by rw [List.length_take]; omega
  have l8' : (R.drop 8).length = 8 := by rw [List.length_drop]; omega
  have e8 : (R.drop 8).take 8 = R.drop 8 := List.take_of_length_le (by rw [List.length_drop]; omega)
  simp only [slice_zero _ 6 6 rfl, slice_nat _ 8 16 8 16 rfl rfl (by decide), c6, c16, if_false, ok_bind, e8]
  simp only [out_buf r (R.drop 8) 8 hr l8', out_buf a (R.take 6) 6 ha l6]
  simp only [branch_f34 P hE k hv T opc (xorLast (xor16 T opc) 1) hT h.2 hU1 c hc (2 : UInt8) 12 (12 : Int) rfl (by decide)]
  have hM1 : (if c.isNone then xorLast (xor16 T opc) 1 else xorLast (scatter 12 (xor16 T opc)) 2).length = 16 := by
    split
    · exact hU1
    · rw [xorLast_length]; exact scatter_length _ _
  generalize (if c.isNone then xorLast (xor16 T opc) 1 else xorLast (scatter 12 (xor16 T opc)) 2) = M1 at hM1 ⊢
  simp only [branch_f34 P hE k hv T opc M1 hT h.2 hM1 i hi (4 : UInt8) 8 (8 : Int) rfl (by decide)]
  have hM2 : (if i.isNone then M1 else xorLast (scatter 8 (xor16 T opc)) 4).length = 16 := by
    split
    · exact hM1
    · rw [xorLast_length]; exact scatter_length _ _
  generalize (if i.isNone then M1 else xorLast (scatter 8 (xor16 T opc)) 4) = M2 at hM2 ⊢
  simp only [branch_f5s P hE k hv T opc M2 hT h.2 hM2 s hs]
  simp only [optOut_map, opt_isSome]

theorem f2345_shape {P : Prims} {opc k rand : Bytes} {w1 w2 w3 w4 w5 : Bool} {o : F2345Out}
    (h : Model.Milenage.milenageF2345 P opc k rand w1 w2 w3 w4 w5 = .ok o) :
    o.res.isSome = w1 ∧ o.ck.isSome = w2 ∧ o.ik.isSome = w3 ∧ o.ak.isSome = w4 ∧ o.akstar.isSome = w5 := by
  unfold Model.Milenage.milenageF2345 at h
  split at h
  · cases h
  · split at h
    · cases h
    · cases h
      cases w1 <;> cases w2 <;> cases w3 <;> cases w4 <;> cases w5 <;> simp [opt]

/-- what a successful run of the hand model's `milenageF2345` says about its inputs and its outputs: the buffers returned are
    the ones asked for, and AK, AK* have 6 octets -/
theorem f2345_ok_facts (P : Prims) (hE : AesLen P) {opc k rand : Bytes} {w1 w2 w3 w4 w5 : Bool} {o : F2345Out}
    (h : Model.Milenage.milenageF2345 P opc k rand w1 w2 w3 w4 w5 = .ok o) :
    16 ≤ rand.length ∧ 16 ≤ opc.length ∧ (k.length = 16 ∨ k.length = 24 ∨ k.length = 32) ∧
      (o.res.isSome = w1 ∧ o.ck.isSome = w2 ∧ o.ik.isSome = w3 ∧ o.ak.isSome = w4 ∧ o.akstar.isSome = w5) ∧
      (∀ v, o.ak = some v → v.length = 6) ∧ (∀ v, o.akstar = some v → v.length = 6) := by
  have hshape := f2345_shape h
  unfold Model.Milenage.milenageF2345 at h
  split at h
  · cases h
  rename_i hl
  have hopc : 16 ≤ opc.length := by omega
  have hrand : 16 ≤ rand.length := by omega
  by_cases hv : k.length = 16 ∨ k.length = 24 ∨ k.length = 32
  case neg => rw [nc_bad hv] at h; cases h
  rw [nc_ok hv] at h
  cases h
  have h1 : (P.aes k (xor16 rand opc)).length = 16 := hE _ _ hv (xor16_len hrand hopc)
  have h2 : ∀ t : Bytes, t.length = 16 → ∀ c, (P.aes k (xorLast t c)).length = 16 := fun t ht c =>
    hE k _ hv (by rw [xorLast_length]; exact ht)
  refine ⟨hrand, hopc, hv, hshape, fun v hvv => ?_, fun v hvv => ?_⟩
  · cases w4 <;> cases hvv
    have := h2 (xor16 (P.aes k (xor16 rand opc)) opc) (xor16_len (by omega) hopc) 1
    rw [List.length_take, xorBytes_length, List.length_take]; omega
  · cases w5 <;> cases hvv
    have := h2 _ (scatter_length 4 (xor16 (P.aes k (xor16 rand opc)) opc)) 8
    rw [xorBytes_length, List.length_take, List.length_take]; omega

theorem optOut_shape (r x : Option Bytes) (h : x.isSome = r.isSome) : Go.optOut r.isNone (Go.optBytes x) = x := by
  cases r <;> cases x <;> simp_all [Go.optOut, Go.optBytes]

/-- **Tie.** the exported wrapper `F2345` -/
theorem F2345_eq (P : Prims) (hE : AesLen P) (opc k rand : Bytes) (r c i a s : Option Bytes)
    (hr : ∀ b, r = some b → b.length = 8) (hc : ∀ b, c = some b → b.length = 16) (hi : ∀ b, i = some b → b.length = 16)
    (ha : ∀ b, a = some b → b.length = 6) (hs : ∀ b, s = some b → b.length = 6) :
    Pure.Milenage.F2345 (libOf P) opc k rand r c i a s =
      (match Model.Milenage.F2345 P opc k rand r.isSome c.isSome i.isSome a.isSome s.isSome with
      | .ok o => .ok (false, o.res, o.ck, o.ik, o.ak, o.akstar)
      | .error .error => .ok (true, r, c, i, a, s)
      | .error e => .error e) := by
  unfold Pure.Milenage.F2345 Model.Milenage.F2345
  dsimp only
  simp only [optOut_optBytes]
  rw [milenageF2345_eq P hE opc k rand r c i a s hr hc hi ha hs]
  cases hm : Model.Milenage.milenageF2345 P opc k rand r.isSome c.isSome i.isSome a.isSome s.isSome with
  | error e =>
    cases e with
    | error => simp [optOut_optBytes]
    | panic => rfl
    | hang => rfl
  | ok o =>
    obtain ⟨h1, h2, h3, h4, h5⟩ := f2345_shape hm
    simp [optOut_shape r _ h1, optOut_shape c _ h2, optOut_shape i _ h3, optOut_shape a _ h4, optOut_shape s _ h5]

/-! ### Milenage_auts -/

theorem optBytes_some (v : Bytes) : Go.optBytes (some v) = v := rfl

/-- **Tie.** the translated `Milenage_auts` (SQN buffer: 6 fresh octets) is the hand model: (return code, SQN buffer afterwards) -/
theorem Milenage_auts_eq (P : Prims) (hE : AesLen P) (opc k rand auts : Bytes) :
    Pure.Milenage.Milenage_auts (libOf P) opc k rand auts (zeros 6) = Model.Milenage.Milenage_auts P opc k rand auts := by
  unfold Pure.Milenage.Milenage_auts Model.Milenage.Milenage_auts
  dsimp only
  rw [milenageF2345_eq P hE opc k rand none none none none (some (List.replicate 6 (0 : UInt8)))
    (by intro b h; cases h) (by intro b h; cases h) (by intro b h; cases h) (by intro b h; cases h)
    (by intro b h; cases h; rfl)]
  simp only [Option.isSome]
  cases hm : Model.Milenage.milenageF2345 P opc k rand false false false false true with
  | error e => cases e <;> rfl
  | ok o =>
    obtain ⟨-, -, -, ⟨-, -, -, -, s5⟩, -, hs⟩ := f2345_ok_facts P hE hm
    obtain ⟨v, hv⟩ := Option.isSome_iff_exists.mp s5
    have hvl := hs v hv
    simp only [ok_bind, Bool.false_eq_true, if_false, hv, optBytes_some, Option.getD_some]
    rw [xorLoop_fit auts v (zeros 6) 6 6 rfl (by decide) (List.length_replicate ..)]
    by_cases h6 : auts.length < 6
    · rw [if_pos (.inl h6), if_pos h6, error_bind]
    rw [if_neg (by omega), if_neg h6, ok_bind, take_full hvl]
    rw [milenageF1_eq P hE opc k rand (xorBytes (auts.take 6) v) [0, 0] none (some (List.replicate 8 (0 : UInt8)))
      (by intro b h; cases h) (by intro b h; cases h; rfl)]
    cases hf : Model.Milenage.milenageF1 P opc k rand (xorBytes (auts.take 6) v) [0, 0] with
    | error e => cases e <;> rfl
    | ok r =>
      obtain ⟨a, s⟩ := r
      simp only [f1Res, ok_bind, Option.map, optBytes_some, Bool.false_eq_true, if_false, slice_nat _ 6 14 6 14 rfl rfl (by decide)]
      by_cases h14 : auts.length < 14 <;> simp [h14, libOf]

/-! ### Milenage_check -/

theorem deref_some {α : Type} (v : α) : Go.deref (some v) = .ok v := rfl

theorem optBytes_getD (x : Option Bytes) : Go.optBytes x = x.getD [] := by cases x <;> rfl

/-- how the hand model's outcome of `Milenage_check` reads on the translated function: (return code, IK, CK, RES buffers,
    *res_len, AUTS buffer) -/
def checkRes (c : CheckOut) : Int × Option Bytes × Option Bytes × Option Bytes × Option UInt64 × Bytes :=
  (c.ret, some c.ik, some c.ck, some c.res, some (UInt64.ofNat c.resLen), c.auts)

/-- **Tie.** the translated `Milenage_check` (IK, CK, RES, AUTS buffers: fresh zeroed buffers of 16, 16, 8, 14 octets; res_len
    pointing at any value) is the hand model, for all input lengths -/
theorem Milenage_check_eq (P : Prims) (hE : AesLen P) (opc k sqn rand autn : Bytes) (n : UInt64) :
    Pure.Milenage.Milenage_check (libOf P) opc k sqn rand autn (some (zeros 16)) (some (zeros 16)) (some (zeros 8)) (some n) (zeros 14)
      = (Model.Milenage.Milenage_check P opc k sqn rand autn n.toNat).map checkRes := by
  unfold Pure.Milenage.Milenage_check Model.Milenage.Milenage_check
  dsimp only
  simp only [optOut_optBytes]
  rw [milenageF2345_eq P hE opc k rand (some (zeros 8)) (some (zeros 16)) (some (zeros 16)) (some (List.replicate 6 (0 : UInt8))) none
    (by intro b h; cases h; rfl) (by intro b h; cases h; rfl) (by intro b h; cases h; rfl) (by intro b h; cases h; rfl)
    (by intro b h; cases h)]
  simp only [Option.isSome]
  cases hm : Model.Milenage.milenageF2345 P opc k rand true true true true false with
  | error e =>
    cases e with
    | error => simp [Except.map, checkRes, Go.optOut, Go.optBytes, UInt64.ofNat_toNat]
    | panic => rfl
    | hang => rfl
  | ok o =>
    obtain ⟨hrand, hopc, hv, ⟨s1, s2, s3, s4, -⟩, ha, -⟩ := f2345_ok_facts P hE hm
    obtain ⟨va, hak⟩ := Option.isSome_iff_exists.mp s4
    have hal := ha va hak
    obtain ⟨vr, hr⟩ := Option.isSome_iff_exists.mp s1
    obtain ⟨vc, hc⟩ := Option.isSome_iff_exists.mp s2
    obtain ⟨vi, hi⟩ := Option.isSome_iff_exists.mp s3
    simp only [ok_bind, Bool.false_eq_true, if_false, hr, hc, hi, hak, optBytes_some, Option.getD_some, deref_some,
      Option.isNone, Go.optOut]
    rw [xorLoop_fit autn va _ 6 6 rfl (by decide) (List.length_replicate ..)]
    by_cases h6 : autn.length < 6
    · rw [if_pos (.inl h6), if_pos h6, error_bind]
      rfl
    rw [if_neg (by omega), if_neg h6, ok_bind, take_full hal]
    have hrx : (xorBytes (autn.take 6) va).length = 6 := by rw [xorBytes_length, List.length_take]; omega
    generalize xorBytes (autn.take 6) va = RX at hrx ⊢
    rw [os_memcmp_eq RX sqn 6 (by decide)]
    simp only [show (6 : Int).toNat = 6 from rfl]
    cases hc1 : Model.Milenage.os_memcmp RX sqn 6 with
    | error e => rfl
    | ok c1 =>
      simp only [ok_bind]
      by_cases hle : c1 ≤ 0
      · simp only [hle, decide_true, if_true]
        rw [milenageF2345_eq P hE opc k rand none none none none (some va)
          (by intro b h; cases h) (by intro b h; cases h) (by intro b h; cases h) (by intro b h; cases h)
          (by intro b h; cases h; exact hal)]
        simp only [Option.isSome]
        cases hm2 : Model.Milenage.milenageF2345 P opc k rand false false false false true with
        | error e => cases e <;> rfl
        | ok o2 =>
          obtain ⟨-, -, -, ⟨-, -, -, -, t5⟩, -, hs2⟩ := f2345_ok_facts P hE hm2
          obtain ⟨v2, hv2⟩ := Option.isSome_iff_exists.mp t5
          have hv2l := hs2 v2 hv2
          simp only [ok_bind, Bool.false_eq_true, if_false, hv2, optBytes_some, Option.getD_some]
          rw [xorLoop sqn v2 (zeros 14) 6 6 rfl (by decide) (by simp [zeros])]
          by_cases hs6 : sqn.length < 6
          · rw [if_pos (.inl hs6), if_pos hs6, error_bind]
            rfl
          rw [if_neg (by omega), if_neg hs6, ok_bind, take_full hv2l]
          have hah : (xorBytes (sqn.take 6) v2).length = 6 := by rw [xorBytes_length, List.length_take]; omega
          generalize xorBytes (sqn.take 6) v2 = AH at hah ⊢
          have hd : (AH ++ (zeros 14).drop 6).drop 6 = zeros 8 := by
            rw [List.drop_left' hah]; rfl
          have ht : (AH ++ (zeros 14).drop 6).take 6 = AH := List.take_left' hah
          have hl : ¬ (AH ++ (zeros 14).drop 6).length < 6 := by simp [hah]
          rw [sliceFrom_nat _ 6 6 rfl, if_neg hl, ok_bind, hd]
          rw [milenageF1_eq P hE opc k rand sqn [0, 0] none (some (zeros 8))
            (by intro b h; cases h) (by intro b h; cases h; rfl)]
          cases hf : Model.Milenage.milenageF1 P opc k rand sqn [0, 0] with
          | error e =>
            cases e with
            | error => simp [f1Res, Except.map, checkRes, Go.spliceFrom, Go.optBytes, ht]
            | panic => rfl
            | hang => rfl
          | ok r =>
            obtain ⟨a, s⟩ := r
            simp [f1Res, Except.map, checkRes, Go.spliceFrom, Go.optBytes, ht]
      · simp only [hle, decide_false, Bool.false_eq_true, if_false]
        rw [sliceFrom_nat _ 6 6 rfl, if_neg h6, ok_bind]
        by_cases h8' : autn.length < 8
        · have hp : Model.Milenage.milenageF1 P opc k rand RX (autn.drop 6) = .error .panic := by
            have h1 : ¬ (rand.length < 16 ∨ opc.length < 16) := by omega
            have h2 : ¬ RX.length < 6 := by omega
            simp [Model.Milenage.milenageF1, h1, nc_ok hv, h2]
            omega
          rw [milenageF1_eq P hE opc k rand RX (autn.drop 6) (some (List.replicate 8 (0 : UInt8))) none
            (by intro b h; cases h; rfl) (by intro b h; cases h), hp, if_pos h8']
          rfl
        rw [if_neg h8', milenageF1_eq P hE opc k rand RX (autn.drop 6) (some (List.replicate 8 (0 : UInt8))) none
            (by intro b h; cases h; rfl) (by intro b h; cases h)]
        cases hf : Model.Milenage.milenageF1 P opc k rand RX (autn.drop 6) with
        | error e => cases e <;> rfl
        | ok r =>
          obtain ⟨a, s⟩ := r
          simp only [f1Res, ok_bind, Option.map, optBytes_some, Bool.false_eq_true, if_false]
          rw [sliceFrom_nat _ 8 8 rfl, if_neg h8', ok_bind]
          rw [os_memcmp_eq a (autn.drop 8) 8 (by decide)]
          simp only [show (8 : Int).toNat = 8 from rfl]
          cases hc2 : Model.Milenage.os_memcmp a (autn.drop 8) 8 with
          | error e => rfl
          | ok c2 =>
            by_cases hz : c2 = 0 <;> simp [hz, Except.map, checkRes]

/-! ### MilenageGenerate -/

theorem ex2 {α : Type} (l : List α) (h : 2 ≤ l.length) : ∃ x0 x1 r, l = x0 :: x1 :: r := by
  rcases l with _ | ⟨x0, l⟩
  · simp at h
  rcases l with _ | ⟨x1, l⟩
  · simp at h
  exact ⟨x0, x1, l, rfl⟩

/-- round `i = 0` of the AUTN loop of `MilenageGenerate` (see `loopD`), `amf[0:2]` already taken: SQN of at least six octets,
    a six-octet AK, eight octets of MAC-A and a 16-octet AUTN given octet by octet, by evaluation; `stepD1` … `stepD5` are the
    other five rounds -/
theorem stepD0 (s0 s1 s2 s3 s4 s5 : UInt8) (rs : Bytes) (k0 k1 k2 k3 k4 k5 f0 f1 m0 m1 m2 m3 m4 m5 m6 m7 : UInt8)
    (a0 a1 a2 a3 a4 a5 a6 a7 a8 a9 a10 a11 a12 a13 a14 a15 : UInt8) :
    (Go.idx (s0 :: s1 :: s2 :: s3 :: s4 :: s5 :: rs) (0 : Int) >>= fun x => Go.idx [k0, k1, k2, k3, k4, k5] (0 : Int) >>= fun y =>
      Go.set [a0, a1, a2, a3, a4, a5, a6, a7, a8, a9, a10, a11, a12, a13, a14, a15] (0 : Int) (x ^^^ y) >>= fun t11 =>
      Go.copyAt t11 (6 : Int) [f0, f1] >>= fun t13 =>
      Go.slice [m0, m1, m2, m3, m4, m5, m6, m7] (0 : Int) (8 : Int) >>= fun t14 => Go.copyAt t13 (8 : Int) t14 >>= fun t15 => .ok t15)
    = .ok [s0 ^^^ k0, a1, a2, a3, a4, a5, f0, f1, m0, m1, m2, m3, m4, m5, m6, m7] := rfl

theorem stepD1 (s0 s1 s2 s3 s4 s5 : UInt8) (rs : Bytes) (k0 k1 k2 k3 k4 k5 f0 f1 m0 m1 m2 m3 m4 m5 m6 m7 : UInt8)
    (a0 a1 a2 a3 a4 a5 a6 a7 a8 a9 a10 a11 a12 a13 a14 a15 : UInt8) :
    (Go.idx (s0 :: s1 :: s2 :: s3 :: s4 :: s5 :: rs) (1 : Int) >>= fun x => Go.idx [k0, k1, k2, k3, k4, k5] (1 : Int) >>= fun y =>
      Go.set [a0, a1, a2, a3, a4, a5, a6, a7, a8, a9, a10, a11, a12, a13, a14, a15] (1 : Int) (x ^^^ y) >>= fun t11 =>
      Go.copyAt t11 (6 : Int) [f0, f1] >>= fun t13 =>
      Go.slice [m0, m1, m2, m3, m4, m5, m6, m7] (0 : Int) (8 : Int) >>= fun t14 => Go.copyAt t13 (8 : Int) t14 >>= fun t15 => .ok t15)
    = .ok [a0, s1 ^^^ k1, a2, a3, a4, a5, f0, f1, m0, m1, m2, m3, m4, m5, m6, m7] := rfl

theorem stepD2 (s0 s1 s2 s3 s4 s5 : UInt8) (rs : Bytes) (k0 k1 k2 k3 k4 k5 f0 f1 m0 m1 m2 m3 m4 m5 m6 m7 : UInt8)
    (a0 a1 a2 a3 a4 a5 a6 a7 a8 a9 a10 a11 a12 a13 a14 a15 : UInt8) :
    (Go.idx (s0 :: s1 :: s2 :: s3 :: s4 :: s5 :: rs) (2 : Int) >>= fun x => Go.idx [k0, k1, k2, k3, k4, k5] (2 : Int) >>= fun y =>
      Go.set [a0, a1, a2, a3, a4, a5, a6, a7, a8, a9, a10, a11, a12, a13, a14, a15] (2 : Int) (x ^^^ y) >>= fun t11 =>
      Go.copyAt t11 (6 : Int) [f0, f1] >>= fun t13 =>
      Go.slice [m0, m1, m2, m3, m4, m5, m6, m7] (0 : Int) (8 : Int) >>= fun t14 => Go.copyAt t13 (8 : Int) t14 >>= fun t15 => .ok t15)
    = .ok [a0, a1, s2 ^^^ k2, a3, a4, a5, f0, f1, m0, m1, m2, m3, m4, m5, m6, m7] := rfl

theorem stepD3 (s0 s1 s2 s3 s4 s5 : UInt8) (rs : Bytes) (k0 k1 k2 k3 k4 k5 f0 f1 m0 m1 m2 m3 m4 m5 m6 m7 : UInt8)
    (a0 a1 a2 a3 a4 a5 a6 a7 a8 a9 a10 a11 a12 a13 a14 a15 : UInt8) :
    (Go.idx (s0 :: s1 :: s2 :: s3 :: s4 :: s5 :: rs) (3 : Int) >>= fun x => Go.idx [k0, k1, k2, k3, k4, k5] (3 : Int) >>= fun y =>
      Go.set [a0, a1, a2, a3, a4, a5, a6, a7, a8, a9, a10, a11, a12, a13, a14, a15] (3 : Int) (x ^^^ y) >>= fun t11 =>
      Go.copyAt t11 (6 : Int) [f0, f1] >>= fun t13 =>
      Go.slice [m0, m1, m2, m3, m4, m5, m6, m7] (0 : Int) (8 : Int) >>= fun t14 => Go.copyAt t13 (8 : Int) t14 >>= fun t15 => .ok t15)
    = .ok [a0, a1, a2, s3 ^^^ k3, a4, a5, f0, f1, m0, m1, m2, m3, m4, m5, m6, m7] := rfl

theorem stepD4 (s0 s1 s2 s3 s4 s5 : UInt8) (rs : Bytes) (k0 k1 k2 k3 k4 k5 f0 f1 m0 m1 m2 m3 m4 m5 m6 m7 : UInt8)
    (a0 a1 a2 a3 a4 a5 a6 a7 a8 a9 a10 a11 a12 a13 a14 a15 : UInt8) :
    (Go.idx (s0 :: s1 :: s2 :: s3 :: s4 :: s5 :: rs) (4 : Int) >>= fun x => Go.idx [k0, k1, k2, k3, k4, k5] (4 : Int) >>= fun y =>
      Go.set [a0, a1, a2, a3, a4, a5, a6, a7, a8, a9, a10, a11, a12, a13, a14, a15] (4 : Int) (x ^^^ y) >>= fun t11 =>
      Go.copyAt t11 (6 : Int) [f0, f1] >>= fun t13 =>
      Go.slice [m0, m1, m2, m3, m4, m5, m6, m7] (0 : Int) (8 : Int) >>= fun t14 => Go.copyAt t13 (8 : Int) t14 >>= fun t15 => .ok t15)
    = .ok [a0, a1, a2, a3, s4 ^^^ k4, a5, f0, f1, m0, m1, m2, m3, m4, m5, m6, m7] := rfl

theorem stepD5 (s0 s1 s2 s3 s4 s5 : UInt8) (rs : Bytes) (k0 k1 k2 k3 k4 k5 f0 f1 m0 m1 m2 m3 m4 m5 m6 m7 : UInt8)
    (a0 a1 a2 a3 a4 a5 a6 a7 a8 a9 a10 a11 a12 a13 a14 a15 : UInt8) :
    (Go.idx (s0 :: s1 :: s2 :: s3 :: s4 :: s5 :: rs) (5 : Int) >>= fun x => Go.idx [k0, k1, k2, k3, k4, k5] (5 : Int) >>= fun y =>
      Go.set [a0, a1, a2, a3, a4, a5, a6, a7, a8, a9, a10, a11, a12, a13, a14, a15] (5 : Int) (x ^^^ y) >>= fun t11 =>
      Go.copyAt t11 (6 : Int) [f0, f1] >>= fun t13 =>
      Go.slice [m0, m1, m2, m3, m4, m5, m6, m7] (0 : Int) (8 : Int) >>= fun t14 => Go.copyAt t13 (8 : Int) t14 >>= fun t15 => .ok t15)
    = .ok [a0, a1, a2, a3, a4, s5 ^^^ k5, f0, f1, m0, m1, m2, m3, m4, m5, m6, m7] := rfl

/-- the AUTN loop of MilenageGenerate: `autn[i] = sqn[i] ^ ak[i]; copy(autn[6:], amf[0:2]); copy(autn[8:], mac_a[0:8])`, six times.
    Before round `j` the first six octets hold the xor up to `j`; the two copies are repeated in every round and, from the
    first on, find the last ten octets as they leave them -/
theorem loopD (sqn ak amf macA autn : Bytes) (hs : 6 ≤ sqn.length) (hk : ak.length = 6) (ha : 2 ≤ amf.length)
    (hm : macA.length = 8) (hau : autn.length = 16) :
    Go.forLt (fun i autn => Go.idx sqn i >>= fun x => Go.idx ak i >>= fun y => Go.set autn i (x ^^^ y) >>= fun t11 =>
        Go.slice amf (0 : Int) (2 : Int) >>= fun t12 => Go.copyAt t11 (6 : Int) t12 >>= fun t13 =>
        Go.slice macA (0 : Int) (8 : Int) >>= fun t14 => Go.copyAt t13 (8 : Int) t14 >>= fun t15 => .ok t15)
        (6 : Int) (Int.toNat ((6 : Int) - (0 : Int)) + 1) (0 : Int) autn
      = .ok (xorBytes (sqn.take 6) ak ++ amf.take 2 ++ macA) := by
  have hA : (amf.take 2).length = 2 := by rw [List.length_take]; omega
  have hR : (xorBytes sqn ak).length = 6 := by rw [xorBytes_length]; omega
  refine forLt_inv _ 6 6 rfl (by decide)
    (fun j st => st.length = 16 ∧ st.take 6 = (xorBytes sqn ak).take j ++ (autn.take 6).drop j ∧
      (0 < j → st.drop 6 = amf.take 2 ++ macA)) _ ?_ ?_ _ 0 autn (Nat.zero_le _) (by decide)
    ⟨hau, rfl, fun h => absurd h (Nat.lt_irrefl 0)⟩
  · rintro j st hj ⟨hl, ht, -⟩
    have hjR : j < (xorBytes sqn ak).length := by omega
    refine .inl ⟨(st.set j (xorBytes sqn ak)[j]).take 6 ++ amf.take 2 ++ macA, ?_, ?_, ?_, fun _ => ?_⟩
    · rw [idx_nat sqn j (by omega), ok_bind, idx_nat ak j (by omega), ok_bind, set_nat, if_pos (by omega), ok_bind,
        slice_zero _ 2 2 rfl, if_neg (by omega), ok_bind, copyAt_nat _ _ 6 6 rfl (by simp; omega), ok_bind, slice_zero _ 8 8 rfl,
        if_neg (by omega), ok_bind, take_full hm, copyAt_nat _ _ 8 8 rfl (by simp; omega), ok_bind]
      have h8 : ∀ v, ((st.set j v).take 6 ++ amf.take 2).length = 8 := fun v => by simp; omega
      rw [List.append_assoc _ _ (List.drop _ _), List.take_left' (h8 _), List.drop_eq_nil_of_le (by simp; omega), List.append_nil]
      simp [xorBytes]
    · simp; omega
    · rw [List.append_assoc, List.take_left' (by simp; omega), List.take_set, ht]
      exact take_drop_set _ _ j (by omega) (by simp; omega)
    · rw [List.append_assoc, List.drop_left' (by simp; omega)]
  · rintro st ⟨hl, ht, hd⟩
    rw [← List.take_append_drop 6 st, ht, hd (by decide), List.drop_eq_nil_of_le (by simp; omega), List.append_nil,
      Proofs.Milenage.xorBytes_take, take_full hk, List.append_assoc]

/-- what a successful run of the hand model's `milenageF1` says about its inputs and its outputs -/
theorem f1_ok_facts (P : Prims) (hE : AesLen P) {opc k rand sqn amf a s : Bytes}
    (h : Model.Milenage.milenageF1 P opc k rand sqn amf = .ok (a, s)) :
    6 ≤ sqn.length ∧ 2 ≤ amf.length ∧ a.length = 8 := by
  unfold Model.Milenage.milenageF1 at h
  split at h
  · cases h
  · rename_i hl
    have hopc : 16 ≤ opc.length := by omega
    have hrand : 16 ≤ rand.length := by omega
    by_cases hv : k.length = 16 ∨ k.length = 24 ∨ k.length = 32
    · rw [nc_ok hv] at h
      dsimp only at h
      split at h
      · cases h
      · split at h
        · cases h
        · rename_i h6 h2
          cases h
          refine ⟨by omega, by omega, ?_⟩
          have h1 : (P.aes k (xor16 rand opc)).length = 16 := hE _ _ hv (xor16_len hrand hopc)
          have h3 : (xorBytes (scatter 8 (xor16 (sqn.take 6 ++ amf.take 2 ++ (sqn.take 6 ++ amf.take 2)) opc))
              (P.aes k (xor16 rand opc))).length = 16 := by
            rw [xorBytes_length, scatter_length, h1]; rfl
          have h4 := hE k _ hv h3
          rw [List.length_take, xorBytes_length, List.length_take]
          omega
    · rw [nc_bad hv] at h
      cases h

/-- how the hand model's outcome of `MilenageGenerate` reads on the translated function: (AUTN, IK, CK, AK, RES buffers, *res_len) -/
def genRes (g : GenOut) : Bytes × Option Bytes × Option Bytes × Option Bytes × Option Bytes × Option UInt64 :=
  (g.autn, some g.ik, some g.ck, some g.ak, some g.res, some (UInt64.ofNat g.resLen))

/-- **Tie.** the translated `MilenageGenerate` (AUTN, IK, CK, AK, RES buffers: fresh zeroed buffers of 16, 16, 16, 6, 8 octets;
    res_len pointing at any value) is the hand model, for all input lengths -/
theorem MilenageGenerate_eq (P : Prims) (hE : AesLen P) (opc amf k sqn rand : Bytes) (n : UInt64) :
    Pure.Milenage.MilenageGenerate (libOf P) opc amf k sqn rand (zeros 16) (some (zeros 16)) (some (zeros 16)) (some (zeros 6))
        (some (zeros 8)) (some n)
      = (Model.Milenage.MilenageGenerate P opc amf k sqn rand n.toNat).map genRes := by
  unfold Pure.Milenage.MilenageGenerate Model.Milenage.MilenageGenerate
  dsimp only
  simp only [optOut_optBytes, deref_some, ok_bind]
  by_cases hn : n < 8
  · have hn' : n.toNat < 8 := by
      have := UInt64.lt_iff_toNat_lt.mp hn
      simpa using this
    simp only [hn, hn', decide_true, if_true]
    rfl
  have hn' : ¬ n.toNat < 8 := by
    intro h
    apply hn
    apply UInt64.lt_iff_toNat_lt.mpr
    simpa using h
  simp only [hn, hn', decide_false, Bool.false_eq_true, if_false]
  rw [milenageF1_eq P hE opc k rand sqn amf (some (List.replicate 8 (0 : UInt8))) none
    (by intro b h; cases h; rfl) (by intro b h; cases h)]
  cases hf : Model.Milenage.milenageF1 P opc k rand sqn amf with
  | error e => cases e <;> rfl
  | ok r =>
    obtain ⟨a, s⟩ := r
    obtain ⟨hs6, ha2, hal⟩ := f1_ok_facts P hE hf
    simp only [f1Res, ok_bind, Option.map, optBytes_some, Bool.false_eq_true, if_false]
    rw [milenageF2345_eq P hE opc k rand (some (zeros 8)) (some (zeros 16)) (some (zeros 16)) (some (zeros 6)) none
      (by intro b h; cases h; rfl) (by intro b h; cases h; rfl) (by intro b h; cases h; rfl) (by intro b h; cases h; rfl)
      (by intro b h; cases h)]
    simp only [Option.isSome]
    cases hm : Model.Milenage.milenageF2345 P opc k rand true true true true false with
    | error e => cases e <;> rfl
    | ok o =>
      obtain ⟨-, -, -, ⟨s1, s2, s3, s4, -⟩, ha, -⟩ := f2345_ok_facts P hE hm
      obtain ⟨va, hak⟩ := Option.isSome_iff_exists.mp s4
      have hakl := ha va hak
      obtain ⟨vr, hr⟩ := Option.isSome_iff_exists.mp s1
      obtain ⟨vc, hc⟩ := Option.isSome_iff_exists.mp s2
      obtain ⟨vi, hi⟩ := Option.isSome_iff_exists.mp s3
      simp only [ok_bind, Bool.false_eq_true, if_false, hr, hc, hi, hak, optBytes_some, Option.getD_some,
        Option.isNone, Go.optOut]
      rw [loopD sqn va amf a (zeros 16) hs6 hakl ha2 hal (by simp [zeros])]
      rfl

/-! ### the hypotheses are satisfiable -/

/-- a cipher parameter that satisfies `AesLen` (the identity on blocks) -/
def P0 : Prims := { aes := fun _ x => x, ctr := fun _ _ m => m, cmac := fun _ m => m, hmac := fun _ m => m }

example : AesLen P0 := fun _ _ _ hx => hx

/-- a present buffer of the documented size satisfies the buffer hypothesis (here: MAC-A, 8 octets holding 0xff) -/
example : ∀ b, (some (List.replicate 8 (0xff : UInt8)) : Option Bytes) = some b → b.length = 8 := by
  intro b h; cases h; rfl

/-- a nil buffer satisfies it vacuously -/
example : ∀ b, (none : Option Bytes) = some b → b.length = 8 := by intro b h; cases h

/-- the ties instantiated at such values -/
example (opc k rand sqn amf : Bytes) :=
  milenageF1_eq P0 (fun _ _ _ hx => hx) opc k rand sqn amf (some (List.replicate 8 0xff)) none
    (by intro b h; cases h; rfl) (by intro b h; cases h)

end Stgutg.Proofs.GenTie.Milenage
