/-
  The generic round trip of the NAS codec model, for Props/C08 and (through Proofs/NasSpec) Props/C09.
  Core Lean only.
-/
import Stgutg.Model.NasWF
namespace Stgutg.Nas
open Stgutg

theorem readN_append {n : Nat} {a rest : Bytes} (h : a.length = n) :
    readN n (a ++ rest) = (some a, rest) := by
  subst h; simp [readN]

theorem lenBytes_length {w n : Nat} (h : lenWOK w = true) : (lenBytes w n).length = w := by
  simp [lenWOK] at h; rcases h with h | h <;> subst h <;> rfl

theorem lenOf_lenBytes {w n : Nat} (h : lenFits w n = true) : lenOfBytes (lenBytes w n) = n := by
  simp [lenFits] at h
  rcases h with ⟨h, hn⟩ | ⟨h, hn⟩ <;> subst h
  · simp [lenBytes, lenOfBytes, UInt8.toNat_ofNat_of_lt' hn]
  · simp [lenBytes, lenOfBytes, UInt8.toNat_ofNat']; omega

theorem allZero_eq {l : Bytes} (h : allZero l = true) : l = List.replicate l.length 0 := by
  induction l with
  | nil => rfl
  | cons a t ih =>
    simp [allZero] at h ⊢
    simp [List.replicate_succ, h.1]
    apply ih; simp [allZero]; exact h.2

theorem rop_lenSet_ok (s : Shape) (b : UInt8) (v : Val) (rest : Bytes) (n : Nat)
    (hw : lenWOK s.lenW = true) (hn : lenFits s.lenW n = true) :
    rop s b v (lenBytes s.lenW n ++ rest) .lenSet =
      .ok ({ v with len := n, data := if s.body = .buf then List.replicate n 0 else v.data }, rest) := by
  simp [rop, readN_append (lenBytes_length hw), lenOf_lenBytes hn]

theorem rop_octet_ok (s : Shape) (b : UInt8) (v : Val) (a rest : Bytes) (h : a.length = s.body.size) :
    rop s b v (a ++ rest) .octet = .ok ({ v with data := a }, rest) := by
  simp [rop, readN_append h]

theorem rop_bufPtr_ok (s : Shape) (b : UInt8) (v : Val) (a rest : Bytes) (h : a.length = v.data.length) :
    rop s b v (a ++ rest) .bufPtr = .ok ({ v with data := a }, rest) := by
  simp [rop, readN_append h]

theorem rop_bufLen_ok (s : Shape) (b : UInt8) (v : Val) (a rest : Bytes) (h : a.length = v.len)
    (h2 : v.len ≤ v.data.length) :
    rop s b v (a ++ rest) .bufLen = .ok ({ v with data := a ++ v.data.drop v.len }, rest) := by
  simp [rop, readN_append h, h2]

theorem rop_octetLen_ok (s : Shape) (b : UInt8) (v : Val) (a rest : Bytes) (h : a.length = v.len)
    (h2 : v.len ≤ v.data.length) :
    rop s b v (a ++ rest) .octetLen = .ok ({ v with data := a ++ v.data.drop v.len }, rest) := by
  simp [rop, readN_append h, h2]

theorem tmpIei_full {c : Nat} (h : c < 128) : tmpIei (UInt8.ofNat c) = c := by
  have : (UInt8.ofNat c).toNat = c := UInt8.toNat_ofNat_of_lt' (show c < 256 by omega)
  simp [tmpIei, this]; omega

theorem tmpIei_half {b : UInt8} {c : Nat} (h : b.toNat / 16 = c) (h8 : 8 ≤ c) : tmpIei b = c := by
  unfold tmpIei; split <;> omega

theorem newVal_len (s : Shape) (b : UInt8) : (newVal s b).len = 0 := by
  unfold newVal Shape.zero; split <;> (try split) <;> (try split) <;> rfl

theorem newVal_iei_noField (s : Shape) (b : UInt8) (h : s.hasIei = false) : (newVal s b).iei = 0 := by
  unfold newVal Shape.zero; simp [h]; split <;> (try split) <;> rfl

theorem newVal_field (s : Shape) (b : UInt8) (h : s.hasIei = true) (h2 : s.newSetsIei = true) :
    newVal s b = { iei := b.toNat, len := 0, data := List.replicate s.body.size 0 } := by
  simp [newVal, Shape.zero, h, h2]

theorem decOps_cons {s : Shape} {b : UInt8} {op : ROp} {ops : List ROp} {v v' : Val} {rest rest' : Bytes}
    (h : rop s b v rest op = .ok (v', rest')) : decOps s b (op :: ops) v rest = decOps s b ops v' rest' := by
  simp [decOps, h]

/-- one optional IE: what the encode block writes starts with an octet the decoder maps to the case
    constant, and the case's statements read the value back from the rest -/
theorem optIE_roundtrip (s : Shape) (e : List WOp) (d : List ROp) (c : Nat) (v : Val)
    (hk : optKindOK s e d = true) (hr : ieiRangeOK e c = true) (hv : optValOK s c v e = true) :
    ∃ b body, encIE s v e = .ok (b :: body) ∧ tmpIei b = c ∧
      ∀ rest, decOps s b d s.zero (body ++ rest) = .ok (v, rest) := by
  obtain ⟨iei, len, data⟩ := v
  have hnew : ∀ rest ops, s.hasIei = true → s.newSetsIei = true → c < 128 →
      decOps s (UInt8.ofNat c) (.new :: ops) s.zero rest = decOps s (UInt8.ofNat c) ops ⟨c, 0, List.replicate s.body.size 0⟩ rest :=
    fun rest ops h1 h2 h3 => by
      rw [decOps_cons (v' := newVal s (UInt8.ofNat c)) rfl, newVal_field s _ h1 h2, UInt8.toNat_ofNat_of_lt' (show c < 256 by omega)]
  unfold optKindOK at hk
  split at hk <;> simp [optValOK, ieiRangeOK] at hv hk hr
  · obtain ⟨⟨rfl, rfl⟩, hd⟩ := hv
    split at hd
    · rename_i _ b
      simp at hd
      refine ⟨b, [], by simp [encIE, wop], tmpIei_half hd hr.1, fun rest => ?_⟩
      simp [decOps, rop, newVal_len, newVal_iei_noField, hk]
    · simp at hd
  · obtain ⟨⟨rfl, rfl⟩, hd⟩ := hv
    refine ⟨UInt8.ofNat iei, data, by simp [encIE, wop], tmpIei_full hr, fun rest => ?_⟩
    rw [hnew _ _ hk.1.1 hk.1.2 hr, decOps_cons (rop_octet_ok s _ _ data rest hd)]; rfl
  · obtain ⟨⟨rfl, hf⟩, hd⟩ := hv
    refine ⟨UInt8.ofNat iei, lenBytes s.lenW len ++ data, by simp [encIE, wop], tmpIei_full hr, fun rest => ?_⟩
    rw [hnew _ _ hk.1.1.1 hk.1.1.2 hr, List.append_assoc, decOps_cons (rop_lenSet_ok s _ _ _ _ hk.2 hf),
      decOps_cons (rop_octet_ok s _ _ data rest hd)]
    simp [decOps]
  · obtain ⟨⟨rfl, rfl⟩, hf⟩ := hv
    refine ⟨UInt8.ofNat iei, lenBytes s.lenW data.length ++ data, by simp [encIE, wop], tmpIei_full hr, fun rest => ?_⟩
    rw [hnew _ _ hk.1.1.1 hk.1.1.2 hr, List.append_assoc, decOps_cons (rop_lenSet_ok s _ _ _ _ hk.2 hf),
      decOps_cons (rop_bufLen_ok s _ _ data rest rfl (by simp [hk.1.2]))]
    simp [decOps, hk.1.2]
  · obtain ⟨⟨⟨⟨rfl, hf⟩, hd⟩, hle⟩, hz⟩ := hv
    have hle' : len ≤ data.length := by omega
    refine ⟨UInt8.ofNat iei, lenBytes s.lenW len ++ data.take len, by simp [encIE, wop, hle'], tmpIei_full hr,
      fun rest => ?_⟩
    have hne : s.body ≠ .buf := by intro h; simp [h] at hk
    rw [hnew _ _ hk.1.1.1 hk.1.1.2 hr, List.append_assoc, decOps_cons (rop_lenSet_ok s _ _ _ _ hk.1.2 hf),
      decOps_cons (rop_octetLen_ok s _ _ (data.take len) rest (by simp; omega) (by simp [hne]; omega))]
    have hz' := allZero_eq hz
    simp at hz'
    simp [decOps, hne]
    rw [← hd, ← hz', List.take_append_drop]

theorem mandIE_roundtrip (s : Shape) (e : List WOp) (d : List ROp) (v : Val)
    (hk : mandKindOK s e d = true) (hv : mandValOK s v e = true) :
    ∃ bs, encIE s v e = .ok bs ∧ ∀ b rest, decOps s b d s.zero (bs ++ rest) = .ok (v, rest) := by
  obtain ⟨iei, len, data⟩ := v
  unfold mandKindOK at hk
  split at hk <;> simp [mandValOK] at hv hk
  · obtain ⟨⟨rfl, rfl⟩, hd⟩ := hv
    exact ⟨data, by simp [encIE, wop], fun b rest => by
      rw [decOps_cons (rop_octet_ok s b _ data rest hd)]; rfl⟩
  · obtain ⟨⟨rfl, rfl⟩, hf⟩ := hv
    refine ⟨lenBytes s.lenW data.length ++ data, by simp [encIE, wop], fun b rest => ?_⟩
    rw [List.append_assoc, decOps_cons (rop_lenSet_ok s b _ _ _ hk.2 hf), decOps_cons (rop_bufPtr_ok s b _ data rest (by simp [hk.1]))]
    simp [decOps, Shape.zero]
  · obtain ⟨⟨rfl, hf⟩, hd⟩ := hv
    refine ⟨lenBytes s.lenW len ++ data, by simp [encIE, wop], fun b rest => ?_⟩
    rw [List.append_assoc, decOps_cons (rop_lenSet_ok s b _ _ _ hk.2 hf), decOps_cons (rop_octet_ok s b _ data rest hd)]
    simp [decOps, Shape.zero]
  · obtain ⟨⟨rfl, rfl⟩, rfl⟩ := hv
    exact ⟨[], by simp [encIE, wop], fun b rest => by simp [decOps, rop, Shape.zero, hk, Body.size]⟩

/-! ### assignments -/

theorem assign_length (m0 : Msg) (tr : List (Nat × Val)) : (assign m0 tr).length = m0.length := by
  induction tr generalizing m0 with
  | nil => rfl
  | cons p tr ih => simp [assign, List.foldl_cons] at ih ⊢; rw [ih]; simp

/-- assignments that only ever store the target's own values, and that reach every position where the
    start state differs from the target, produce the target — whatever their order or multiplicity -/
theorem assign_eq (m : Msg) : ∀ (tr : List (Nat × Val)) (m0 : Msg), m0.length = m.length →
    (∀ p ∈ tr, m[p.1]? = some (some p.2)) →
    (∀ i, i < m.length → m0[i]? = m[i]? ∨ i ∈ tr.map (·.1)) →
    assign m0 tr = m := by
  intro tr
  induction tr with
  | nil =>
    intro m0 hl _ hc
    show m0 = m
    apply List.ext_getElem? ; intro i
    by_cases hi : i < m.length
    · rcases hc i hi with h | h
      · exact h
      · simp at h
    · rw [List.getElem?_eq_none (by omega), List.getElem?_eq_none (by omega)]
  | cons p tr ih =>
    intro m0 hl hs hc
    have hp := hs p (by simp)
    have hpl : p.1 < m.length := by
      rcases Nat.lt_or_ge p.1 m.length with h | h
      · exact h
      · rw [List.getElem?_eq_none h] at hp; cases hp
    show assign (m0.set p.1 (some p.2)) tr = m
    apply ih
    · simp [hl]
    · intro q hq; exact hs q (by simp [hq])
    · intro i hi
      by_cases hip : i = p.1
      · left; subst hip; rw [List.getElem?_set_self (by omega)]; exact hp.symm
      · rcases hc i hi with h | h
        · left; rw [List.getElem?_set_ne (by omega)]; exact h
        · right; simp at h ⊢
          rcases h with h | h
          · exact absurd h hip
          · exact h

/-! ### induction over a well-formed layout

`mandWF` and `optWF` walk the groups with a running field index; every proof about a layout follows them one struct
field at a time, with the field looked up and the pairing of its statements known to round-trip. -/

theorem mandWF_induction {fields : List Field} {P : Nat → List (Nat × List WOp) → List (Nat × List ROp) → Prop}
    (nil : ∀ i, P i [] [])
    (cons : ∀ i e d ge gd f, fields[i]? = some f → mandKindOK f.shape e d = true → P (i + 1) ge gd →
      P i ((i, e) :: ge) ((i, d) :: gd)) :
    ∀ ge gd i, mandWF fields i ge gd = true → P i ge gd
  | [], [], i, _ => nil i
  | [], _ :: _, _, h | _ :: _, [], _, h => by simp [mandWF] at h
  | (a, e) :: ge, (b, d) :: gd, i, h => by
    simp only [mandWF, Bool.and_eq_true, beq_iff_eq] at h
    obtain ⟨⟨⟨ha, hb⟩, hf⟩, hrest⟩ := h
    rw [ha, hb]
    cases hfa : fields[i]? with
    | none => simp [hfa] at hf
    | some f =>
      simp only [hfa, Bool.and_eq_true] at hf
      exact cons i e d ge gd f hfa hf.2 (mandWF_induction nil cons ge gd _ hrest)

theorem optWF_induction {fields : List Field} {P : Nat → List (Nat × List WOp) → List DecCase → Prop}
    (nil : P fields.length [] [])
    (cons : ∀ i e c ge cs f, fields[i]? = some f → f.ptr = true → c.slot = i → optKindOK f.shape e c.ops = true →
      ieiRangeOK e c.iei = true → P (i + 1) ge cs → P i ((i, e) :: ge) (c :: cs)) :
    ∀ ge cs i, optWF fields i ge cs = true → P i ge cs
  | [], [], i, h => by simp only [optWF, beq_iff_eq] at h; exact h ▸ nil
  | [], _ :: _, _, h | _ :: _, [], _, h => by simp [optWF] at h
  | (a, e) :: ge, c :: cs, i, h => by
    simp only [optWF, Bool.and_eq_true, beq_iff_eq] at h
    obtain ⟨⟨⟨ha, hc⟩, hf⟩, hrest⟩ := h
    rw [ha]
    cases hfa : fields[i]? with
    | none => simp [hfa] at hf
    | some f =>
      simp only [hfa, Bool.and_eq_true] at hf
      exact cons i e c ge cs f hfa hf.1.1 hc hf.1.2 hf.2 (optWF_induction nil cons ge cs _ hrest)

theorem mandValsOK_cons {fields : List Field} {m : Msg} {i : Nat} {e : List WOp} {ge : List (Nat × List WOp)} {f : Field}
    (hf : fields[i]? = some f) (h : mandValsOK fields m ((i, e) :: ge) = true) :
    ∃ v, m[i]? = some (some v) ∧ mandValOK f.shape v e = true ∧ mandValsOK fields m ge = true := by
  simp only [mandValsOK, hf, Bool.and_eq_true] at h
  split at h <;> simp_all

theorem optValsOK_cons {fields : List Field} {m : Msg} {i : Nat} {e : List WOp} {ge : List (Nat × List WOp)}
    {c : DecCase} {cs : List DecCase} {f : Field}
    (hf : fields[i]? = some f) (h : optValsOK fields m ((i, e) :: ge) (c :: cs) = true) :
    ∃ o, m[i]? = some o ∧ (∀ v, o = some v → optValOK f.shape c.iei v e = true) ∧ optValsOK fields m ge cs = true := by
  simp only [optValsOK, hf, Bool.and_eq_true] at h
  split at h <;> simp_all

/-! ### the unconditional part -/

theorem mand_roundtrip (fields : List Field) (m : Msg) :
    ∀ (ge : List (Nat × List WOp)) (gd : List (Nat × List ROp)) (i : Nat),
    mandWF fields i ge gd = true → mandValsOK fields m ge = true →
    ∃ bs tr, encGroups fields m false ge = .ok bs ∧
      (∀ rest, decMand fields gd (bs ++ rest) = .ok (tr, rest)) ∧
      tr.map (·.1) = List.range' i ge.length ∧ (∀ p ∈ tr, m[p.1]? = some (some p.2)) := by
  refine mandWF_induction (fun _ _ => ⟨[], [], rfl, fun _ => rfl, rfl, by simp⟩) ?_
  intro i e d ge gd f hf hk ih hv
  obtain ⟨v, hm, hv1, hv2⟩ := mandValsOK_cons hf hv
  obtain ⟨bs, henc, hdec⟩ := mandIE_roundtrip f.shape e d v hk hv1
  obtain ⟨bs', tr', henc', hdec', hidx, hcons⟩ := ih hv2
  refine ⟨bs ++ bs', (i, v) :: tr', by simp [encGroups, hf, hm, henc, henc'], fun rest => ?_,
    by simp [hidx, List.range'_succ], ?_⟩
  · simp [decMand, hf, List.append_assoc, hdec 0 (bs' ++ rest), hdec' rest]
  · intro p hp
    rcases List.mem_cons.mp hp with rfl | hp
    · exact hm
    · exact hcons p hp

/-! ### the optional part -/

/-- `piece` is the encoding of the (well-formed) optional IE in field `i` of `m` -/
def PieceOf (L : Layout) (m : Msg) (i : Nat) (piece : Bytes) : Prop :=
  ∃ c ∈ L.cases, ∃ f e v, L.fields[i]? = some f ∧ c.slot = i ∧ m[i]? = some (some v) ∧
    optKindOK f.shape e c.ops = true ∧ ieiRangeOK e c.iei = true ∧ optValOK f.shape c.iei v e = true ∧
    encIE f.shape v e = .ok piece

theorem find?_of_nodupNat {α : Type} (key : α → Nat) : ∀ (l : List α) (a : α), nodupNat (l.map key) = true → a ∈ l →
    l.find? (fun x => key x == key a) = some a := by
  intro l
  induction l with
  | nil => intro a _ h; simp at h
  | cons b l ih =>
    intro a hn ha
    simp only [List.map_cons, nodupNat, Bool.and_eq_true, Bool.not_eq_true', List.contains_eq_mem, List.mem_map,
      decide_eq_false_iff_not, not_exists, not_and] at hn
    rcases List.mem_cons.mp ha with rfl | ha
    · simp
    · have hne : (key b == key a) = false := beq_false_of_ne fun h => hn.1 a ha h.symm
      rw [List.find?_cons, hne]
      exact ih a hn.2 ha

/-- the decode loop reads any sequence of well-formed IE encodings back, in the order given -/
theorem decLoop_pieces (L : Layout) (m : Msg) (hnd : nodupNat (L.cases.map (·.iei)) = true) :
    ∀ (ps : List (Nat × Bytes)), (∀ p ∈ ps, PieceOf L m p.1 p.2) →
    ∀ fuel, (ps.map (·.2)).flatten.length ≤ fuel →
    ∃ tr, decLoop L fuel (ps.map (·.2)).flatten = .ok tr ∧ tr.map (·.1) = ps.map (·.1) ∧
      ∀ q ∈ tr, m[q.1]? = some (some q.2) := by
  intro ps
  induction ps with
  | nil => intro _ fuel _; exact ⟨[], by simp [decLoop], rfl, by simp⟩
  | cons p ps ih =>
    intro hp fuel hfuel
    obtain ⟨i, piece⟩ := p
    obtain ⟨c, hc, f, e, v, hf, hslot, hm, hk, hr, hv, henc⟩ := hp (i, piece) (by simp)
    obtain ⟨b, body, henc', htmp, hdec⟩ := optIE_roundtrip f.shape e c.ops c.iei v hk hr hv
    rw [henc] at henc'
    cases henc'
    simp only [List.map_cons, List.flatten_cons, List.cons_append] at hfuel ⊢
    cases fuel with
    | zero => simp at hfuel
    | succ fuel =>
      simp at hfuel
      obtain ⟨tr, hloop, hidx, hcons⟩ := ih (fun q hq => hp q (by simp [hq])) fuel (by simp; omega)
      refine ⟨(i, v) :: tr, ?_, by simp [hidx], ?_⟩
      · have hfind : L.cases.find? (fun x => x.iei == c.iei) = some c := find?_of_nodupNat (·.iei) _ _ hnd hc
        simp only [decLoop, htmp, hfind, hslot, hf, hdec, hloop]
      · intro q hq
        simp at hq
        rcases hq with hq | hq
        · subst hq; exact hm
        · exact hcons q hq

/-- the optional part from field `i` on: the encode blocks write the pieces in order, every piece is the encoding of
    its field's IE, and every field is a pointer whose IE, when present, has a piece -/
theorem opt_pieces (L : Layout) (m : Msg) : ∀ (ge : List (Nat × List WOp)) (cs : List DecCase) (i : Nat),
    optWF L.fields i ge cs = true → optValsOK L.fields m ge cs = true → (∀ c ∈ cs, c ∈ L.cases) →
    encGroups L.fields m true ge = .ok ((optPieces L.fields m ge).map (·.2)).flatten ∧
    (∀ p ∈ optPieces L.fields m ge, PieceOf L m p.1 p.2) ∧
    ∀ j, i ≤ j → j < L.fields.length → (∃ f, L.fields[j]? = some f ∧ f.ptr = true) ∧
      ∀ v, m[j]? = some (some v) → j ∈ (optPieces L.fields m ge).map (·.1) := by
  refine optWF_induction (fun _ _ => ⟨rfl, by simp [optPieces], fun j h1 h2 => by omega⟩) ?_
  intro i e c ge cs f hf hptr hslot hk hr ih hv hcs
  obtain ⟨o, hm, hvo, hv2⟩ := optValsOK_cons hf hv
  obtain ⟨ih1, ih2, ih3⟩ := ih hv2 fun c' h => hcs c' (List.mem_cons_of_mem _ h)
  have hrest : ∀ j, i ≤ j → j < L.fields.length → j ≠ i → (∃ f, L.fields[j]? = some f ∧ f.ptr = true) ∧
      ∀ v, m[j]? = some (some v) → j ∈ (optPieces L.fields m ge).map (·.1) :=
    fun j h1 h2 h3 => ih3 j (by omega) h2
  cases o with
  | none =>
    refine ⟨by simp [encGroups, optPieces, hf, hm, ih1], by simpa only [optPieces, hf, hm] using ih2, fun j h1 h2 => ?_⟩
    simp only [optPieces, hf, hm]
    by_cases hj : j = i
    · subst hj; exact ⟨⟨f, hf, hptr⟩, fun v h => by simp [hm] at h⟩
    · exact hrest j h1 h2 hj
  | some v =>
    obtain ⟨b, body, henc, _, _⟩ := optIE_roundtrip f.shape e c.ops c.iei v hk hr (hvo v rfl)
    refine ⟨by simp [encGroups, optPieces, hf, hm, henc, ih1], ?_, fun j h1 h2 => ?_⟩ <;>
      simp only [optPieces, hf, hm, henc]
    · intro p hp
      rcases List.mem_cons.mp hp with rfl | hp
      · exact ⟨c, hcs c (List.mem_cons_self ..), f, e, v, hf, hslot, hm, hk, hr, hvo v rfl, henc⟩
      · exact ih2 p hp
    · by_cases hj : j = i
      · subst hj; exact ⟨⟨f, hf, hptr⟩, fun _ _ => by simp⟩
      · obtain ⟨h3, h4⟩ := hrest j h1 h2 hj
        exact ⟨h3, fun v h => by simpa using .inr (by simpa using h4 v h)⟩

/-- the mandatory part followed by ANY sequence of the message's own IE encodings that contains each of
    them at least once decodes to the message -/
theorem decode_pieces (L : Layout) (m : Msg) (hL : LayoutWF L) (hm : MsgWF L m) :
    ∃ mand, encGroups L.fields m false L.encMand = .ok mand ∧
      encode L m = .ok (mand ++ ((optPieces L.fields m L.encOpt).map (·.2)).flatten) ∧
      ∀ ps : List (Nat × Bytes), (∀ p ∈ ps, p ∈ optPieces L.fields m L.encOpt) →
        (∀ p ∈ optPieces L.fields m L.encOpt, p.1 ∈ ps.map (·.1)) →
        decode L (mand ++ (ps.map (·.2)).flatten) = .ok m := by
  simp only [LayoutWF, layoutWF, Bool.and_eq_true] at hL
  obtain ⟨⟨hw1, hw2⟩, hnd⟩ := hL
  simp only [MsgWF, msgWF, Bool.and_eq_true, beq_iff_eq] at hm
  obtain ⟨⟨hlen, hv1⟩, hv2⟩ := hm
  obtain ⟨mand, tr₁, henc1, hdec1, hidx1, hcons1⟩ := mand_roundtrip L.fields m L.encMand L.decMand 0 hw1 hv1
  obtain ⟨henc2, hp2, hptr⟩ := opt_pieces L m L.encOpt L.cases _ hw2 hv2 fun _ h => h
  refine ⟨mand, henc1, by simp [encode, henc1, henc2], ?_⟩
  intro ps hsub hcov
  obtain ⟨tr₂, hloop, hidx2, hcons2⟩ :=
    decLoop_pieces L m hnd ps (fun p hp => hp2 p (hsub p hp)) _ (Nat.le_refl _)
  simp only [decode, hdec1, hloop]
  congr 1
  apply assign_eq
  · simp [initMsg, hlen]
  · intro p hp
    rcases List.mem_append.mp hp with hp | hp
    · exact hcons1 p hp
    · exact hcons2 p hp
  · intro i hi
    simp only [List.map_append, List.mem_append, hidx1, hidx2]
    by_cases hik : i < L.encMand.length
    · exact .inr (.inl (by simp [List.mem_range']; omega))
    · obtain ⟨⟨f, hf, hfp⟩, hmem⟩ := hptr i (by omega) (by omega)
      cases hmi : m[i]? with
      | none => rw [List.getElem?_eq_none_iff] at hmi; omega
      | some o =>
        cases o with
        | none => left; simp [initMsg, List.getElem?_map, hf, hfp]
        | some v =>
          obtain ⟨p, hp, hpi⟩ := List.mem_map.mp (hmem v hmi)
          exact .inr (.inr (hpi ▸ hcov p hp))

theorem encode_decode_ok (L : Layout) (m : Msg) (hL : LayoutWF L) (hm : MsgWF L m) :
    ∃ bs, encode L m = .ok bs ∧ decode L bs = .ok m := by
  obtain ⟨mand, _, henc, hdec⟩ := decode_pieces L m hL hm
  exact ⟨_, henc, hdec _ (fun _ h => h) (fun p hp => List.mem_map_of_mem hp)⟩

/-! ### nas.go: PlainNasEncode / PlainNasDecode -/

theorem dispatchWF_layout (layouts : List Layout) (d : Dispatch) (h : dispatchWF layouts d = true)
    (t i : Nat) (hl : d.dec.lookup t = some i) :
    d.enc.lookup t = some i ∧ d.typeIdx < d.hdrLen ∧ 0 < d.typeIdx ∧ ∃ L, layouts[i]? = some L ∧ LayoutWF L := by
  simp only [dispatchWF, Bool.and_eq_true, decide_eq_true_eq, List.all_eq_true, beq_iff_eq] at h
  obtain ⟨⟨⟨⟨⟨⟨heq, hti⟩, hpos⟩, _⟩, _⟩, _⟩, hall⟩ := h
  obtain ⟨l₁, l₂, hdec, _⟩ := List.lookup_eq_some_iff.mp hl
  have := hall (t, i) (by simp [hdec])
  refine ⟨by rw [← heq]; exact hl, hti, hpos, ?_⟩
  simp at this
  cases hL : layouts[i]? with
  | none => simp [hL] at this
  | some L => simp [hL] at this; exact ⟨L, rfl, this.2.1⟩

/-- `PlainNasDecode` on an octet string whose EPD is that of dispatch `d` and that holds a whole header: the
    message type octet selects the layout -/
theorem plainDecode_dispatch (C : Codec) (gsm : Bool) (d : Dispatch) (hd : d = if gsm then C.gsm else C.gmm)
    (hne : C.gmm.epd ≠ C.gsm.epd) (b : UInt8) (rest : Bytes) (he : b.toNat = d.epd)
    (hlen : d.hdrLen ≤ (b :: rest).length) :
    plainDecode C (b :: rest) =
      match ((b :: rest).take d.hdrLen)[d.typeIdx]? with
      | none => .error .panic
      | some t =>
        match d.dec.lookup t.toNat with
        | none => .error .error
        | some i =>
          match C.layouts[i]? with
          | none => .error .panic
          | some L =>
            match decode L (b :: rest) with
            | .error e => .error e
            | .ok m => .ok { gsm := gsm, hdr := (b :: rest).take d.hdrLen, idx := i, body := m } := by
  have hread : (readN d.hdrLen (b :: rest)).1 = some ((b :: rest).take d.hdrLen) := by
    unfold readN; rw [if_pos hlen]
  cases gsm with
  | false =>
    simp only [Bool.false_eq_true, if_false] at hd
    subst hd
    simp only [plainDecode]
    rw [if_pos he]
    simp only [hread]
    rfl
  | true =>
    simp only [if_true] at hd
    subst hd
    have : ¬ (b.toNat = C.gmm.epd) := by rw [he]; exact fun h => hne h.symm
    simp only [plainDecode]
    rw [if_neg this, if_pos he]
    simp only [hread]
    rfl

/-- nas.go around one message: octets that `Encode<Msg>` wrote and `Decode<Msg>` reads back, whose header selects the
    message's layout in dispatch `d`, go through `PlainNasDecode` and `PlainNasEncode` unchanged (nothing is asked of the
    message itself) -/
theorem plain_of_encode (C : Codec) (gsm : Bool) (d : Dispatch) (hd : d = if gsm then C.gsm else C.gmm)
    (hw : dispatchWF C.layouts d = true) (hne : C.gmm.epd ≠ C.gsm.epd)
    {L : Layout} {m : Msg} {i : Nat} {b t : UInt8} {rest : Bytes}
    (hl : d.dec.lookup t.toNat = some i) (hL : C.layouts[i]? = some L)
    (henc : encode L m = .ok (b :: rest)) (hdec : decode L (b :: rest) = .ok m)
    (he : b.toNat = d.epd) (hlen : d.hdrLen ≤ (b :: rest).length) (ht : (b :: rest)[d.typeIdx]? = some t) :
    plainDecode C (b :: rest) = .ok ⟨gsm, (b :: rest).take d.hdrLen, i, m⟩ ∧
    plainEncode C ⟨gsm, (b :: rest).take d.hdrLen, i, m⟩ = .ok (b :: rest) := by
  obtain ⟨henc', hti, _, _⟩ := dispatchWF_layout C.layouts d hw t.toNat i hl
  have htake : ((b :: rest).take d.hdrLen)[d.typeIdx]? = some t := by
    rw [List.getElem?_take]; simp [hti, ht]
  refine ⟨?_, ?_⟩
  · rw [plainDecode_dispatch C gsm d hd hne b rest he hlen]
    simp only [htake, hl, hL, hdec]
  · simp only [plainEncode, ← hd, htake, henc', hL, henc]
    simp

end Stgutg.Nas
