import Stgutg.Gen.PureMilenage
import Stgutg.Model.Milenage
import Stgutg.Proofs.GenTieBase
import Stgutg.Proofs.Milenage
/-!
  What the tie theorems of Proofs/GenTieMilenage.lean (generated `Gen/PureMilenage.lean` = hand model `Model/Milenage.lean`)
  stand on: an invariant rule for the counted loop `Go.forLt` and, by it, the three loop shapes of milenage.go (xor into a
  fresh buffer, xor in place, scatter with a shift), the library record over the hand model's cipher parameter, and the tie
  of `os_memcmp`.
-/
namespace Stgutg.Proofs.GenTie.Milenage
open Stgutg Stgutg.Gen Stgutg.Proofs.GenTie
open Stgutg.Model.Milenage
open Stgutg.Proofs.Hex (xorBytes_length)
open Stgutg.Proofs.Milenage (xorBytes_take take_full scatter_length scatterFold_get scatterFold_eq)

/-- Inside this namespace `iadd_nat` is this lemma; the two-operand one of GenTieBase has to be written `GenTie.iadd_nat`. -/
theorem iadd_nat (j : Nat) (h : j < 1000) : Go.iadd (j : Int) 1 = ((j + 1 : Nat) : Int) := by
  rw [iadd_of_range] <;> omega

theorem set_at_pre {α : Type} (pre suf : List α) (s v : α) :
    (pre ++ s :: suf).set pre.length v = pre ++ v :: suf := by
  induction pre with
  | nil => rfl
  | cons p pre ih => simp [ih]

theorem idx_at_pre {α : Type} (pre suf : List α) (s : α) :
    Go.idx (pre ++ s :: suf) (pre.length : Int) = .ok s :=
  idx_some _ _ _ (by simp)

theorem set_at_pre' {α : Type} (pre suf : List α) (s v : α) :
    Go.set (pre ++ s :: suf) (pre.length : Int) v = .ok (pre ++ v :: suf) := by
  rw [set_nat, if_pos (by simp), set_at_pre]

theorem xorBytes_cons (x y : UInt8) (xs ys : Bytes) : xorBytes (x :: xs) (y :: ys) = (x ^^^ y) :: xorBytes xs ys := rfl

/-! ### counted loops -/

/-- Invariant rule for `for i := j; i < hi; i++ { body }` with fuel for the remaining rounds: `I j s` holds of the state `s`
    before round `j`; a round either keeps the invariant or fails the way the announced outcome `r` does; at the end `r` is
    the state reached. The translator writes the bound as an `Int` expression `hi` and the start as `(0 : Int)`. -/
theorem forLt_inv {σ : Type} (body : Int → σ → Res σ) (hi : Int) (n : Nat) (hn : hi = n) (hhi : n < 2 ^ 62)
    (I : Nat → σ → Prop) (r : Res σ)
    (step : ∀ j s, j < n → I j s → (∃ s', body j s = .ok s' ∧ I (j + 1) s') ∨ ∃ e, body j s = .error e ∧ r = .error e)
    (exit : ∀ s, I n s → r = .ok s) (fuel j : Nat) (s : σ) (hj : j ≤ n) (hf : n - j < fuel) (hI : I j s) :
    Go.forLt body hi fuel j s = r := by
  subst hn
  refine forLt_ind (C := fun fuel k => ∀ s, I k s → Go.forLt body n fuel k s = r) (fun fuel s hI => ?_)
    (fun fuel k hk ih s hI => ?_) fuel j hj hf s hI
  · rw [Go.forLt, if_neg (Int.lt_irrefl _), exit s hI]
  · rw [Go.forLt, if_pos (by omega)]
    rcases step k s hk hI with ⟨s', hb, hI'⟩ | ⟨e, hb, hr⟩
    · rw [hb, ok_bind, iadd_one k (by omega)]
      exact ih s' hI'
    · rw [hb, hr, error_bind]

/-! The three loop bodies of milenage.go, as the translator writes them. -/

/-- `out[i] = a[i] ^ b[i]` -/
abbrev xorStep (a b : Bytes) (i : Int) (out : Bytes) : Res Bytes :=
  Go.idx a i >>= fun x => Go.idx b i >>= fun y => Go.set out i (x ^^^ y) >>= fun t => .ok t

/-- `out[i] ^= a[i]` -/
abbrev xorIntoStep (a : Bytes) (i : Int) (out : Bytes) : Res Bytes :=
  Go.idx a i >>= fun x => Go.idx out i >>= fun y => Go.set out i (y ^^^ x) >>= fun t => .ok t

/-- `out[(i+s)%16] = a[i] ^ b[i]` -/
abbrev scatterStep (a b : Bytes) (sI : Int) (i : Int) (out : Bytes) : Res Bytes :=
  Go.idx a i >>= fun x => Go.idx b i >>= fun y => Go.set out (Go.imodc (Go.iadd i sI) (16 : Int)) (x ^^^ y) >>= fun t => .ok t

/-- writing `r[j]` at `j` extends the written prefix by one -/
theorem take_drop_set {α : Type} (r out : List α) (j : Nat) (hr : j < r.length) (ho : j < out.length) :
    (r.take j ++ out.drop j).set j r[j] = r.take (j + 1) ++ out.drop (j + 1) := by
  have hl : (r.take j).length = j := List.length_take_of_le (by omega)
  rw [List.set_append_right _ _ (by omega), hl, Nat.sub_self, List.drop_eq_getElem_cons ho, List.set_cons_zero,
    List.take_succ_eq_append_getElem hr, List.append_assoc, List.singleton_append]

theorem take_drop_get {α : Type} (r out : List α) (j : Nat) (hr : j ≤ r.length) (ho : j < out.length) :
    (r.take j ++ out.drop j)[j]? = some out[j] := by
  have hl : (r.take j).length = j := List.length_take_of_le hr
  rw [List.getElem?_append_right (by omega), hl, Nat.sub_self, List.getElem?_drop, Nat.add_zero, List.getElem?_eq_getElem ho]

/-- `for i := 0; i < n; i++ { out[i] = a[i] ^ b[i] }`, for slices of any length: before round `j` the first `j` octets are
    written and both sources have proved to be at least `j` long -/
theorem xorLoop (a b out : Bytes) (hi : Int) (n : Nat) (hn : hi = n) (hhi : n < 2 ^ 62) (ho : n ≤ out.length) :
    Go.forLt (xorStep a b)
        hi (Int.toNat (hi - (0 : Int)) + 1) (0 : Int) out
      = if a.length < n ∨ b.length < n then .error .panic else .ok (xorBytes (a.take n) (b.take n) ++ out.drop n) := by
  refine forLt_inv _ hi n hn hhi (fun j s => j ≤ a.length ∧ j ≤ b.length ∧ s = (xorBytes a b).take j ++ out.drop j) _
    ?_ ?_ _ 0 out (Nat.zero_le _) (by omega) ⟨by omega, by omega, rfl⟩
  · rintro j s hj ⟨ha, hb, rfl⟩
    unfold xorStep
    by_cases h : j < a.length ∧ j < b.length
    · have hr : j < (xorBytes a b).length := by rw [xorBytes_length]; omega
      refine .inl ⟨_, ?_, by omega, by omega, take_drop_set _ out j hr (by omega)⟩
      rw [idx_nat a j h.1, ok_bind, idx_nat b j h.2, ok_bind, set_nat, if_pos (by simp; omega), ok_bind]
      simp [xorBytes]
    · refine .inr ⟨.panic, ?_, if_pos (by omega)⟩
      by_cases h' : j < a.length
      · rw [idx_nat a j h', ok_bind, idx_nat_oob b j (by omega), error_bind]
      · rw [idx_nat_oob a j (by omega), error_bind]
  · rintro s ⟨ha, hb, rfl⟩
    rw [if_neg (by omega), xorBytes_take]

/-- …into a buffer of exactly `n` octets -/
theorem xorLoop_fit (a b out : Bytes) (hi : Int) (n : Nat) (hn : hi = n) (hhi : n < 2 ^ 62) (ho : out.length = n) :
    Go.forLt (xorStep a b)
        hi (Int.toNat (hi - (0 : Int)) + 1) (0 : Int) out
      = if a.length < n ∨ b.length < n then .error .panic else .ok (xorBytes (a.take n) (b.take n)) := by
  rw [xorLoop a b out hi n hn hhi (by omega), List.drop_eq_nil_of_le (by omega), List.append_nil]

theorem xor16Loop (a b out : Bytes) (ho : out.length = 16) :
    Go.forLt (xorStep a b)
        (16 : Int) (Int.toNat ((16 : Int) - (0 : Int)) + 1) (0 : Int) out
      = if a.length < 16 ∨ b.length < 16 then .error .panic else .ok (xor16 a b) :=
  xorLoop_fit a b out 16 16 rfl (by decide) ho

/-- `for i := 0; i < n; i++ { out[i] ^= a[i] }` on a buffer of `n` octets -/
theorem xorIntoLoop (a out : Bytes) (hi : Int) (n : Nat) (hn : hi = n) (hhi : n < 2 ^ 62) (ha : n ≤ a.length)
    (ho : out.length = n) :
    Go.forLt (xorIntoStep a)
        hi (Int.toNat (hi - (0 : Int)) + 1) (0 : Int) out
      = .ok (xorBytes out (a.take n)) := by
  refine forLt_inv _ hi n hn hhi (fun j s => s = (xorBytes out a).take j ++ out.drop j) _ ?_ ?_ _ 0 out (Nat.zero_le _)
    (by omega) rfl
  · rintro j s hj rfl
    unfold xorIntoStep
    have hr : j < (xorBytes out a).length := by rw [xorBytes_length]; omega
    refine .inl ⟨_, ?_, take_drop_set _ out j hr (by omega)⟩
    rw [idx_nat a j (by omega), ok_bind, Go.idx, if_pos (by omega), Int.toNat_natCast,
      take_drop_get _ out j (by omega) (by omega)]
    simp only [ok_bind]
    rw [set_nat, if_pos (by simp; omega), ok_bind]
    simp [xorBytes]
  · rintro s rfl
    rw [xorBytes_take, take_full ho, List.drop_eq_nil_of_le (by omega), List.append_nil]

theorem xor16_getD (a b : Bytes) (j : Nat) (hj : j < 16) (ha : 16 ≤ a.length) (hb : 16 ≤ b.length) :
    (xor16 a b).getD j 0 = a[j] ^^^ b[j] := by
  simp [xor16, xorBytes, List.getD_eq_getElem?_getD, List.getElem?_zipWith, hj,
    List.getElem?_eq_getElem (show j < a.length by omega), List.getElem?_eq_getElem (show j < b.length by omega)]

/-- `for i := 0; i < 16; i++ { out[(i+s)%16] = a[i] ^ b[i] }` on a 16-octet buffer: the state before round `j` is the first
    `j` rounds of the model's `scatter` run on the buffer as it was; whatever it held, after 16 rounds nothing of it is left
    (`scatterFold_eq`), so the result is the model's, which starts from zeros -/
theorem scatterLoop (a b out : Bytes) (sI : Int) (s : Nat) (hs : sI = s) (hs62 : s < 2 ^ 62) (ha : 16 ≤ a.length)
    (hb : 16 ≤ b.length) (ho : out.length = 16) :
    Go.forLt (scatterStep a b sI)
        (16 : Int) (Int.toNat ((16 : Int) - (0 : Int)) + 1) (0 : Int) out
      = .ok (scatter s (xor16 a b)) := by
  subst hs
  refine forLt_inv _ 16 16 rfl (by decide)
    (fun j st => st = (List.range j).foldl (fun out i => out.set ((i + s) % 16) ((xor16 a b).getD i 0)) out) _ ?_ ?_ _ 0 out
    (Nat.zero_le _) (by decide) rfl
  · rintro j st hj rfl
    refine .inl ⟨_, ?_, rfl⟩
    unfold scatterStep
    rw [idx_nat a j (by omega), ok_bind, idx_nat b j (by omega), ok_bind, iadd_of_range (by omega) (by omega)]
    show Go.set _ (((j + s : Nat) : Int).tmod ((16 : Nat) : Int)) _ >>= _ = _
    rw [← Int.ofNat_tmod, set_nat, if_pos (by rw [(scatterFold_get _ s out ho j (by omega)).1]; omega), ok_bind,
      List.range_succ, List.foldl_append, List.foldl_cons, List.foldl_nil, xor16_getD a b j hj ha hb]
  · intro st hst
    rw [hst, scatter, scatterFold_eq _ _ _ ho, scatterFold_eq _ _ _ (List.length_replicate ..)]

/-! ### nil-able out-parameters, copy into a buffer -/

theorem len6 {α : Type} {l : List α} (h : l.length = 6) : ∃ a0 a1 a2 a3 a4 a5, l = [a0, a1, a2, a3, a4, a5] := by
  match l, h with
  | [a0, a1, a2, a3, a4, a5], _ => exact ⟨a0, a1, a2, a3, a4, a5, rfl⟩

theorem len2 {α : Type} {l : List α} (h : l.length = 2) : ∃ a0 a1, l = [a0, a1] := by
  match l, h with
  | [a0, a1], _ => exact ⟨a0, a1, rfl⟩

theorem optOut_optBytes (o : Option Bytes) : Go.optOut o.isNone (Go.optBytes o) = o := by cases o <;> rfl

theorem optOut_map (o : Option Bytes) (v : Bytes) :
    Go.optOut o.isNone (Go.optBytes (o.map fun _ => v)) = o.map fun _ => v := by cases o <;> rfl

theorem xor16_len {a b : Bytes} (ha : 16 ≤ a.length) (hb : 16 ≤ b.length) : (xor16 a b).length = 16 := by
  unfold xor16
  rw [xorBytes_length, List.length_take, List.length_take]
  omega

theorem xorLast_length (t : Bytes) (c : UInt8) : (xorLast t c).length = t.length := by simp [xorLast]

theorem xorLast_step {β : Type} (t : Bytes) (c : UInt8) (ht : t.length = 16) (f : Bytes → Res β) :
    (Go.idx t (15 : Int) >>= fun v => Go.set t (15 : Int) (v ^^^ c) >>= f) = f (xorLast t c) := by
  obtain ⟨a0, a1, a2, a3, a4, a5, a6, a7, a8, a9, a10, a11, a12, a13, a14, a15, rfl⟩ := Hex.len16 ht
  rfl

theorem copyAt_full (x src : Bytes) (h : x.length = src.length) : Go.copyAt x (0 : Int) src = .ok src := by
  have c : 0 ≤ (0 : Int) ∧ (0 : Int) ≤ (x.length : Int) := by omega
  rw [Go.copyAt, if_pos c]
  show Except.ok ([] ++ Go.copy x src) = Except.ok src
  rw [copy_full x src h, List.nil_append]

/-- `copy(x[a:], src)` where `src` fits into `x[a:]` -/
theorem copyAt_nat {α : Type} (x src : List α) (aI : Int) (a : Nat) (ha : aI = a) (h : a + src.length ≤ x.length) :
    Go.copyAt x aI src = .ok (x.take a ++ src ++ x.drop (a + src.length)) := by
  subst ha
  have c : 0 ≤ (a : Int) ∧ (a : Int) ≤ (x.length : Int) := by omega
  have hsrc : src.take (x.drop a).length = src := List.take_of_length_le (by rw [List.length_drop]; omega)
  rw [Go.copyAt, if_pos c, Go.copy, Int.toNat_natCast, hsrc, List.drop_drop, List.append_assoc]

theorem tmp2_1 (S : Bytes) (hS : S.length = 6) :
    Go.copyAt (List.replicate 16 (0 : UInt8)) (0 : Int) S = .ok (S ++ List.replicate 10 0) := by
  obtain ⟨s0, s1, s2, s3, s4, s5, rfl⟩ := len6 hS
  rfl

theorem tmp2_2 (S A : Bytes) (hS : S.length = 6) (hA : A.length = 2) :
    Go.copyAt (S ++ List.replicate 10 (0 : UInt8)) (6 : Int) A = .ok (S ++ A ++ List.replicate 8 0) := by
  obtain ⟨s0, s1, s2, s3, s4, s5, rfl⟩ := len6 hS
  obtain ⟨a0, a1, rfl⟩ := len2 hA
  rfl

theorem tmp2_3 (S A : Bytes) (hS : S.length = 6) (hA : A.length = 2) :
    Go.slice (S ++ A ++ List.replicate 8 (0 : UInt8)) (0 : Int) (8 : Int) = .ok (S ++ A) := by
  obtain ⟨s0, s1, s2, s3, s4, s5, rfl⟩ := len6 hS
  obtain ⟨a0, a1, rfl⟩ := len2 hA
  rfl

theorem tmp2_4 (S A : Bytes) (hS : S.length = 6) (hA : A.length = 2) :
    Go.copyAt (S ++ A ++ List.replicate 8 (0 : UInt8)) (8 : Int) (S ++ A) = .ok (S ++ A ++ (S ++ A)) := by
  obtain ⟨s0, s1, s2, s3, s4, s5, rfl⟩ := len6 hS
  obtain ⟨a0, a1, rfl⟩ := len2 hA
  rfl

/-- `if p != nil { copy(p[0:], v) }` into a nil or exactly fitting buffer -/
theorem out_buf {β : Type} (o : Option Bytes) (v : Bytes) (n : Nat) (ho : ∀ b, o = some b → b.length = n) (hv : v.length = n)
    (f : Bytes → Res β) :
    ((if (!o.isNone) then (Go.copyAt (Go.optBytes o) (0 : Int) v >>= fun t => .ok t) else .ok (Go.optBytes o)) >>= f)
      = f (Go.optBytes (o.map fun _ => v)) := by
  cases o with
  | none => rfl
  | some b =>
    have e : Go.copyAt b (0 : Int) v = .ok v := copyAt_full b v (by rw [ho b rfl, hv])
    simp [Go.optBytes, e]

/-! ### the library record, instantiated with the hand model's cipher parameter -/

/-- the assumption on the cipher parameter: 16-octet blocks to 16-octet blocks, for the key lengths aes.NewCipher accepts -/
def AesLen (P : Prims) : Prop :=
  ∀ k x : Bytes, (k.length = 16 ∨ k.length = 24 ∨ k.length = 32) → x.length = 16 → (P.aes k x).length = 16

/-- `aes.NewCipher` / `cipher.Block` over `P.aes`: a block is its key (nil when NewCipher failed); `Encrypt` panics on a short
    source or destination ("input/output not full block") and otherwise overwrites the first 16 octets of dst -/
def libOf (P : Prims) : Pure.Milenage.Lib where
  Block := Option Bytes
  aesNewCipher := fun k => if k.length = 16 ∨ k.length = 24 ∨ k.length = 32 then .ok (some k, false) else .ok (none, true)
  blockSize := fun b => match b with
    | some _ => .ok 16
    | none => .error .panic
  encrypt := fun b dst src => match b with
    | none => .error .panic
    | some k => if src.length < 16 ∨ dst.length < 16 then .error .panic else .ok (P.aes k (src.take 16) ++ dst.drop 16)
  deepEqualBytes := fun a b => decide (a = b)

theorem lib_new_ok (P : Prims) {k : Bytes} (hv : k.length = 16 ∨ k.length = 24 ∨ k.length = 32) :
    (libOf P).aesNewCipher k = .ok (some k, false) := by simp [libOf, hv]
theorem lib_new_bad (P : Prims) {k : Bytes} (hv : ¬ (k.length = 16 ∨ k.length = 24 ∨ k.length = 32)) :
    (libOf P).aesNewCipher k = .ok (none, true) := by simp [libOf, hv]
theorem nc_ok {k : Bytes} (hv : k.length = 16 ∨ k.length = 24 ∨ k.length = 32) : newCipher k = .ok () := by
  simp [newCipher, hv]
theorem nc_bad {k : Bytes} (hv : ¬ (k.length = 16 ∨ k.length = 24 ∨ k.length = 32)) : newCipher k = .error .error := by
  simp [newCipher, hv]
theorem lib_bs (P : Prims) (k : Bytes) : (libOf P).blockSize (some k) = .ok 16 := rfl
theorem make16 : Go.make (0 : UInt8) (16 : Int) = .ok (List.replicate 16 0) := rfl

/-- `Encrypt` into a 16-octet destination reads the first block of a longer source -/
theorem lib_enc_take (P : Prims) (k dst src : Bytes) (hs : 16 ≤ src.length) (hd : dst.length = 16) :
    (libOf P).encrypt (some k) dst src = .ok (P.aes k (src.take 16)) := by
  have h : ¬ (src.length < 16 ∨ dst.length < 16) := by omega
  show (if src.length < 16 ∨ dst.length < 16 then Except.error Err.panic else Except.ok (P.aes k (src.take 16) ++ dst.drop 16)) = _
  rw [if_neg h, List.drop_eq_nil_of_le (by omega), List.append_nil]

theorem lib_enc (P : Prims) (k dst src : Bytes) (hs : src.length = 16) (hd : dst.length = 16) :
    (libOf P).encrypt (some k) dst src = .ok (P.aes k src) := by
  rw [lib_enc_take P k dst src (by omega) hd, take_full hs]

theorem lib_enc_short (P : Prims) (k dst src : Bytes) (hs : src.length < 16) :
    (libOf P).encrypt (some k) dst src = .error .panic := by
  have h : src.length < 16 ∨ dst.length < 16 := Or.inl hs
  show (if src.length < 16 ∨ dst.length < 16 then Except.error Err.panic else Except.ok (P.aes k (src.take 16) ++ dst.drop 16)) = _
  rw [if_pos h]

/-! ### os_memcmp -/

/-- the loop of the translated `os_memcmp` followed by the `return 0` after it -/
theorem memcmp_loop (a b : Bytes) (N : Nat) (hN : N < 2 ^ 62) :
    ∀ (m j : Nat), j + m = N →
      (Go.forLtRet (ρ := Int) (fun i (_ : Unit) =>
          Go.idx a i >>= fun t2 =>
          Go.idx b i >>= fun t3 =>
          if (decide (t2 < t3)) then
            .ok (Go.Flow.ret () (-1 : Int))
          else
            Go.idx a i >>= fun t4 =>
            Go.idx b i >>= fun t5 =>
            if (decide (t4 > t5)) then
              .ok (Go.Flow.ret () (1 : Int))
            else
              .ok (Go.Flow.next ())) (N : Int) (m + 1) (j : Int) () >>= fun t6 =>
        match t6 with
        | .ret _ t8 => .ok t8
        | .next _ => .ok (0 : Int))
      = osMemcmpFrom a b m j := by
  intro m
  induction m with
  | zero =>
    intro j h
    have hnl : ¬ ((j : Int) < (N : Int)) := by omega
    unfold Go.forLtRet
    simp [hnl, osMemcmpFrom]
  | succ m ih =>
    intro j h
    have hlt : (j : Int) < (N : Int) := by omega
    have hi := iadd_one j (by omega)
    unfold Go.forLtRet
    simp only [hlt, if_true]
    rw [osMemcmpFrom]
    cases hx : a[j]? with
    | none => simp [idx_none a j hx]
    | some x =>
      cases hy : b[j]? with
      | none => simp [idx_some a j x hx, idx_none b j hy]
      | some y =>
        simp only [idx_some a j x hx, idx_some b j y hy, ok_bind]
        by_cases h1 : x < y
        · simp [h1]
        · by_cases h2 : x > y
          · simp [h1, h2]
          · have := ih (j + 1) (by omega)
            simp only [h1, h2, decide_false, if_false, ok_bind, Bool.false_eq_true, hi]
            exact this

/-- **Tie.** the translated `os_memcmp` is the hand model, for all slices and every count (a negative count compares nothing) -/
theorem os_memcmp_eq (a b : Bytes) (num : Int) (h : num < 2 ^ 62) :
    Pure.Milenage.os_memcmp a b num = Model.Milenage.os_memcmp a b num.toNat := by
  unfold Pure.Milenage.os_memcmp Model.Milenage.os_memcmp
  by_cases hn : 0 ≤ num
  · obtain ⟨N, rfl⟩ := Int.eq_ofNat_of_zero_le hn
    have := memcmp_loop a b N (by omega) N 0 (by omega)
    simp only [Int.sub_zero, Int.toNat_natCast] at this ⊢
    exact this
  · have h0 : num.toNat = 0 := by omega
    have h1 : Int.toNat (num - 0) + 1 = 1 := by omega
    have hnl : ¬ ((0 : Int) < num) := by omega
    rw [h0, h1]
    unfold Go.forLtRet
    simp [hnl, osMemcmpFrom]

end Stgutg.Proofs.GenTie.Milenage
