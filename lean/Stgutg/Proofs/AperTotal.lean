/-
  C14 helper lemmas: the decoder model never panics and never runs out of fuel.
  `Eats k m r` : at reader state `r`, `m` returns a value or an *error* (never panic / hang), and a value only after
  consuming at least `k` bits. `DOK m` is `Eats 0 m` at every reader state; `Eats 1` is what makes the loops and the
  element lists of the cost proofs terminate within the input.
  `eats_X` is the statement for the decoder function `X` (with the `k` it is sure to consume), built with `Eats.bind`
  (`bind_l`, `bind_r`, `map`) from the reader primitives up; `sizeOK` / `envOK` are what the proof asks of parameters
  and schema. The cases of `parseField` are the equations `decField_ptr` … `decField_leaf` over `entry` (the
  "sequence truncated" test); the round-trip and cost proofs start from the same equations.
-/
import Stgutg.Model.AperDec

namespace Stgutg.Proofs.AperTotal
open Stgutg Stgutg.Aper

def Good {α : Type} : Res α → Prop
  | .ok _ => True
  | .error e => e = .error

@[simp] theorem good_ok {α : Type} (a : α) : Good (.ok a : Res α) := trivial
@[simp] theorem good_error {α : Type} (e : Err) : Good (.error e : Res α) ↔ e = .error := Iff.rfl

def DOK {α : Type} (m : D α) : Prop :=
  ∀ r, Good (m r) ∧ ∀ a r', m r = .ok (a, r') → r'.len ≤ r.len

theorem D_pure_apply {α : Type} (a : α) (r : Rd) : (pure a : D α) r = .ok (a, r) := rfl
theorem D_bind_apply {α β : Type} (m : D α) (f : α → D β) (r : Rd) :
    (m >>= f) r = match m r with | .ok (a, r') => f a r' | .error e => .error e := rfl
theorem D_get_apply (r : Rd) : D.get r = .ok (r, r) := rfl

/-- a bind that succeeds is two successes -/
theorem D_bind_ok {α β : Type} {m : D α} {f : α → D β} {r : Rd} {b : β} {r' : Rd} (h : (m >>= f) r = .ok (b, r')) :
    ∃ a r1, m r = .ok (a, r1) ∧ f a r1 = .ok (b, r') := by
  rw [D_bind_apply] at h
  cases hm : m r with
  | error e => rw [hm] at h; cases h
  | ok x => obtain ⟨a, r1⟩ := x; rw [hm] at h; exact ⟨a, r1, rfl, h⟩

def Eats {α : Type} (k : Nat) (m : D α) (r : Rd) : Prop :=
  Good (m r) ∧ ∀ a r', m r = .ok (a, r') → r'.len + k ≤ r.len

theorem DOK_iff {α : Type} {m : D α} : DOK m ↔ ∀ r, Eats 0 m r := Iff.rfl

section
variable {α β : Type} {m : D α} {r : Rd} {j k : Nat}

theorem Eats.mono (h : Eats k m r) (hjk : j ≤ k) : Eats j m r :=
  ⟨h.1, fun a r' e => Nat.le_trans (Nat.add_le_add_left hjk _) (h.2 a r' e)⟩

theorem eats_error (h : m r = .error .error) : Eats k m r := by
  rw [Eats, h]; exact ⟨rfl, fun _ _ e => nomatch e⟩

theorem eats_ok {a : α} {r1 : Rd} (h : m r = .ok (a, r1)) (hl : r1.len + k ≤ r.len) : Eats k m r := by
  rw [Eats, h]; exact ⟨trivial, fun _ _ e => by cases e; exact hl⟩

theorem eats_pure (a : α) : Eats 0 (pure a : D α) r := eats_ok rfl (Nat.le_refl _)
theorem eats_fail : Eats k (D.fail .error : D α) r := eats_error rfl

/-- the continuation only has to behave on the reader states the first part can leave -/
theorem Eats.bind {f : α → D β} (hm : Eats j m r) (hf : ∀ a r1, r1.len + j ≤ r.len → Eats k (f a) r1) :
    Eats (j + k) (m >>= f) r := by
  rw [Eats, D_bind_apply]
  cases hmr : m r with
  | error e => have := hm.1; rw [hmr] at this; cases this; exact ⟨rfl, fun _ _ e => nomatch e⟩
  | ok p =>
    obtain ⟨a, r1⟩ := p
    have h1 := hm.2 a r1 hmr
    exact ⟨(hf a r1 h1).1, fun b r' e => by have := (hf a r1 h1).2 b r' e; omega⟩

theorem Eats.bind_l {f : α → D β} (hm : Eats k m r) (hf : ∀ a r1, r1.len + k ≤ r.len → Eats 0 (f a) r1) :
    Eats k (m >>= f) r := hm.bind hf

theorem Eats.bind_r {f : α → D β} (hm : Eats 0 m r) (hf : ∀ a r1, r1.len ≤ r.len → Eats k (f a) r1) :
    Eats k (m >>= f) r := (hm.bind hf).mono (Nat.le_of_eq (Nat.zero_add k).symm)

theorem Eats.map {g : α → β} (hm : Eats k m r) : Eats k (m >>= fun a => pure (g a)) r :=
  hm.bind_l fun _ _ _ => eats_pure _

theorem eats_ite {c : Prop} [Decidable c] {a b : D α} (ha : Eats k a r) (hb : Eats k b r) :
    Eats k (if c then a else b) r := by
  split <;> assumption

theorem Eats.get_bind {g : Rd → D α} (h : Eats k (g r) r) : Eats k (D.get >>= g) r := h

end

/-! ### the reader primitives -/

theorem getBits_ok {n : Nat} {r : Rd} {a : Bits} {r' : Rd} (h : getBits n r = .ok (a, r')) :
    n ≠ 0 ∧ a = r.rest.take n ∧ r'.len + n = r.len := by
  unfold getBits at h
  split at h
  · cases h
  · split at h
    · cases h
    · cases h; exact ⟨by assumption, rfl, by dsimp only; omega⟩

theorem takeOctets_ok {n : Nat} {r : Rd} {a : Bytes} {r' : Rd} (h : takeOctets n r = .ok (a, r')) :
    a = bitsToBytes (r.rest.take (8 * n)) ∧ r'.len + 8 * n = r.len := by
  unfold takeOctets at h
  split at h
  · cases h
  · cases h; exact ⟨rfl, by dsimp only; omega⟩

theorem eats_getBits (n : Nat) (hn : n ≠ 0) (r : Rd) : Eats n (getBits n) r := by
  by_cases h : n > r.len
  · exact eats_error (by simp only [getBits, hn, h, if_true, if_false])
  · exact eats_ok (by simp only [getBits, hn, h, if_false]; rfl) (by dsimp only; omega)

theorem eats_getBitsValue (n : Nat) (hn : n ≠ 0) (r : Rd) : Eats n (getBitsValue n) r :=
  (eats_getBits n hn r).map

theorem eats_takeOctets (n : Nat) (r : Rd) : Eats (8 * n) (takeOctets n) r := by
  by_cases h : 8 * n > r.len
  · exact eats_error (by simp only [takeOctets, h, if_true])
  · exact eats_ok (by simp only [takeOctets, h, if_false]; rfl) (by dsimp only; omega)

theorem eats_parseAlignBits (r : Rd) : Eats 0 parseAlignBits r := by
  by_cases h : r.pos % 8 > 0
  · have hv := eats_getBitsValue (8 - r.pos % 8) (by omega) r
    cases hx : getBitsValue (8 - r.pos % 8) r with
    | error e => have := hv.1; rw [hx] at this; cases this; exact eats_error (by simp only [parseAlignBits, h, if_true, hx])
    | ok p =>
      by_cases hz : p.1 ≠ 0
      · exact eats_error (by simp only [parseAlignBits, h, if_true, hx]; exact if_pos hz)
      · exact eats_ok (a := ()) (r1 := p.2) (by simp only [parseAlignBits, h, if_true, hx]; exact if_neg hz)
          (Nat.le_trans (Nat.le_add_right _ _) (hv.2 p.1 p.2 hx))
  · exact eats_ok (by simp only [parseAlignBits, h, if_false]; rfl) (Nat.le_refl _)

theorem ite_ne_zero {p : Prop} [Decidable p] {a b : Nat} (ha : a ≠ 0) (hb : b ≠ 0) : (if p then a else b) ≠ 0 := by
  split <;> assumption

theorem bitsForRange_ne_zero (range : Int) : bitsForRange range ≠ 0 :=
  ite_ne_zero (by decide) <| ite_ne_zero (by decide) <| ite_ne_zero (by decide) <| ite_ne_zero (by decide) <|
    ite_ne_zero (by decide) <| ite_ne_zero (by decide) <| ite_ne_zero (by decide) <| ite_ne_zero (by decide) (by decide)

theorem eats_parseConstraintValue (range : Int) (r : Rd) : Eats 1 (parseConstraintValue range) r := by
  have h8 : ∀ n, n ≠ 0 → Eats 1 (parseAlignBits >>= fun _ => getBitsValue n) r := fun n hn =>
    (eats_parseAlignBits r).bind_r fun _ r1 _ => (eats_getBitsValue n hn r1).mono (by omega)
  unfold parseConstraintValue
  split
  · split
    · exact eats_fail
    · exact (eats_getBitsValue _ (bitsForRange_ne_zero _) r).mono (Nat.pos_of_ne_zero (bitsForRange_ne_zero _))
  · split
    · exact h8 8 (by decide)
    · split
      · exact h8 16 (by decide)
      · exact eats_fail

theorem eats_parseLength (sizeRange : Int) (r : Rd) : Eats 1 (parseLength sizeRange) r := by
  unfold parseLength
  split
  · exact (eats_parseConstraintValue _ r).map
  · refine (eats_parseAlignBits r).bind_r fun _ r1 _ => ?_
    refine ((eats_getBitsValue 8 (by decide) r1).mono (j := 1) (by decide)).bind_l fun first r2 _ => ?_
    split
    · exact eats_pure _
    · split
      · exact ((eats_getBitsValue 8 (by decide) r2).mono (Nat.zero_le _)).map
      · dsimp only
        split
        · exact eats_fail
        · exact eats_pure _

/-! ### the fragment loops: each round starts with a length determinant, which consumes a bit, so fuel above the
  number of remaining bits is never used up -/

theorem octLoop_ok (sizeRange lb : Int) : ∀ (fuel : Nat) (acc : Bytes) (r : Rd), r.len < fuel →
    Eats 0 (parseOctetStringLoop sizeRange lb fuel acc) r := by
  intro fuel
  induction fuel with
  | zero => intro acc r h; omega
  | succ fuel ih =>
    intro acc r hfuel
    unfold parseOctetStringLoop
    refine ((eats_parseLength sizeRange r).bind_l fun x r1 h1 => ?_).mono (Nat.zero_le _)
    dsimp only
    split
    · exact eats_pure _
    · refine (eats_parseAlignBits r1).bind_r fun _ r2 h2 => ?_
      refine ((eats_takeOctets _ r2).mono (Nat.zero_le _)).bind_l fun b r3 h3 => ?_
      split
      · exact ih _ r3 (by omega)
      · exact eats_pure _

theorem bitLoop_ok (sizeRange lb : Int) : ∀ (fuel : Nat) (accB : Bytes) (accL : Nat) (r : Rd), r.len < fuel →
    Eats 0 (parseBitStringLoop sizeRange lb fuel accB accL) r := by
  intro fuel
  induction fuel with
  | zero => intro accB accL r h; omega
  | succ fuel ih =>
    intro accB accL r hfuel
    unfold parseBitStringLoop
    refine ((eats_parseLength sizeRange r).bind_l fun x r1 h1 => ?_).mono (Nat.zero_le _)
    dsimp only
    split
    · exact eats_pure _
    · rename_i hraw
      refine (eats_parseAlignBits r1).bind_r fun _ r2 h2 => Eats.get_bind ?_
      split
      · exact eats_fail
      · refine ((eats_getBits _ hraw r2).mono (Nat.zero_le _)).bind_l fun b r3 h3 => ?_
        split
        · exact ih _ _ r3 (by omega)
        · exact eats_pure _

theorem openLoop_ok : ∀ (fuel : Nat) (acc : Bytes) (r : Rd), r.len < fuel → Eats 0 (openTypeOctets fuel acc) r := by
  intro fuel
  induction fuel with
  | zero => intro acc r h; omega
  | succ fuel ih =>
    intro acc r hfuel
    unfold openTypeOctets
    refine ((eats_parseLength (-1) r).bind_l fun x r1 h1 => ?_).mono (Nat.zero_le _)
    dsimp only
    split
    · exact eats_pure _
    · refine (eats_parseAlignBits r1).bind_r fun _ r2 h2 => ?_
      refine ((eats_takeOctets _ r2).mono (Nat.zero_le _)).bind_l fun b r3 h3 => ?_
      split
      · exact ih _ r3 (by omega)
      · exact (eats_parseAlignBits r3).map

/-- a fixed size constraint (lb = ub) is never the empty size: otherwise `getBitString(0)` would trap -/
def sizeOK (p : Params) : Bool :=
  match p.sizeUB with
  | none => true
  | some u => if u - p.sizeLB.getD 0 + 1 = 1 then decide (u ≥ 1) else true

theorem sizeOK_spec (p : Params) (h : sizeOK p = true) :
    ∀ u, p.sizeUB = some u → u - p.sizeLB.getD 0 + 1 = 1 → u ≥ 1 := by
  intro u hu hfix
  unfold sizeOK at h
  rw [hu] at h
  simp only [hfix, if_true, decide_eq_true_eq] at h
  exact h

theorem sizeOK_refValue (p : Params) (x : Option Int) : sizeOK { p with refValue := x } = sizeOK p := rfl

theorem sizeOK_stripSize (p : Params) : sizeOK (stripSize p) = true := rfl

theorem sizeBounds_fixed (ext : Bool) (lbP ubP : Option Int) (lb ub sr : Int)
    (h : sizeBounds ext lbP ubP = (lb, ub, sr)) (hsr : sr = 1)
    (hok : ∀ u, ubP = some u → u - lbP.getD 0 + 1 = 1 → u ≥ 1) : ub ≥ 1 := by
  unfold sizeBounds at h
  split at h
  · simp only [Prod.mk.injEq] at h; omega
  · cases ubP with
    | none => simp only [Prod.mk.injEq] at h; omega
    | some u =>
      simp only [Prod.mk.injEq] at h
      obtain ⟨h1, h2, h3⟩ := h
      have := hok u rfl
      split at h3 <;> omega

theorem eats_parseBitString (ext : Bool) (lbP ubP : Option Int)
    (hok : ∀ u, ubP = some u → u - lbP.getD 0 + 1 = 1 → u ≥ 1) (r : Rd) : Eats 0 (parseBitString ext lbP ubP) r := by
  unfold parseBitString
  generalize hsb : sizeBounds ext lbP ubP = sb
  obtain ⟨lb, ub, sr⟩ := sb
  dsimp only
  split
  · rename_i hsr
    have hub := sizeBounds_fixed ext lbP ubP lb ub sr hsb hsr hok
    have hcopy : ∀ r, Eats 0 (getBits ub.toNat >>= fun b => (pure (bitsToBytes b, ub.toNat) : D (Bytes × Nat))) r :=
      fun r => ((eats_getBits _ (by omega) r).mono (Nat.zero_le _)).map
    split
    · refine (eats_parseAlignBits r).bind_r fun _ r1 _ => Eats.get_bind ?_
      split
      · exact eats_fail
      · exact hcopy r1
    · exact hcopy r
  · exact Eats.get_bind (bitLoop_ok sr lb (r.len + 2) [] 0 r (by omega))

theorem eats_parseOctetString (ext : Bool) (lbP ubP : Option Int)
    (hok : ∀ u, ubP = some u → u - lbP.getD 0 + 1 = 1 → u ≥ 1) (r : Rd) : Eats 0 (parseOctetString ext lbP ubP) r := by
  unfold parseOctetString
  generalize hsb : sizeBounds ext lbP ubP = sb
  obtain ⟨lb, ub, sr⟩ := sb
  dsimp only
  split
  · rename_i hsr
    have hub := sizeBounds_fixed ext lbP ubP lb ub sr hsb hsr hok
    split
    · exact (eats_parseAlignBits r).bind_r fun _ r1 _ => (eats_takeOctets _ r1).mono (Nat.zero_le _)
    · exact ((eats_getBits _ (by omega) r).mono (Nat.zero_le _)).map
  · exact Eats.get_bind (octLoop_ok sr lb (r.len + 2) [] r (by omega))

/-- (lb, ub, range) of `parseInteger` -/
def intTuple (ext : Bool) (lbP ubP : Option Int) : Int × Int × Int :=
  if ext then (0, -1, -1)
  else match lbP with
    | none => (0, -1, -1)
    | some l => match ubP with
      | none => (l, -1, 0)
      | some u => (l, u, u - l + 1)

/-- the body of `parseInteger` after the bounds are fixed -/
def intBody (lb ub range : Int) : D Int :=
  if range = 1 then pure ub
  else if range ≤ 0 then do
    parseAlignBits
    let lenB ← takeOctets 1
    let rawLength := (lenB.headD 0).toNat
    if rawLength = 0 then D.fail .error else do
    let raw ← getBitsValue (rawLength * 8)
    if range < 0 then
      let signBit : Nat := if rawLength * 8 - 1 < 64 then 2 ^ (rawLength * 8 - 1) else 0
      let valueMask : Nat := (signBit + 2 ^ 64 - 1) % 2 ^ 64
      if raw &&& signBit > 0 then
        pure (wrapInt64 (-(toInt64 ((((2 ^ 64 - 1 - raw) &&& valueMask) + 1) % 2 ^ 64))))
      else pure (wrapInt64 (toInt64 raw + lb))
    else pure (wrapInt64 (toInt64 raw + lb))
  else if range ≤ 65536 then do
    let raw ← parseConstraintValue range
    pure (wrapInt64 ((raw : Int) + lb))
  else do
    let t ← getBitsValue (bitsForRange (rangeByteLen range))
    let rawLength := t + 1
    parseAlignBits
    let raw ← getBitsValue (rawLength * 8)
    pure (wrapInt64 (toInt64 raw + lb))

theorem parseInteger_eq (ext : Bool) (lbP ubP : Option Int) :
    parseInteger ext lbP ubP = intBody (intTuple ext lbP ubP).1 (intTuple ext lbP ubP).2.1 (intTuple ext lbP ubP).2.2 :=
  rfl

theorem intTuple_ne (ext : Bool) (lbP ubP : Option Int)
    (h : ∀ lb ub, lbP = some lb → ubP = some ub → lb ≠ ub) : (intTuple ext lbP ubP).2.2 ≠ 1 := by
  unfold intTuple
  cases ext with
  | true => simp
  | false =>
    cases hl : lbP with
    | none => simp
    | some l =>
      cases hu : ubP with
      | none => simp
      | some u => have := h l u hl hu; simp; omega

/-- only the one-value range is decoded without reading -/
theorem eats_intBody (lb ub range : Int) (k : Nat) (hk : k ≤ 1) (h : k = 1 → range ≠ 1) (r : Rd) :
    Eats k (intBody lb ub range) r := by
  unfold intBody
  by_cases h1 : range = 1
  · have : k = 0 := by rcases Nat.le_one_iff_eq_zero_or_eq_one.mp hk with h0 | h0; exact h0; exact absurd h1 (h h0)
    subst this
    rw [if_pos h1]
    exact eats_pure _
  · rw [if_neg h1]
    refine Eats.mono (eats_ite ?_ (eats_ite (eats_parseConstraintValue _ r).map ?_)) hk
    · refine (eats_parseAlignBits r).bind_r fun _ r1 _ => ?_
      refine ((eats_takeOctets 1 r1).mono (j := 1) (by decide)).bind_l fun lenB r2 _ => ?_
      by_cases hraw : (lenB.headD 0).toNat = 0
      · exact eats_error (by simp only [hraw, if_true]; rfl)
      · simp only [hraw, if_false]
        refine ((eats_getBitsValue _ (by omega) r2).mono (Nat.zero_le _)).bind_l fun raw r3 _ => ?_
        exact eats_ite (eats_ite (eats_pure _) (eats_pure _)) (eats_pure _)
    · refine ((eats_getBitsValue _ (bitsForRange_ne_zero _) r).mono (Nat.pos_of_ne_zero (bitsForRange_ne_zero _))).bind_l
        fun t r1 _ => ?_
      refine (eats_parseAlignBits r1).bind_l fun _ r2 _ => ?_
      exact ((eats_getBitsValue _ (by omega) r2).mono (Nat.zero_le _)).map

theorem eats_parseInteger (ext : Bool) (lbP ubP : Option Int) (k : Nat) (hk : k ≤ 1)
    (h : k = 1 → ∀ lb ub, lbP = some lb → ubP = some ub → lb ≠ ub) (r : Rd) : Eats k (parseInteger ext lbP ubP) r := by
  rw [parseInteger_eq]
  exact eats_intBody _ _ _ k hk (fun hk1 => intTuple_ne ext lbP ubP (h hk1)) r

theorem eats_parseEnumerated (ext : Bool) (lbP ubP : Option Int) (k : Nat) (hk : k ≤ 1)
    (h : k = 1 → ∀ lb ub, lbP = some lb → ubP = some ub → lb < ub) (r : Rd) : Eats k (parseEnumerated ext lbP ubP) r := by
  unfold parseEnumerated
  split
  · exact eats_fail
  · split
    · rename_i lb ub
      dsimp only
      split
      · exact (eats_parseConstraintValue _ r).mono hk
      · have : k = 0 := by
          rcases Nat.le_one_iff_eq_zero_or_eq_one.mp hk with h0 | h0
          · exact h0
          · have := h h0 lb ub rfl rfl; omega
        subst this
        exact eats_pure _
    · exact eats_fail

theorem eats_getChoiceIndex (ext : Bool) (ubP : Option Int) (r : Rd) : Eats 1 (getChoiceIndex ext ubP) r := by
  unfold getChoiceIndex
  split
  · exact eats_fail
  · split
    · exact eats_fail
    · split
      · exact eats_fail
      · exact (eats_parseConstraintValue _ r).map

/-- the extension bits are read whenever the parameters declare them -/
theorem eats_extBits (params : Params) (isSlice : Bool) (k : Nat) (hk : k ≤ 1)
    (h : k = 1 → params.sizeExt = true ∨ (params.valueExt && !isSlice) = true) (r : Rd) :
    Eats k (extBits params isSlice) r := by
  have bit : ∀ r, Eats 1 (getBitsValue 1 >>= fun b => (pure (b != 0) : D Bool)) r :=
    fun r => (eats_getBitsValue 1 (by decide) r).map
  have opt : ∀ (c : Bool) r, Eats 0 (if c = true then getBitsValue 1 >>= fun b => (pure (b != 0) : D Bool) else pure false) r := by
    intro c r
    split
    · exact (bit r).mono (Nat.zero_le _)
    · exact eats_pure _
  unfold extBits
  rcases Nat.le_one_iff_eq_zero_or_eq_one.mp hk with h0 | h1
  · subst h0
    exact (opt _ r).bind_l fun se r1 _ => (opt _ r1).bind_l fun _ _ _ => eats_pure _
  · subst h1
    rcases h rfl with h | h
    · simp only [h, if_true]
      exact (bit r).bind_l fun se r1 _ => (opt _ r1).bind_l fun _ _ _ => eats_pure _
    · simp only [h, if_true]
      exact (opt _ r).bind_r fun se r1 _ => (bit r1).bind_l fun _ _ _ => eats_pure _

theorem eats_decLeaf (ty : Ty) (params : Params) (se ve : Bool) (hok : sizeOK params = true) (r : Rd) :
    Eats 0 (decLeaf ty params se ve) r := by
  have hs := sizeOK_spec params hok
  unfold decLeaf
  split
  · exact (eats_parseBitString _ _ _ hs r).map
  · exact (eats_parseOctetString _ _ _ hs r).map
  · exact (eats_parseOctetString _ _ _ hs r).map
  · exact (eats_parseEnumerated _ _ _ 0 (Nat.zero_le _) (fun h => nomatch h) r).map
  · exact ((eats_getBitsValue 1 (by decide) r).mono (Nat.zero_le _)).map
  · exact (eats_parseInteger _ _ _ 0 (Nat.zero_le _) (fun h => nomatch h) r).map
  · exact eats_fail

/-- log-and-continue keeps what `m` guarantees when it returns `m`'s value, and the handler's reader otherwise -/
theorem eats_catchErr {α : Type} (m : D α) (h : Rd → α × Rd) (r : Rd) (hm : Eats 0 m r) (hh : (h r).2.len ≤ r.len) :
    Eats 0 (D.catchErr m h) r := by
  have ⟨hg, hl⟩ := hm
  rw [Eats]
  unfold D.catchErr
  cases hmr : m r with
  | ok x => exact ⟨trivial, fun a r' e => by cases e; exact hl _ _ hmr⟩
  | error e =>
    rw [hmr] at hg
    cases hg
    exact ⟨trivial, fun a r' e => by simp only [Except.ok.injEq] at e; rw [e] at hh; exact hh⟩

theorem eats_sliceCountWith (lb sr : Int) (r : Rd) : Eats 0 (sliceCountWith lb sr) r := by
  unfold sliceCountWith
  split
  · refine eats_catchErr _ _ r ((eats_parseConstraintValue _ r).mono (Nat.zero_le _)).map ?_
    dsimp only
    split
    · simp
    · exact Nat.le_refl _
  · split
    · exact eats_pure _
    · refine ((eats_parseLength _ r).mono (Nat.zero_le _)).bind_l fun x r1 _ => ?_
      split
      split
      · exact eats_fail
      · exact eats_pure _

theorem eats_sliceCount (params : Params) (se : Bool) (r : Rd) : Eats 0 (sliceCount params se) r :=
  eats_sliceCountWith _ _ r

theorem eats_decElems (f : D Val) (hf : ∀ r, Eats 0 f r) : ∀ n r, Eats 0 (decElems f n) r := by
  intro n
  induction n with
  | zero => exact fun r => eats_pure _
  | succ n ih =>
    intro r
    unfold decElems
    exact (hf r).bind_l fun _ r1 _ => (ih r1).map

/-! ### schemas over which the decoder is total -/

/-- nesting depth of a type when struct `id` counts `8·(id+1)`: strictly decreasing along the fields of a
    topologically ordered schema -/
def tyDepth : Ty → Nat
  | .struct id => 8 * (id + 1)
  | .ptr t => tyDepth t + 1
  | .slice t => tyDepth t + 1
  | _ => 0

theorem tyDepth_struct_lt (id n : Nat) (h : id < n) : tyDepth (.struct id) < 8 * (n + 1) + 1 := by
  simp only [tyDepth]; omega

/-- `getReferenceFieldValue` never meets an empty struct below this type -/
def refTyOK (env : Env) : Nat → Ty → Bool
  | 0, _ => false
  | n + 1, .struct id =>
    match env[id]? with
    | none => true
    | some sd =>
      match sd.fields with
      | [] => false
      | f0 :: rest =>
        if f0.name == "Present" then rest.all (fun f => refTyOK env n f.ty)
        else refTyOK env n f0.ty
  | _ + 1, _ => true

/-- What the totality proof asks of struct type `id`: the nesting measure decreases along every field, no field fixes
    the empty size, and for every open-type field the fields it can take its reference value from (those named by its
    `refField`: `resolveRef` reads no other) are reference-safe. -/
def structOK (env : Env) (id : Nat) (sd : StructDef) : Bool :=
  sd.fields.all (fun f => decide (tyDepth f.ty < 8 * (id + 1)) && sizeOK f.params) &&
  sd.fields.all (fun fd => !fd.params.openType ||
    sd.fields.all (fun rf => !(rf.name == fd.params.refField) || refTyOK env 6 rf.ty))

def envOKFrom (env : Env) : Nat → List StructDef → Bool
  | _, [] => true
  | id, sd :: rest => structOK env id sd && envOKFrom env (id + 1) rest

/-- decidable well-formedness of a schema, exactly what the totality proof needs: `structOK` of every struct type at its index -/
def envOK (env : Env) : Bool := envOKFrom env 0 env

theorem envOKFrom_get (env : Env) : ∀ (l : List StructDef) (base : Nat), envOKFrom env base l = true →
    ∀ i sd, l[i]? = some sd → structOK env (base + i) sd = true := by
  intro l
  induction l with
  | nil => intro base _ i sd h; simp at h
  | cons x xs ih =>
    intro base hok i sd h
    simp only [envOKFrom, Bool.and_eq_true] at hok
    cases i with
    | zero => simp at h; subst h; simpa using hok.1
    | succ i =>
      simp at h
      have := ih (base + 1) hok.2 i sd h
      have e : base + 1 + i = base + (i + 1) := by omega
      rw [e] at this; exact this

theorem envOK_get (env : Env) (h : envOK env = true) (id : Nat) (sd : StructDef) (hsd : env[id]? = some sd) :
    structOK env id sd = true := by
  have := envOKFrom_get env env 0 h id sd hsd
  simpa using this

theorem structOK_field (env : Env) (id : Nat) (sd : StructDef) (h : structOK env id sd = true)
    (f : Field) (hf : f ∈ sd.fields) : tyDepth f.ty < 8 * (id + 1) ∧ sizeOK f.params = true := by
  unfold structOK at h
  simp only [Bool.and_eq_true, List.all_eq_true, decide_eq_true_eq] at h
  exact h.1 f hf

/-- the field an open-type field refers to is reference-safe -/
theorem structOK_ref (env : Env) (id : Nat) (sd : StructDef) (h : structOK env id sd = true)
    (fd : Field) (hfd : fd ∈ sd.fields) (hopen : fd.params.openType = true) (rf : Field) (hrf : rf ∈ sd.fields)
    (hname : (rf.name == fd.params.refField) = true) : refTyOK env 6 rf.ty = true := by
  unfold structOK at h
  simp only [Bool.and_eq_true, Bool.or_eq_true, Bool.not_eq_true', List.all_eq_true] at h
  rcases h.2 fd hfd with h' | h'
  · rw [hopen] at h'; cases h'
  · rcases h' rf hrf with h'' | h''
    · rw [hname] at h''; cases h''
    · exact h''

theorem getElem?_mem' {α : Type} (l : List α) (i : Nat) (a : α) (h : l[i]? = some a) : a ∈ l :=
  List.mem_of_getElem? h

theorem refFieldValue_good (env : Env) (henv : envOK env = true) (fuel : Nat) (ty : Ty) (v : Val) :
    ∀ n, refTyOK env n ty = true → tyDepth ty < fuel → Good (refFieldValue env fuel ty v) := by
  fun_induction refFieldValue env fuel ty v with
  | case1 => intro n _ hd; omega
  | case4 fuel id fs sd hsd hnil => intro n hok; cases n <;> simp [refTyOK, hsd, hnil] at hok
  | case7 fuel id sd hsd f0 rest hcons hpres p tl hp0 hplen f v' hf hv ih =>
    intro n hok hd
    cases n with
    | zero => simp [refTyOK] at hok
    | succ n =>
      simp only [refTyOK, hsd, hcons, hpres, if_true, List.all_eq_true] at hok
      have hfm : f ∈ rest := by
        obtain ⟨k, hk⟩ : ∃ k, p.toNat = k + 1 := ⟨p.toNat - 1, by omega⟩
        rw [hcons, hk, List.getElem?_cons_succ] at hf
        exact List.mem_of_getElem? hf
      have hfd := structOK_field env id sd (envOK_get env henv id sd hsd) f (hcons ▸ List.mem_cons_of_mem _ hfm)
      simp only [tyDepth] at hd
      rw [hf, hv]
      exact ih n (hok f hfm) (by omega)
  | case10 fuel id sd hsd f0 rest hcons hpres v0 tl ih =>
    intro n hok hd
    cases n with
    | zero => simp [refTyOK] at hok
    | succ n =>
      simp only [refTyOK, hsd, hcons, hpres, Bool.false_eq_true, if_false] at hok
      have hfd := structOK_field env id sd (envOK_get env henv id sd hsd) f0 (hcons ▸ List.mem_cons_self)
      simp only [tyDepth] at hd
      exact ih n hok (by omega)
  | case8 _ _ _ _ _ _ _ _ _ _ _ _ hno =>
    intros
    split
    · exact (hno _ _ (by assumption) (by assumption)).elim
    · rfl
  | _ => intros; first | trivial | rfl

/-! ### SEQUENCE, CHOICE and open types -/

theorem DOK_fail_of_good {α β : Type} (x : Res α) (hx : Good x) (k : α → D β) (hk : ∀ a, DOK (k a)) :
    DOK (match x with | .error e => D.fail e | .ok a => k a) := by
  cases x with
  | error e => cases hx; exact fun _ => eats_fail (k := 0)
  | ok a => exact hk a

/-- the field `refIndex` finds bears the name it was asked for -/
theorem refIndex_name (fields : List Field) (name : String) (i k : Nat) (h : refIndex fields name i = some k)
    (rf : Field) (hrf : fields[k]? = some rf) : (rf.name == name) = true := by
  unfold refIndex at h
  split at h
  · rename_i k' hk
    cases h
    obtain ⟨hlt, hp, _⟩ := List.findIdx?_eq_some_iff_getElem.mp hk
    rw [List.getElem_take] at hp
    rw [List.getElem?_eq_getElem (by rw [List.length_take] at hlt; omega)] at hrf
    cases hrf
    exact hp
  · cases h

theorem resolveRef_spec (rfv : Ty → Val → Res Int) (allFields : List Field) (vals : List Val) (i : Nat) (fd : Field)
    (hr : fd.params.openType = true → ∀ rf ∈ allFields, (rf.name == fd.params.refField) = true → ∀ v, Good (rfv rf.ty v)) :
    Good (resolveRef rfv allFields vals i fd) ∧
      ∀ fp, resolveRef rfv allFields vals i fd = .ok fp → sizeOK fp = sizeOK fd.params := by
  unfold resolveRef
  split
  · rename_i hopen
    split
    · exact ⟨rfl, fun _ h => nomatch h⟩
    · split
      · rename_i rf rv hrf hrv
        have hg := hr hopen rf (List.mem_of_getElem? hrf) (refIndex_name _ _ _ _ (by assumption) rf hrf) rv
        cases hx : rfv rf.ty rv with
        | error e => rw [hx] at hg; exact ⟨hg, fun _ h => nomatch h⟩
        | ok x => exact ⟨trivial, fun fp h => by cases h; rfl⟩
      · exact ⟨rfl, fun _ h => nomatch h⟩
  · exact ⟨trivial, fun fp h => by cases h; rfl⟩

theorem resolveRef_shape (rfv : Ty → Val → Res Int) (allFields : List Field) (allVals : List Val) (i : Nat)
    (fd : Field) (fp : Params) (h : resolveRef rfv allFields allVals i fd = .ok fp) :
    fp = fd.params ∨ ∃ x, fp = { fd.params with refValue := some x } := by
  unfold resolveRef at h
  split at h
  · split at h
    · simp [err] at h
    · split at h
      · split at h
        · simp at h
        · simp only [Except.ok.injEq] at h
          exact Or.inr ⟨_, h.symm⟩
      · simp [err] at h
  · simp only [Except.ok.injEq] at h
    exact Or.inl h.symm

theorem eats_decSeqFields (f : Ty → Params → D Val) (rfv : Ty → Val → Res Int) (allFields : List Field) :
    ∀ (fields : List Field), (∀ fd ∈ fields, sizeOK fd.params = true ∧ (∀ p, sizeOK p = true → ∀ r, Eats 0 (f fd.ty p) r) ∧
        (fd.params.openType = true → ∀ rf ∈ allFields, (rf.name == fd.params.refField) = true → ∀ v, Good (rfv rf.ty v))) →
      ∀ (i optCount optBits : Nat) (vals : List Val) (r : Rd),
        Eats 0 (decSeqFields f rfv allFields i optCount optBits fields vals) r := by
  intro fields
  induction fields with
  | nil => intro _ i oc ob vals r; unfold decSeqFields; exact eats_pure _
  | cons fd rest ih =>
    intro hf i oc ob vals r
    have hrest := ih fun fd' h => hf fd' (List.mem_cons_of_mem _ h)
    have ⟨hsz, hfd, hr⟩ := hf fd List.mem_cons_self
    unfold decSeqFields
    dsimp only
    split
    · exact hrest _ _ _ _ r
    · have ⟨hg, hsp⟩ := resolveRef_spec rfv allFields vals i fd hr
      cases hx : resolveRef rfv allFields vals i fd with
      | error e => rw [hx] at hg; cases hg; exact eats_fail
      | ok fp => exact Eats.bind_l (hfd fp (by rw [hsp fp hx]; exact hsz) r) fun v r1 _ => hrest _ _ _ _ r1

theorem eats_decStruct (f : Ty → Params → D Val) (rfv : Ty → Val → Res Int) (zero : Ty → Val)
    (sd : StructDef) (params : Params) (ve : Bool)
    (hf : ∀ fd ∈ sd.fields, sizeOK fd.params = true ∧ (∀ p, sizeOK p = true → ∀ r, Eats 0 (f fd.ty p) r) ∧
        (fd.params.openType = true → ∀ rf ∈ sd.fields, (rf.name == fd.params.refField) = true → ∀ v, Good (rfv rf.ty v))) (r : Rd) :
    Eats 0 (decStruct f rfv zero sd params ve) r := by
  unfold decStruct
  dsimp only
  refine Eats.bind_l (k := 0) ?_ fun optBits r1 _ => ?_
  · split
    · exact (eats_getBitsValue _ (by omega) r).mono (Nat.zero_le _)
    · exact eats_pure _
  · refine eats_ite (eats_ite ?_ ?_) (eats_decSeqFields f rfv sd.fields sd.fields hf _ _ _ _ r1).map
    · split
      · exact eats_fail
      · split
        · exact eats_pure _
        · split
          · exact eats_fail
          · rename_i present fd hfd
            have ⟨hsz, hdf, _⟩ := hf fd (List.mem_of_getElem? hfd)
            refine Eats.get_bind ((openLoop_ok (r1.len + 2) [] r1 (by omega)).bind_l fun octs r2 _ => ?_)
            -- the inner value is decoded from its own buffer: only its outcome matters here
            have hin := (hdf fd.params hsz (Rd.ofBytes octs)).1
            cases hx : f fd.ty fd.params (Rd.ofBytes octs) with
            | error e => rw [hx] at hin; cases hin; exact eats_fail
            | ok p => exact eats_pure _
    · refine (eats_catchErr _ _ r1 ((eats_getChoiceIndex _ _ r1).mono (Nat.zero_le _)) (Nat.le_refl _)).bind_l
        fun present r2 _ => eats_ite eats_fail (eats_ite eats_fail ?_)
      split
      · exact eats_fail
      · rename_i fd hfd
        have ⟨hsz, hdf, _⟩ := hf fd (List.mem_of_getElem? hfd)
        exact Eats.map (hdf fd.params hsz r2)

/-! ### `parseField` by kind -/

/-- the entry test of `parseField` ("sequence truncated") -/
def entry {α : Type} (body : D α) : D α := fun r0 => if r0.len = 0 then .error .error else body r0

theorem entry_apply {α : Type} (body : D α) {r : Rd} (h : r.len ≠ 0) : entry body r = body r := by
  simp only [entry, h, if_false]

theorem eats_entry {α : Type} {body : D α} {k : Nat} {r : Rd} (h : Eats k body r) : Eats k (entry body) r := by
  by_cases h0 : r.len = 0
  · exact eats_error (by simp only [entry, h0, if_true])
  · rw [Eats, entry_apply body h0]; exact h

def sliceBody (f : D Val) (params : Params) : D Val :=
  extBits params true >>= fun x => sliceCount params x.1 >>= fun n => decElems f n >>= fun vs => pure (.slice vs)

def structBody (env : Env) (fuel : Nat) (sd : StructDef) (params : Params) : D Val :=
  extBits params false >>= fun x =>
    decStruct (decField env fuel) (refFieldValue env fuel) (zeroVal env fuel) sd params x.2

def leafBody (ty : Ty) (params : Params) : D Val :=
  extBits params false >>= fun x => decLeaf ty params x.1 x.2

def isLeaf : Ty → Bool
  | .ptr _ | .slice _ | .struct _ => false
  | _ => true

theorem decField_ptr (env : Env) (fuel : Nat) (t : Ty) (p : Params) :
    decField env (fuel + 1) (.ptr t) p = entry (decField env fuel t p >>= fun v => pure (.ptr v)) := rfl

theorem decField_slice (env : Env) (fuel : Nat) (t : Ty) (p : Params) :
    decField env (fuel + 1) (.slice t) p = entry (sliceBody (decField env fuel t (stripSize p)) p) := rfl

theorem decField_struct (env : Env) (fuel id : Nat) (sd : StructDef) (p : Params) (hsd : env[id]? = some sd) :
    decField env (fuel + 1) (.struct id) p = entry (structBody env fuel sd p) := by
  unfold decField
  simp only [hsd]
  rfl

theorem decField_struct_none (env : Env) (fuel id : Nat) (p : Params) (hsd : env[id]? = none) :
    decField env (fuel + 1) (.struct id) p = entry (D.fail .error) := by
  unfold decField
  simp only [hsd]
  rfl

theorem decField_leaf (env : Env) (fuel : Nat) (ty : Ty) (p : Params) (h : isLeaf ty = true) :
    decField env (fuel + 1) ty p = entry (leafBody ty p) := by
  cases ty <;> first | rfl | cases h

theorem eats_decField (env : Env) (henv : envOK env = true) :
    ∀ (fuel : Nat) (ty : Ty) (params : Params), tyDepth ty < fuel → sizeOK params = true →
      ∀ r0, Eats 0 (decField env fuel ty params) r0 := by
  intro fuel
  induction fuel with
  | zero => intro ty params h; omega
  | succ fuel ih =>
    intro ty params hd hsz r0
    have hx : ∀ b, Eats 0 (extBits params b) r0 := fun b => eats_extBits _ _ 0 (Nat.zero_le _) (fun h => nomatch h) r0
    cases ty with
    | ptr t =>
      rw [decField_ptr]
      simp only [tyDepth] at hd
      exact eats_entry (Eats.map (ih t params (by omega) hsz r0))
    | slice t =>
      rw [decField_slice]
      simp only [tyDepth] at hd
      refine eats_entry ((hx true).bind_l fun x r1 _ => (eats_sliceCount _ _ r1).bind_l fun n r2 _ => ?_)
      exact (eats_decElems _ (ih t (stripSize params) (by omega) (sizeOK_stripSize params)) n r2).map
    | struct id =>
      cases hsd : env[id]? with
      | none => rw [decField_struct_none _ _ _ _ hsd]; exact eats_entry eats_fail
      | some sd =>
        rw [decField_struct _ _ _ sd _ hsd]
        have hs := envOK_get env henv id sd hsd
        simp only [tyDepth] at hd
        refine eats_entry ((hx false).bind_l fun x r1 _ => eats_decStruct _ _ _ sd params x.2 (fun fd hfdm => ?_) r1)
        have hfd := structOK_field env id sd hs fd hfdm
        refine ⟨hfd.2, fun p hp => ih fd.ty p (by omega) hp, fun hopen rf hrf hname v => ?_⟩
        have hrfd := structOK_field env id sd hs rf hrf
        exact refFieldValue_good env henv fuel rf.ty v 6 (structOK_ref env id sd hs fd hfdm hopen rf hrf hname) (by omega)
    | _ =>
      rw [decField_leaf _ _ _ _ rfl]
      exact eats_entry ((hx false).bind_l fun x r1 _ => eats_decLeaf _ _ _ _ hsz r1)

/-- **Totality of the decoder model**: over a schema that passes `envOK`, with fuel above the nesting depth of
    the type, `parseField` returns a value or an error — never a panic, never out of fuel — and never un-reads. -/
theorem DOK_decField (env : Env) (henv : envOK env = true) :
    ∀ (fuel : Nat) (ty : Ty) (params : Params), tyDepth ty < fuel → sizeOK params = true →
      DOK (decField env fuel ty params) :=
  eats_decField env henv

/-- the entry point: `UnmarshalWithParams` neither panics nor runs out of fuel -/
theorem unmarshal_good (env : Env) (henv : envOK env = true) (fuel : Nat) (ty : Ty) (params : Params)
    (hd : tyDepth ty < fuel) (hp : sizeOK params = true) (bs : Bytes) :
    unmarshal env fuel ty params bs ≠ .error .panic ∧ unmarshal env fuel ty params bs ≠ .error .hang := by
  have h := (DOK_decField env henv fuel ty params hd hp (Rd.ofBytes bs)).1
  unfold unmarshal
  cases hx : decField env fuel ty params (Rd.ofBytes bs) with
  | error e => rw [hx] at h; cases h; exact ⟨by simp, by simp⟩
  | ok p => exact ⟨by simp, by simp⟩

end Stgutg.Proofs.AperTotal
