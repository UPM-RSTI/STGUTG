import Stgutg.Gen.PureKeys
import Stgutg.Model.KeyDerivation
import Stgutg.Proofs.GenTieBase
import Stgutg.Proofs.GenTieKdf
/-!
  Tie by translation (C05): `Gen/PureKeys.lean` is regenerated on every run by `gen pure-keys` from the source text of
  src/tglib/ranUe.go `(*RanUeContext).DerivateKamf` and `(*RanUeContext).DerivateAlgKey` (`UeauCommon.KDFLen` comes from
  `Gen/PureKdf.lean`). The theorems prove generated = hand model (`Model/KeyDerivation.lean`) for every UE context and
  every argument, with the library record `libOf` built from the hand model: `GetKDFValue` over `Prims`, the SUPI
  regular expression as the model's `supiFind`.

  Not reached by the translator: `DeriveRESstarAndSetKey` (its types come from github.com/wmnsk/milenage and
  free5gclib/openapi/models pointers; the loader does not read third-party modules) — it keeps its pin (`gen procs`) and the
  differential domain of C05.
-/
namespace Stgutg.Proofs.GenTie.Keys
open Stgutg Stgutg.Gen
open Stgutg.Gen.Pure.Keys Stgutg.Gen.Pure.Kdf
open Stgutg.Model.KeyDerivation (supiFind)

/-- the regular expression of `DerivateKamf`, as octets -/
def supiPattern : Bytes := Model.KeyDerivation.str "(?:imsi|supi)-([0-9]{5,15})".toList

/-- the library record built from the hand model: `GetKDFValue` is `Model.KeyDerivation.GetKDFValue` over `Prims`;
    `regexp.Compile` answers with an expression that remembers its source text; `FindStringSubmatch` on the SUPI pattern
    is the hand model's `supiFind` (group 0 = `g0`, ARBITRARY: nobody reads it) and ARBITRARY (`other`) on any other
    pattern, so that a change of the pattern in the Go text breaks the tie; `fatal.Fatalf` is ARBITRARY (`fatal`). -/
def libOf (P : Prims) (re0 : Regexp) (g0 : Bytes → Bytes) (other : Regexp → Bytes → Res (List Bytes)) (fatal : Res Unit) : Lib where
  getKDFValue := fun key fc params => .ok (Model.KeyDerivation.GetKDFValue P key fc params)
  regexpCompile := fun pat => .ok (some { re0 with expr := pat }, false)
  findStringSubmatch := fun re s =>
    if re.expr = supiPattern then
      match supiFind s with
      | none => .ok []
      | some d => .ok [g0 s, d]
    else other re s
  fatalf := fatal

/-- **Tie (C05).** `ue.DerivateKamf(key, snName, SQN, AK)`: for every UE context and all arguments, generated = hand
    model (the UE context with `Kamf` replaced; a SUPI the expression does not match: panic at `groups[1]`). -/
theorem DerivateKamf_eq (P : Prims) (re0 g0 other fatal) (ue : RanUeContext) (key snName sqn ak : Bytes) :
    RanUeContext.DerivateKamf (libOf P re0 g0 other fatal) ue key snName sqn ak =
      (Model.KeyDerivation.DerivateKamf P ue.Supi key snName sqn).map fun k => { ue with Kamf := k } := by
  unfold RanUeContext.DerivateKamf Model.KeyDerivation.DerivateKamf Model.KeyDerivation.derivateKamfChain
  have hp : ([40, 63, 58, 105, 109, 115, 105, 124, 115, 117, 112, 105, 41, 45, 40, 91, 48, 45, 57, 93, 123, 53, 44, 49, 53, 125, 41] : Bytes) = supiPattern := by decide +kernel
  have h1 : Model.KeyDerivation.FC_FOR_KAUSF_DERIVATION = [54, 65] := by decide
  have h2 : Model.KeyDerivation.FC_FOR_KSEAF_DERIVATION = [54, 67] := by decide
  have h3 : Model.KeyDerivation.FC_FOR_KAMF_DERIVATION = [54, 68] := by decide
  simp only [Kdf.KDFLen_eq, ok_bind, libOf, hp, h1, h2, h3, Go.deref, Bool.false_eq_true, if_false, if_true]
  cases supiFind ue.Supi with
  | none => simp [Go.idx, Except.map]
  | some d => simp [Go.idx, Except.map]

/-- **Tie (C05).** `ue.DerivateAlgKey()`: for every UE context whose two key arrays have their 16 octets (they are
    `[16]uint8`), generated = hand model. -/
theorem DerivateAlgKey_eq (P : Prims) (re0 g0 other fatal) (ue : RanUeContext)
    (he : ue.KnasEnc.length = 16) (hi : ue.KnasInt.length = 16) :
    RanUeContext.DerivateAlgKey (libOf P re0 g0 other fatal) ue =
      (Model.KeyDerivation.DerivateAlgKey P ue.Kamf ue.CipheringAlg ue.IntegrityAlg).map fun k =>
        { ue with KnasEnc := k.1, KnasInt := k.2 } := by
  unfold RanUeContext.DerivateAlgKey Model.KeyDerivation.DerivateAlgKey
  have h1 : Model.KeyDerivation.FC_FOR_ALGORITHM_KEY_DERIVATION = [54, 57] := by decide
  simp only [Kdf.KDFLen_eq, ok_bind, libOf, h1, Model.KeyDerivation.NNASEncAlg, Model.KeyDerivation.NNASIntAlg,
    slice_nat _ 16 32 16 32 rfl rfl (by decide)]
  generalize Model.KeyDerivation.GetKDFValue P ue.Kamf [54, 57] [[1], Model.KeyDerivation.KDFLen [1], [ue.CipheringAlg], Model.KeyDerivation.KDFLen [ue.CipheringAlg]] = kenc
  generalize Model.KeyDerivation.GetKDFValue P ue.Kamf [54, 57] [[2], Model.KeyDerivation.KDFLen [2], [ue.IntegrityAlg], Model.KeyDerivation.KDFLen [ue.IntegrityAlg]] = kint
  by_cases hk : kenc.length < 32
  · simp [hk, Except.map]
  · by_cases hj : kint.length < 32
    · simp [hk, hj, Except.map]
    · have l1 : ue.KnasEnc.length = ((kenc.drop 16).take 16).length := by simp; omega
      have l2 : ue.KnasInt.length = ((kint.drop 16).take 16).length := by simp; omega
      simp [hk, hj, Except.map, copy_full _ _ l1, copy_full _ _ l2]

/-- the hypotheses of `DerivateAlgKey_eq` hold of a UE context as `NewRanUeContext` makes it (two arrays of 16 octets) -/
example : ∃ ue : RanUeContext, ue.KnasEnc.length = 16 ∧ ue.KnasInt.length = 16 ∧ ue.Kamf ≠ [] ∧ ue.CipheringAlg ≠ ue.IntegrityAlg :=
  ⟨{ Supi := Model.KeyDerivation.str "imsi-208930000000001".toList, CipheringAlg := 0, IntegrityAlg := 2,
     KnasEnc := List.replicate 16 0, KnasInt := List.replicate 16 0, Kamf := [1, 2, 3] }, by decide, by decide, by decide, by decide⟩

end Stgutg.Proofs.GenTie.Keys
