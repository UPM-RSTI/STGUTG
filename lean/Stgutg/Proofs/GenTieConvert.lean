import Stgutg.Gen.PureConvert
import Stgutg.Model.Convert
import Stgutg.Proofs.GenTieBase
/-!
  Tie by translation (C17, and C11 for PlmnIDToNas): `Gen/PureConvert.lean` is regenerated from
  src/free5gclib/nas/nasConvert/{AmfId,PlmnId,Snssai}.go on every run by `gen pure-convert`.
  `hex.DecodeString` is a standard-library call: a parameter on both sides (`Go.Ext` / `Model.Convert.Ext`).
-/
namespace Stgutg.Proofs.GenTie.Convert
open Stgutg Stgutg.Gen Stgutg.Proofs.GenTie
open Stgutg.Model.Convert

/-- the translated functions' record of standard-library calls, from the hand model's (only `hexDecode` is called) -/
def extOf (M : Model.Convert.Ext) : Go.Ext :=
  { atoi := fun _ => (0, true), hexDecode := M.hexDecode, fmtD := fun _ => [], fmtD0Star := fun _ _ => [] }

/-- **Tie.** `AmfIdToNas`: same three values, same panics (fewer than three decoded octets). -/
theorem AmfIdToNas_eq (M : Model.Convert.Ext) (amfId : Bytes) :
    Pure.Convert.AmfIdToNas (extOf M) amfId = amfIdToNas M amfId := by
  unfold Pure.Convert.AmfIdToNas amfIdToNas
  simp only [extOf]
  match (M.hexDecode amfId).1 with
  | [] => simp [Go.idx]
  | [_] => simp [Go.idx]
  | [_, _] => simp [Go.idx]
  | b0 :: b1 :: b2 :: _ => simp [Go.idx]

theorem u8OfInt_eq (x : Int) : UInt8.ofInt x = u8OfInt x := by
  apply UInt8.toNat_inj.mp
  simp [u8OfInt, UInt8.ofInt]

/-- **Tie.** `SnssaiToNas` (total). -/
theorem SnssaiToNas_eq (M : Model.Convert.Ext) (sst : Int) (sd : Bytes) :
    Pure.Convert.SnssaiToNas (extOf M) { Sst := sst, Sd := sd } = snssaiToNas M sst sd := by
  unfold Pure.Convert.SnssaiToNas snssaiToNas
  simp only [extOf, u8OfInt_eq]
  cases sd with
  | nil => simp
  | cons a t =>
    cases (M.hexDecode (a :: t)).2 <;> simp

/-- one digit: `if tmp, err := strconv.Atoi(string(c)); err != nil {…} else { digit = tmp }` -/
theorem atoi_sel (keep : Nat) (c : UInt8) :
    (if (Go.atoiByte c).2 = true then (keep : Int) else (Go.atoiByte c).1) = ((atoiOr keep c : Nat) : Int) := by
  unfold Go.atoiByte atoiOr
  by_cases h : 48 ≤ c ∧ c ≤ 57
  · have : 48 ≤ c.toNat := by simpa using UInt8.le_iff_toNat_le.mp h.1
    simp [h]; omega
  · have : ¬ ((48 : UInt8) ≤ c && c ≤ 57) = true := by simpa using h
    simp [h, this]

theorem atoi_sel0 (c : UInt8) :
    (if (Go.atoiByte c).2 = true then (0 : Int) else (Go.atoiByte c).1) = ((atoiOr 0 c : Nat) : Int) := atoi_sel 0 c

theorem atoi_sel15 (c : UInt8) :
    (if (Go.atoiByte c).2 = true then (15 : Int) else (Go.atoiByte c).1) = ((atoiOr 15 c : Nat) : Int) := atoi_sel 15 c

theorem atoiOr_le (keep : Nat) (c : UInt8) (hk : keep ≤ 15) : atoiOr keep c ≤ 15 := by
  unfold atoiOr
  split
  · rename_i h
    simp at h
    have := UInt8.le_iff_toNat_le.mp h.2
    simp at this; omega
  · exact hk

/-- `uint8((hi << 4) | lo)` on Go ints is the hand model's `nib` for nibbles: 256 cases -/
theorem nib_eq : ∀ hi : Nat, hi < 16 → ∀ lo : Nat, lo < 16 →
    UInt8.ofInt (Go.ior (Go.ishlc (hi : Int) 4) (lo : Int)) = nib hi lo := by
  decide +kernel

/-- the three octets, from digits as `atoiOr` delivers them -/
theorem nibs_eq (c1 c2 c3 n1 n2 : UInt8) (k : Nat) (hk : k ≤ 15) :
    UInt8.ofInt (Go.ior (Go.ishlc (atoiOr 0 c2 : Nat) 4) (atoiOr 0 c1 : Nat)) = nib (atoiOr 0 c2) (atoiOr 0 c1) ∧
    UInt8.ofInt (Go.ior (Go.ishlc (k : Int) 4) (atoiOr 0 c3 : Nat)) = nib k (atoiOr 0 c3) ∧
    UInt8.ofInt (Go.ior (Go.ishlc (atoiOr 0 n2 : Nat) 4) (atoiOr 0 n1 : Nat)) = nib (atoiOr 0 n2) (atoiOr 0 n1) :=
  have b := fun c => Nat.lt_succ_of_le (atoiOr_le 0 c (Nat.zero_le _))
  ⟨nib_eq _ (b c2) _ (b c1), nib_eq _ (Nat.lt_succ_of_le hk) _ (b c3), nib_eq _ (b n2) _ (b n1)⟩

/-- **Tie.** `PlmnIDToNas`: same three octets, same panics (MCC shorter than 3, MNC shorter than 2). -/
theorem PlmnIDToNas_eq (mcc mnc : Bytes) :
    Pure.Convert.PlmnIDToNas { Mcc := mcc, Mnc := mnc } = plmnIDToNas mcc mnc := by
  match mcc, mnc with
  | [], _ | [_], _ | [_, _], _ | _ :: _ :: _ :: _, [] | _ :: _ :: _ :: _, [_] => rfl
  | c1 :: c2 :: c3 :: _, n1 :: n2 :: nrest =>
    -- the third MNC digit is read only under `len(plmnID.Mnc) == 3`
    unfold Pure.Convert.PlmnIDToNas plmnIDToNas
    rcases nrest with _ | ⟨n3, _ | ⟨n4, r⟩⟩
    · simp [Go.idx, atoi_sel0, Go.len]
      exact nibs_eq c1 c2 c3 n1 n2 15 (Nat.le_refl _)
    · simp [Go.idx, atoi_sel0, atoi_sel15, Go.len]
      exact nibs_eq c1 c2 c3 n1 n2 _ (atoiOr_le 15 n3 (Nat.le_refl _))
    · have hne : ¬ ((r.length : Int) + 1 + 1 + 1 + 1 = 3) := by omega
      simp [Go.idx, atoi_sel0, Go.len, hne]
      exact nibs_eq c1 c2 c3 n1 n2 15 (Nat.le_refl _)

/-- non-trivial instances: PLMN 208/93 and 310/410 -/
example : Pure.Convert.PlmnIDToNas { Mcc := [50, 48, 56], Mnc := [57, 51] } = .ok [0x02, 0xf8, 0x39] := by rfl
example : Pure.Convert.PlmnIDToNas { Mcc := [51, 49, 48], Mnc := [52, 49, 48] } = .ok [0x13, 0x00, 0x14] := by rfl

end Stgutg.Proofs.GenTie.Convert
