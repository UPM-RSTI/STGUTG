import Stgutg.Model.FailStop

/-!
# Fail-stop for any list of operations (C19; core Lean only)

Nothing here mentions the generated script.

Two kinds of fact. What a run prints, how long it sleeps and that it is never both blocked and terminated hold of every
operation list (`exec_rel`). That a fault ahead ends the run is one induction (`exec_stops`), which the two fault
models instantiate: the faulty reply (`failstop_core`) and the peer that closes between two uplink messages
(`failstop_close_after`).
-/
namespace Stgutg.Proofs.FailStop
open Stgutg.Model.FailStop

/-- the process terminated with a non-zero status -/
def Dead (s : St) : Prop := ∃ e, s.exit = some e ∧ e ≠ 0

/-- the fault classes of the property at a read whose strictness is `strict`: the peer has closed, or it sent
    undecodable octets to a read whose decoder error is checked -/
def isFault (strict : Bool) : Reply → Bool
  | .closed => true
  | .garbage => strict
  | _ => false

theorem exec_done (A : List Op) (s : St) (h : s.done = true) : exec A s = s := by
  cases A <;> simp [exec, h]

theorem exec_cons_running (op : Op) (A : List Op) (s : St) (h : s.done = false) :
    exec (op :: A) s = exec A (step op s) := by
  simp [exec, h]

theorem exec_append (A B : List Op) (s : St) : exec (A ++ B) s = exec B (exec A s) := by
  induction A generalizing s with
  | nil => simp [exec]
  | cons a as ih =>
    by_cases h : s.done = true
    · simp [exec, h, exec_done]
    · simp [exec, h, ih]

theorem dead_done {s : St} (h : Dead s) : s.done = true := by
  obtain ⟨e, he, _⟩ := h
  simp [St.done, he]

theorem running {s : St} (h : s.done = false) : s.exit = none ∧ s.blocked = false := by
  simpa [St.done] using h

theorem bind_eq (s : St) (var : Option Nat) (v : Val) : ∃ env, s.bind var v = { s with env := env } := by
  cases var <;> exact ⟨_, rfl⟩

/-- a refused buffer stops the program exactly at a strict read; elsewhere at most the environment changes -/
theorem decodeFail_eq (s : St) (d : Bool) (var : Option Nat) (dc : Bool) (ed : String) :
    ((d && dc) = true ∧ s.decodeFail d var dc ed = s.fail ed) ∨
    ((d && dc) = false ∧ ∃ env, s.decodeFail d var dc ed = { s with env := env }) := by
  cases d with
  | false => exact .inr ⟨rfl, s.env, rfl⟩
  | true =>
    cases dc with
    | true => exact .inl ⟨rfl, rfl⟩
    | false => exact .inr ⟨rfl, bind_eq s var .nil⟩

theorem sleepTotal_cons (op : Op) (A : List Op) : sleepTotal (op :: A) = sleepTotal [op] + sleepTotal A := by
  cases op <;> simp [sleepTotal]

theorem step_frame (op : Op) (s : St) :
    (∀ t, Out.line t ∈ (step op s).printed → Out.line t ∈ s.printed ∨ .print t = op) ∧
    (step op s).sleptMs = s.sleptMs + sleepTotal [op] ∧
    (s.blocked = false → (step op s).blocked = true → (step op s).exit = s.exit) := by
  cases op with
  | recv rc er d var dc ed =>
    simp only [step]
    split
    · split
      · simp +contextual [St.fail, sleepTotal]
      · rcases decodeFail_eq { s with peerClosed := true } d var dc ed with ⟨_, h⟩ | ⟨_, env, h⟩ <;> rw [h] <;>
          simp +contextual [St.fail, sleepTotal]
    · split
      · simp [sleepTotal]
      · rename_i r rest _
        cases r with
        | closed =>
          simp only []
          split
          · simp +contextual [St.fail, sleepTotal]
          · rcases decodeFail_eq { s with rs := rest, consumed := s.consumed + 1, peerClosed := true } d var dc ed
              with ⟨_, h⟩ | ⟨_, env, h⟩ <;> rw [h] <;> simp +contextual [St.fail, sleepTotal]
        | garbage =>
          rcases decodeFail_eq { s with rs := rest, consumed := s.consumed + 1, dl := s.dl + 1 } d var dc ed
            with ⟨_, h⟩ | ⟨_, env, h⟩ <;> simp only [h] <;> simp +contextual [St.fail, sleepTotal]
        | ok =>
          obtain ⟨env, h⟩ := bind_eq { s with rs := rest, consumed := s.consumed + 1, dl := s.dl + 1 } var .good
          simp only [h]; simp +contextual [sleepTotal]
        | other =>
          obtain ⟨env, h⟩ := bind_eq { s with rs := rest, consumed := s.consumed + 1, dl := s.dl + 1 } var .other
          simp only [h]; simp +contextual [sleepTotal]
  | write n nas c e => simp only [step]; split <;> (try split) <;> simp +contextual [St.fail, sleepTotal]
  | use v g e => simp only [step]; split <;> (try split) <;> simp +contextual [St.fail, St.panic, sleepTotal]
  | need l i => simp only [step]; split <;> simp +contextual [St.panic, sleepTotal]
  | exit c => exact ⟨fun _ h => .inl h, rfl, fun hb h => Bool.noConfusion (hb.symm.trans (h : s.blocked = true))⟩
  | print text => simp +contextual [step, sleepTotal]
  -- the others leave `printed`, `exit` and (but for `sleep`) `sleptMs` as they are
  | _ => exact ⟨fun _ h => .inl h, rfl, fun _ _ => rfl⟩

/-- a relation between the operations, the state before and the state after holds of `exec` if it holds of a run that
    does nothing and is carried backwards over one step -/
theorem exec_rel {R : List Op → St → St → Prop} (refl : ∀ A s, R A s s)
    (cons : ∀ op A s o, s.done = false → R A (step op s) o → R (op :: A) s o) : ∀ A s, R A s (exec A s) := by
  intro A
  induction A with
  | nil => intro s; exact refl [] s
  | cons op rest ih =>
    intro s
    by_cases hd : s.done = true
    · rw [exec_done _ _ hd]; exact refl _ s
    · have hd : s.done = false := by simpa using hd
      rw [exec_cons_running op rest s hd]
      exact cons op rest s _ hd (ih _)

theorem exec_printed (A : List Op) (s : St) (t : String) :
    Out.line t ∈ (exec A s).printed → Out.line t ∈ s.printed ∨ Op.print t ∈ A := by
  refine exec_rel (R := fun A s o => Out.line t ∈ o.printed → Out.line t ∈ s.printed ∨ Op.print t ∈ A)
    (fun _ _ => Or.inl) ?_ A s
  intro op A s o _ ih h
  rcases ih h with h | h
  · rcases (step_frame op s).1 t h with h | h
    · exact Or.inl h
    · exact Or.inr (h ▸ List.mem_cons_self)
  · exact Or.inr (List.mem_cons_of_mem _ h)

theorem exec_slept (A : List Op) (s : St) : (exec A s).sleptMs ≤ s.sleptMs + sleepTotal A := by
  refine exec_rel (R := fun A s o => o.sleptMs ≤ s.sleptMs + sleepTotal A) (fun _ _ => Nat.le_add_right _ _) ?_ A s
  intro op A s o _ ih
  have := (step_frame op s).2.1
  have := sleepTotal_cons op A
  omega

/-- a state is never both blocked and terminated -/
theorem blocked_no_exit (A : List Op) (s : St) :
    (s.blocked = true → s.exit = none) → (exec A s).blocked = true → (exec A s).exit = none := by
  refine exec_rel (R := fun _ s o => (s.blocked = true → s.exit = none) → o.blocked = true → o.exit = none)
    (fun _ _ h => h) ?_ A s
  intro op A s o hrun ih _
  obtain ⟨he, hb⟩ := running hrun
  exact ih fun h => he ▸ (step_frame op s).2.2 hb h

/-! ### one safe step in a running state -/

def isRecv : Op → Bool
  | .recv .. => true
  | _ => false

def isWrite : Op → Bool
  | .write .. => true
  | _ => false

theorem kinds_cons_nonrecv (op : Op) (A : List Op) (h : isRecv op = false) : kinds (op :: A) = kinds A := by
  cases op <;> simp_all [kinds, isRecv]

theorem writes_cons_other (op : Op) (A : List Op) (h : isWrite op = false) : writes (op :: A) = writes A := by
  cases op <;> simp_all [writes, isWrite]

theorem step_other (op : Op) (s : St) (hr : isRecv op = false) (hw : isWrite op = false) :
    (step op s).ulLeft = s.ulLeft ∧ (step op s).ul = s.ul ∧ (step op s).peerClosed = s.peerClosed := by
  cases op with
  | recv => simp [isRecv] at hr
  | write => simp [isWrite] at hw
  | use v g e =>
    simp only [step]
    cases lookupVal s.env v <;> cases g <;> simp [St.fail, St.panic]
  | need l i => simp only [step]; split <;> simp [St.panic]
  | _ => simp [step]

/-- a checked read with a reply pending: the program stops, or it has consumed a reply that is no fault at this read
    and runs on -/
theorem step_recv {s s' : St} (hrun : s.done = false) (hne : s.rs ≠ []) {er ed : String} {d dc : Bool}
    {var : Option Nat} (h : step (.recv true er d var dc ed) s = s') :
    s'.sessions = s.sessions ∧ s'.ul = s.ul ∧ s'.ulLeft = s.ulLeft ∧ s'.consumed ≤ s.consumed + 1 ∧
    (Dead s' ∨ ∃ r rs', s.rs = r :: rs' ∧ isFault (d && dc) r = false ∧
      s'.done = false ∧ s'.rs = rs' ∧ s'.consumed = s.consumed + 1) := by
  subst h
  obtain ⟨he, hb⟩ := running hrun
  simp only [step]
  split
  · simp [St.fail, Dead]
  · cases hrs : s.rs with
    | nil => exact absurd hrs hne
    | cons r rs' =>
      cases r with
      | closed => simp [St.fail, Dead]
      | garbage =>
        rcases decodeFail_eq { s with rs := rs', consumed := s.consumed + 1, dl := s.dl + 1 } d var dc ed
          with ⟨_, h⟩ | ⟨hd, env, h⟩ <;> simp only [h]
        · simp [St.fail, Dead]
        · simp [St.done, he, hb, isFault, hd]
      | ok =>
        obtain ⟨env, h⟩ := bind_eq { s with rs := rs', consumed := s.consumed + 1, dl := s.dl + 1 } var .good
        simp only [h]; simp [St.done, he, hb, isFault]
      | other =>
        obtain ⟨env, h⟩ := bind_eq { s with rs := rs', consumed := s.consumed + 1, dl := s.dl + 1 } var .other
        simp only [h]; simp [St.done, he, hb, isFault]

/-- a safe operation that is not a read consumes nothing, and stops the program or lets it run on -/
theorem step_nonrecv (op : Op) (s : St) (hr : isRecv op = false) (hs : safeOp op = true) (hrun : s.done = false) :
    (step op s).rs = s.rs ∧ (step op s).consumed = s.consumed ∧
    (Dead (step op s) ∨ (step op s).done = false) ∧
    (∀ x ∈ (step op s).sessions, x ∈ s.sessions ∨ x = s.consumed) := by
  obtain ⟨he, hb⟩ := running hrun
  cases op with
  | recv => simp [isRecv] at hr
  | write n nas c e =>
    simp only [safeOp] at hs
    subst hs
    simp only [step]
    split <;> simp +contextual [St.fail, St.done, hb, he, Dead]
  | use v g e =>
    simp only [step]
    split <;> (try split) <;> simp +contextual [St.fail, St.panic, St.done, hb, he, Dead]
  | exit c =>
    simp only [safeOp, bne_iff_ne, ne_eq] at hs
    simp +contextual [step, Dead, hs]
  | need l i => simp only [step]; split <;> simp +contextual [St.panic, St.done, hb, he, Dead]
  | bad w => simp [safeOp] at hs
  | report => simp +contextual [step, St.done, hb, he]
  -- the others change neither the exit status nor anything the statement mentions
  | _ => exact ⟨rfl, rfl, .inr hrun, fun _ h => .inl h⟩

/-! ### a fault ahead ends the run -/

/-- The induction behind fail-stop, for any description `H A s` of "a fault lies ahead of `s` in `A`": if no fault lies
    ahead of the empty list, and one step from a running state either ends the program in a state with `Q` or leaves a
    running state with the fault still ahead, then the run ends the program in a state with `Q`. -/
theorem exec_stops {H : List Op → St → Prop} {Q : St → Prop} (hnil : ∀ s, ¬H [] s)
    (hstep : ∀ op A s, s.done = false → H (op :: A) s →
      (Dead (step op s) ∧ Q (step op s)) ∨ ((step op s).done = false ∧ H A (step op s))) :
    ∀ A s, s.done = false → H A s → Dead (exec A s) ∧ Q (exec A s) := by
  intro A
  induction A with
  | nil => intro s _ h; exact absurd h (hnil s)
  | cons op rest ih =>
    intro s hrun h
    rw [exec_cons_running op rest s hrun]
    rcases hstep op rest s hrun h with hd | ⟨hrun', h'⟩
    · rwa [exec_done _ _ (dead_done hd.1)]
    · exact ih _ hrun' h'

/-- what one run segment guarantees once a fault lies `j` reads ahead -/
structure Stopped (s o : St) (j : Nat) (A : List Op) : Prop where
  dead : Dead o
  consumed : o.consumed ≤ s.consumed + j + 1
  sessions : ∀ x ∈ o.sessions, x ∈ s.sessions ∨ x ≤ s.consumed + j
  printed : ∀ t, Out.line t ∈ o.printed → Out.line t ∈ s.printed ∨ Op.print t ∈ A
  slept : o.sleptMs ≤ s.sleptMs + sleepTotal A

/-- **Core of fail-stop.** `A` is any list of safe operations, `s` any running state. If the reply that the `j`-th read
    of `A` will consume is a fault (the peer closed; or undecodable octets at a read whose decoder error is checked),
    then running `A` terminates the process with a non-zero status, no read is performed after that one, no session is
    reported after it, only lines of `A` itself are printed, and the time slept is bounded by `A`'s sleeps.
    No assumption is made about the other replies. -/
theorem failstop_core (A : List Op) (hA : ∀ op ∈ A, safeOp op = true) :
    ∀ (s : St) (j : Nat), s.done = false → j < (kinds A).length →
      (∃ r, s.rs[j]? = some r ∧ isFault ((kinds A)[j]?.getD false) r = true) →
      Stopped s (exec A s) j A := by
  intro s₀ j₀ hrun₀ hj₀ hf₀
  -- the faulty reply is the `K`-th the program consumes, counted from the start of the process
  let K := s₀.consumed + j₀
  let Seen (s : St) : Prop := ∀ x ∈ s.sessions, x ∈ s₀.sessions ∨ x ≤ K
  have := exec_stops (Q := fun o => o.consumed ≤ K + 1 ∧ Seen o)
    (H := fun A s => (∀ op ∈ A, safeOp op = true) ∧ Seen s ∧ ∃ j, s.consumed + j = K ∧ j < (kinds A).length ∧
      ∃ r, s.rs[j]? = some r ∧ isFault ((kinds A)[j]?.getD false) r = true)
    (by rintro s ⟨_, _, j, _, hj, _⟩; simp [kinds] at hj) ?_ A s₀ hrun₀
    ⟨hA, fun x hx => Or.inl hx, j₀, rfl, hj₀, hf₀⟩
  · exact ⟨this.1, this.2.1, this.2.2, exec_printed A s₀, exec_slept A s₀⟩
  rintro op A s hrun ⟨hA, hS, j, hK, hj, r, hr, hf⟩
  have hop : safeOp op = true := hA op List.mem_cons_self
  have hA' : ∀ op ∈ A, safeOp op = true := fun o ho => hA o (List.mem_cons_of_mem _ ho)
  cases hrecv : isRecv op with
  | true =>
    cases op with
    | recv rc er d var dc ed =>
      simp only [safeOp, Bool.and_eq_true] at hop
      obtain ⟨rfl, _⟩ := hop
      have hne : s.rs ≠ [] := by intro h; simp [h] at hr
      obtain ⟨hsess, _, _, hc, hd | ⟨r₀, rs', hrs, hnf, hrun', hrs', hc'⟩⟩ := step_recv hrun hne rfl
      · exact Or.inl ⟨hd, by omega, fun x hx => hS x (hsess ▸ hx)⟩
      · refine Or.inr ⟨hrun', hA', fun x hx => hS x (hsess ▸ hx), ?_⟩
        cases j with
        | zero =>
          -- the reply just consumed is the faulty one, and it is no fault at this read
          simp only [hrs, kinds, List.getElem?_cons_zero, Option.some.injEq, Option.getD_some] at hr hf
          rw [hr, hf] at hnf; cases hnf
        | succ j =>
          exact ⟨j, by omega, by simpa [kinds] using hj, r, by simpa [hrs, hrs'] using hr, by simpa [kinds] using hf⟩
    | _ => simp [isRecv] at hrecv
  | false =>
    obtain ⟨hrs, hc, hd | hrun', hsess⟩ := step_nonrecv op s hrecv hop hrun
    all_goals
      have hS' : Seen (step op s) := fun x hx => (hsess x hx).elim (hS x) fun h => Or.inr (by omega)
    · exact Or.inl ⟨hd, by omega, hS'⟩
    · rw [kinds_cons_nonrecv op A hrecv] at hj hf
      exact Or.inr ⟨hrun', hA', hS', j, by omega, hj, r, hrs ▸ hr, hf⟩

/-! ### the peer closes between two uplink messages -/

structure StoppedC (s o : St) (w : Nat) (A : List Op) : Prop where
  dead : Dead o
  printed : ∀ t, Out.line t ∈ o.printed → Out.line t ∈ s.printed ∨ Op.print t ∈ A
  ul : o.ul.length ≤ s.ul.length + w

/-- **The peer closes after accepting `w` more uplink messages.** If the program still has more than `w` writes to do
    in `A` and `s.rs` holds a reply (of any kind) for every read of `A`, the process terminates with a non-zero status:
    the next write meets EPIPE or the next read meets EOF, and both are checked. -/
theorem failstop_close_after (A : List Op) (hA : ∀ op ∈ A, safeOp op = true) :
    ∀ (s : St) (w : Nat), s.done = false → s.ulLeft = some w → w < writes A → (kinds A).length ≤ s.rs.length →
      StoppedC s (exec A s) w A := by
  intro s₀ w₀ hrun₀ hul₀ hw₀ hlen₀
  -- the peer accepts `U` messages in all, counted from the start of the process
  let U := s₀.ul.length + w₀
  have := exec_stops (Q := fun o => o.ul.length ≤ U)
    (H := fun A s => (∀ op ∈ A, safeOp op = true) ∧ (kinds A).length ≤ s.rs.length ∧
      ∃ w, s.ulLeft = some w ∧ w < writes A ∧ s.ul.length + w ≤ U)
    (by rintro s ⟨_, _, w, _, hw, _⟩; simp [writes] at hw) ?_ A s₀ hrun₀
    ⟨hA, hlen₀, w₀, hul₀, hw₀, Nat.le_refl _⟩
  · exact ⟨this.1, exec_printed A s₀, this.2⟩
  rintro op A s hrun ⟨hA, hlen, w, hul, hw, hU⟩
  have hop : safeOp op = true := hA op List.mem_cons_self
  have hA' : ∀ op ∈ A, safeOp op = true := fun o ho => hA o (List.mem_cons_of_mem _ ho)
  cases hrecv : isRecv op with
  | true =>
    cases op with
    | recv rc er d var dc ed =>
      simp only [safeOp, Bool.and_eq_true] at hop
      obtain ⟨rfl, _⟩ := hop
      have hne : s.rs ≠ [] := by intro h; simp [h, kinds] at hlen
      obtain ⟨_, hu, hl, _, hd | ⟨r₀, rs', hrs, _, hrun', hrs', _⟩⟩ := step_recv hrun hne rfl
      all_goals rw [← hu] at hU
      · exact Or.inl ⟨hd, by omega⟩
      · refine Or.inr ⟨hrun', hA', ?_, w, hl ▸ hul, by simpa [writes] using hw, hU⟩
        simp only [hrs, kinds, List.length_cons] at hlen
        rw [hrs']; omega
    | _ => simp [isRecv] at hrecv
  | false =>
    rw [kinds_cons_nonrecv op A hrecv] at hlen
    cases hwrite : isWrite op with
    | true =>
      cases op with
      | write n nas c e =>
        obtain rfl : c = true := hop
        obtain ⟨he, hb⟩ := running hrun
        by_cases hc : s.isClosed = true
        · -- EPIPE
          exact Or.inl (by simpa [step, hc, St.fail, Dead] using Nat.le_of_add_right_le hU)
        · -- the peer accepts this message: `w ≥ 1`
          have hw0 : w ≠ 0 := by intro h0; simp [St.isClosed, hul, h0] at hc
          refine Or.inr ⟨by simp [step, hc, St.done, he, hb], hA', by simpa [step, hc] using hlen, w - 1, ?_⟩
          simp only [writes] at hw
          simp [step, hc, hul]
          omega
      | _ => simp [isWrite] at hwrite
    | false =>
      obtain ⟨hl, hu, _⟩ := step_other op s hrecv hwrite
      rw [← hu] at hU
      obtain ⟨hrs, _, hd | hrun', _⟩ := step_nonrecv op s hrecv hop hrun
      · exact Or.inl ⟨hd, by omega⟩
      · rw [writes_cons_other op A hwrite] at hw
        exact Or.inr ⟨hrun', hA', hrs ▸ hlen, w, hl ▸ hul, hw, hU⟩

/-! ### flattening: per-piece facts lift to the whole run, for every configuration -/

def stmtSafe (procs : List (String × List Act)) : Stmt → Bool
  | .act a => (fuse [a]).all safeOp
  | .call p _ => (procOps procs p).all safeOp
  | .append _ => true

def itemSafe (procs : List (String × List Act)) : MainItem → Bool
  | .stmt s => stmtSafe procs s
  | .loop _ body => body.all (stmtSafe procs)

theorem safe_flatStmt (procs : List (String × List Act)) (st : Stmt) (h : stmtSafe procs st = true) (i : Nat) :
    ∀ op ∈ flatStmt procs i st, safeOp op = true := by
  intro op hop
  cases st with
  | act a => simp only [stmtSafe, List.all_eq_true] at h; exact h op hop
  | call p needs =>
    simp only [stmtSafe, List.all_eq_true] at h
    simp only [flatStmt, List.mem_append, List.mem_map] at hop
    rcases hop with ⟨l, _, rfl⟩ | hop
    · rfl
    · exact h op hop
  | append l => simp only [flatStmt, List.mem_singleton] at hop; subst hop; rfl

theorem safe_flatItem (procs : List (String × List Act)) (c : Counts) (it : MainItem) (h : itemSafe procs it = true) :
    ∀ op ∈ flatItem procs c it, safeOp op = true := by
  intro op hop
  cases it with
  | stmt s => exact safe_flatStmt procs s h 0 op hop
  | loop b body =>
    simp only [itemSafe, List.all_eq_true] at h
    simp only [flatItem, List.mem_flatMap] at hop
    obtain ⟨i, _, st, hst, hop⟩ := hop
    exact safe_flatStmt procs st (h st hst) i op hop

theorem safe_flatItems (procs : List (String × List Act)) (c : Counts) (items : List MainItem)
    (h : items.all (itemSafe procs) = true) : ∀ op ∈ flatItems procs c items, safeOp op = true := by
  intro op hop
  simp only [flatItems, List.mem_flatMap] at hop
  obtain ⟨it, hit, hop⟩ := hop
  exact safe_flatItem procs c it (List.all_eq_true.mp h it hit) op hop

theorem flatItems_append (procs : List (String × List Act)) (c : Counts) (a b : List MainItem) :
    flatItems procs c (a ++ b) = flatItems procs c a ++ flatItems procs c b := by
  simp [flatItems, List.flatMap_append]

/-! ### static views of a flattened run -/

/-- `n` copies of `K` -/
def rep {α : Type} (n : Nat) (K : List α) : List α := (List.range n).flatMap (fun _ => K)

theorem rep_zero {α : Type} (K : List α) : rep 0 K = [] := rfl

theorem rep_succ {α : Type} (n : Nat) (K : List α) : rep (n + 1) K = K ++ rep n K := by
  simp [rep, List.range_succ_eq_map, List.flatMap_map]

theorem rep_length {α : Type} (n : Nat) (K : List α) : (rep n K).length = n * K.length := by
  induction n with
  | zero => simp [rep_zero]
  | succ n ih => simp [rep_succ, ih, Nat.succ_mul, Nat.add_comm]

theorem mem_rep {α : Type} {n : Nat} {K : List α} {x : α} (h : x ∈ rep n K) : x ∈ K := by
  simp only [rep, List.mem_flatMap] at h
  obtain ⟨_, _, hx⟩ := h
  exact hx

/-- `[true, true, true, false]` are the four reads of `RegisterUE`, the last of which ignores what it reads -/
theorem false_positions (n : Nat) (T : List Bool) (hT : ∀ x ∈ T, x = true) :
    ∀ k, (rep n [true, true, true, false] ++ T)[k]? = some false ↔ ∃ i, i < n ∧ k = 4 * i + 3 := by
  induction n with
  | zero =>
    intro k
    simp only [rep_zero, List.nil_append]
    constructor
    · intro h
      have := hT false (List.mem_of_getElem? h)
      simp at this
    · rintro ⟨i, hi, _⟩; omega
  | succ n ih =>
    intro k
    rw [rep_succ, List.append_assoc]
    match k with
    | 0 => simp
    | 1 => simp
    | 2 => simp
    | 3 => simp; exact ⟨0, by omega, by omega⟩
    | k + 4 =>
      have : ([true, true, true, false] ++ (rep n [true, true, true, false] ++ T))[k + 4]? =
          (rep n [true, true, true, false] ++ T)[k]? := by
        simp [List.getElem?_cons_succ]
      rw [this, ih k]
      constructor
      · rintro ⟨i, hi, hk⟩; exact ⟨i + 1, by omega, by omega⟩
      · rintro ⟨i, hi, hk⟩
        match i with
        | 0 => omega
        | i + 1 => exact ⟨i, by omega, by omega⟩

/-- `kinds` and `writes` collect, operation by operation, what `kindOf` and `writeOf` give; `L[i]` contributes to
    neither, so a loop contributes as many copies of its body's view as it has turns (`flatMap_flatItems`) -/
def kindOf : Op → List Bool
  | .recv _ _ decoded _ dc _ => [decoded && dc]
  | _ => []

def writeOf : Op → List Unit
  | .write .. => [()]
  | _ => []

theorem kinds_eq (A : List Op) : kinds A = A.flatMap kindOf := by
  induction A with
  | nil => rfl
  | cons a as ih => cases a <;> simp only [kinds, kindOf, List.flatMap_cons, List.nil_append, List.cons_append, ih]

theorem writes_eq (A : List Op) : writes A = (A.flatMap writeOf).length := by
  induction A with
  | nil => rfl
  | cons a as ih =>
    cases a <;> simp only [writes, writeOf, List.flatMap_cons, List.nil_append, List.cons_append, List.length_cons, ih]

def itemView {β : Type} (f : Op → List β) (procs : List (String × List Act)) (c : Counts) : MainItem → List β
  | .stmt s => (flatStmt procs 0 s).flatMap f
  | .loop b body => rep (b.eval c).toNat ((body.flatMap (flatStmt procs 0)).flatMap f)

theorem flatMap_flatStmt {β : Type} (f : Op → List β) (hneed : ∀ l i, f (.need l i) = [])
    (procs : List (String × List Act)) (i : Nat) (st : Stmt) :
    (flatStmt procs i st).flatMap f = (flatStmt procs 0 st).flatMap f := by
  cases st with
  | call p needs => simp [flatStmt, List.flatMap_append, List.flatMap_map, hneed]
  | _ => rfl

theorem flatMap_flatItems {β : Type} (f : Op → List β) (hneed : ∀ l i, f (.need l i) = [])
    (procs : List (String × List Act)) (c : Counts) (items : List MainItem) :
    (flatItems procs c items).flatMap f = items.flatMap (itemView f procs c) := by
  simp only [flatItems, List.flatMap_assoc]
  congr 1
  funext it
  cases it with
  | stmt s => rfl
  | loop b body => simp only [flatItem, itemView, rep, List.flatMap_assoc, flatMap_flatStmt f hneed procs _ _]

end Stgutg.Proofs.FailStop
