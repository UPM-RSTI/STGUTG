import Stgutg.Gen.PureUe
import Stgutg.Model.UeIdentity
/-!
  Tie by translation (C16): `Gen/PureUe.lean` is regenerated from src/stgutg/ue.go `CreateUE` on every run by
  `gen pure-ue`. The translator covers the arithmetic part of the function — the statements before
  `ue := tglib.NewRanUeContext(…)`, i.e. how RAN-UE-NGAP-ID and SUPI are computed from the IMSI and the UE number —
  and pins the rest of the body (three statements that hand those two values to the constructors) and the signature
  as text. `strconv.Atoi` and the `%0*d` verb of `fmt.Sprintf` are standard-library calls: the translated function
  takes them as parameters (`Go.Ext`), instantiated here with the hand models of `Model/UeIdentity.lean`.
-/
namespace Stgutg.Proofs.GenTie.Ue
open Stgutg Stgutg.Gen
open Stgutg.Model.UeIdentity

/-- the standard-library calls of `CreateUE`, as the hand model has them (`hexDecode`, `fmtD` are not called) -/
def ext : Go.Ext :=
  { atoi := atoi, hexDecode := fun _ => ([], true), fmtD := fun _ => [], fmtD0Star := fun w v => fmtPad0 w.toNat v }

/-- **Tie (arithmetic).** RAN-UE-NGAP-ID and SUPI of the hand model are the translated Go expressions. -/
theorem CreateUE_ids (imsi : Bytes) (ueNumber : Int) (k opc op : Bytes) :
    Pure.Ue.CreateUE ext imsi ueNumber k opc op
      = ((createUE imsi ueNumber k opc op).ranUeNgapId, (createUE imsi ueNumber k opc op).supi) := by
  simp [Pure.Ue.CreateUE, createUE, ext, setAuthSubscription, newRanUeContext, Go.imodc, Go.iadd, Go.wrapInt, wrap64,
    Go.len, imsiPrefix]

/-- **Tie (whole function).** The hand model is: the translated prefix, then the pinned tail
    `NewRanUeContext(supi, int64(ranUeNgapId), NEA0, NIA2)`, `AuthenticationSubs = GetAuthSubscription(K, OPC, OP)`. -/
theorem CreateUE_eq (imsi : Bytes) (ueNumber : Int) (k opc op : Bytes) :
    createUE imsi ueNumber k opc op =
      setAuthSubscription
        (newRanUeContext (Pure.Ue.CreateUE ext imsi ueNumber k opc op).2 (Pure.Ue.CreateUE ext imsi ueNumber k opc op).1
          algCiphering128NEA0 algIntegrity128NIA2) k opc op := by
  rw [CreateUE_ids]; rfl

/-- **Pin.** The statements after the translated prefix, the signature, and the values of the two algorithm constants
    those statements name are what the hand model (`newRanUeContext`, `setAuthSubscription`, `algCiphering128NEA0`,
    `algIntegrity128NIA2`) was written against. -/
theorem CreateUE_tail :
    Pure.Ue.CreateUE.tail =
      ["ue := tglib.NewRanUeContext(supi, int64(ranUeNgapId), security.AlgCiphering128NEA0, security.AlgIntegrity128NIA2)",
       "ue.AuthenticationSubs = tglib.GetAuthSubscription(K, OPC, OP)",
       "return ue"] ∧
    Pure.Ue.CreateUE.signature = "func(imsi string, ueNumber int, K string, OPC string, OP string) *tglib.RanUeContext" ∧
    Pure.Ue.CreateUE.tailConsts =
      [("security.AlgCiphering128NEA0", (algCiphering128NEA0.toNat : Int)), ("security.AlgIntegrity128NIA2", (algIntegrity128NIA2.toNat : Int))] :=
  ⟨rfl, rfl, rfl⟩

/-- non-trivial instance: IMSI 208930000000003, UE number 7 -/
example : Pure.Ue.CreateUE ext [50, 48, 56, 57, 51, 48, 48, 48, 48, 48, 48, 48, 48, 48, 51] 7 [] [] []
    = (10, [105, 109, 115, 105, 45, 50, 48, 56, 57, 51, 48, 48, 48, 48, 48, 48, 48, 48, 49, 48]) := by decide

end Stgutg.Proofs.GenTie.Ue
