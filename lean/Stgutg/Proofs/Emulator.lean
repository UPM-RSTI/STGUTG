/-
  Helper lemmas for C01 / C02 (Props/C01.lean, Props/C02.lean): the outcome monad of Model/Emulator.lean, the two loops of
  test mode, the NAS COUNTs of the specification's UE over a run of protected messages, one protected uplink message as
  the reference AMF (Spec/Amf.lean) sees it, and that the reference AMF decodes the octets of a built PDU to that PDU (C04, C03;
  the TS 38.413 constraint table changes nothing in the regenerated schema).
-/
import Stgutg.Model.Emulator
import Stgutg.Spec.Amf
import Stgutg.Props.C03
import Stgutg.Props.C04
import Stgutg.Props.C05
import Stgutg.Props.C06
import Stgutg.Props.C12
import Stgutg.Props.C13
import Stgutg.Props.C16

namespace Stgutg.Proofs.Emulator
open Stgutg Stgutg.Model.Emulator Stgutg.Model.NasProtect Stgutg.Proofs.NasProtect Stgutg.Spec.NasSecurity

theorem bind_apply {α β : Type} (m : M α) (f : α → M β) (w : World) :
    (m >>= f) w = match m w with
      | (w', .ok a) => f a w'
      | (w', .error e) => (w', .error e) := rfl

theorem pure_apply {α : Type} (a : α) (w : World) : (pure a : M α) w = (w, .ok a) := rfl

theorem stop_apply {α : Type} (s : Stop) (w : World) : (stop s : M α) w = (w, .error s) := rfl

/-- what no procedure after `CreateUE` / `RegisterUE` ever assigns: the identity part of the context -/
def ident (u : Ue) : Model.UeIdentity.RanUeContext × Int := (u.ctx, u.amfUeNgapId)

/-- `for i := 0; i < n; i++ { proc(ueList[i]) }`: when the loop completes, every index it used was inside the list, the list
    has the same length, and every UE still has the SUPI, RAN-UE-NGAP-ID, credentials and AMF-UE-NGAP-ID it had before -/
theorem forUes_ok (f : Ue → M UeSec) : ∀ (n i : Nat) (ues : List Ue) (w w' : World) (ues' : List Ue),
    forUes f n i ues w = (w', .ok ues') → ues'.map ident = ues.map ident ∧ (n = 0 ∨ i + n ≤ ues.length)
  | 0, _, ues, w, w', ues', h => by
    simp only [forUes, pure_apply] at h
    injection h with _ h2
    injection h2 with h2
    subst h2
    exact ⟨rfl, .inl rfl⟩
  | n + 1, i, ues, w, w', ues', h => by
    unfold forUes at h
    cases hi : ues[i]? with
    | none =>
      rw [hi] at h
      simp only [stop_apply] at h
      injection h with _ h2
      exact absurd h2 (by simp)
    | some ue =>
      rw [hi] at h
      simp only [bind_apply] at h
      cases hf : f ue w with
      | mk w1 r =>
        rw [hf] at h
        cases r with
        | error e =>
          simp only at h
          injection h with _ h2
          exact absurd h2 (by simp)
        | ok sec =>
          simp only at h
          obtain ⟨h1, h2⟩ := forUes_ok f n (i + 1) _ w1 w' ues' h
          have hil : i < ues.length := (List.getElem?_eq_some_iff.mp hi).1
          have hie : ues[i] = ue := (List.getElem?_eq_some_iff.mp hi).2
          refine ⟨?_, .inr ?_⟩
          · rw [h1, List.map_set]
            have : ident { ue with sec := sec } = ident ue := rfl
            rw [this, ← hie]
            apply List.ext_getElem (by simp)
            intro k hk1 hk2
            by_cases hki : i = k
            · subst hki; simp
            · rw [List.getElem_set_ne hki]
          · rcases h2 with h0 | hle
            · omega
            · rw [List.length_set] at hle; omega

/-- the registration loop appends one UE per iteration, created by `CreateUE(imsi, i, …)` with `i` the loop counter: when it
    completes the list has grown by `n` and the new contexts are those of indices `i, i+1, …` in order -/
theorem registerLoop_ok (P : Prims) (E : Model.Convert.Ext) (cfg : Cfg) : ∀ (n i : Nat) (ues : List Ue) (w w' : World) (ues' : List Ue),
    registerLoop P E cfg n i ues w = (w', .ok ues') →
      ues'.map (·.ctx) = ues.map (·.ctx) ++ (List.range' i n).map fun k : Nat => (createUE cfg (k : Int)).ctx
  | 0, _, ues, w, w', ues', h => by
    simp only [registerLoop, pure_apply] at h
    injection h with _ h2
    injection h2 with h2
    subst h2
    simp
  | n + 1, i, ues, w, w', ues', h => by
    unfold registerLoop at h
    simp only [bind_apply] at h
    cases hf : registerUE P E cfg (createUE cfg i) w with
    | mk w1 r =>
      rw [hf] at h
      cases r with
      | error e =>
        simp only at h
        injection h with _ h2
        exact absurd h2 (by simp)
      | ok res =>
        simp only at h
        have := registerLoop_ok P E cfg n (i + 1) _ w1 w' ues' h
        rw [this, List.range'_succ]
        simp

/-- the conformant UE uses `c, c+1, …` (mod 2^24) for a run of protected messages that take no new context into use -/
theorem ueRun_counts (P : Prims) (ctx : SecCtx) (sends : List UlSend) (c : Nat) (hc : c < 2 ^ 24)
    (h : ∀ m ∈ sends, m.ctxAvail = true ∧ m.newCtx = false) :
    (ueRun P ctx ⟨c⟩ sends).2.map (·.1) = (List.range sends.length).map fun k => some ((c + k) % 2 ^ 24) := by
  induction sends generalizing c with
  | nil => rfl
  | cons m ms ih =>
    have hm := h m (List.mem_cons_self ..)
    have hms : ∀ x ∈ ms, x.ctxAvail = true ∧ x.newCtx = false := fun x hx => h x (List.mem_cons_of_mem _ hx)
    have hc' : (c + 1) % countMod < 2 ^ 24 := by unfold countMod; omega
    simp only [ueRun, ueProtect, hm.1, hm.2, Bool.not_true, Bool.false_eq_true, if_false, List.map_cons, List.length_cons]
    rw [ih _ hc' hms, List.range_succ_eq_map, List.map_cons, List.map_map]
    congr 1
    · simp; omega
    · apply List.map_congr_left
      intro k _
      simp only [Function.comp, countMod]
      congr 1
      omega

/-- TS 24.501 4.4.3.1: from the last accepted COUNT `c` and the sequence number of COUNT `c + 1` the receiver estimates `c + 1` -/
theorem estimate_next (c : Nat) (h : c + 1 < 2 ^ 24) : estimate c (sqnOf (c + 1)) = c + 1 := by
  have := estimate_ahead c 1 (by omega) (by omega)
  rwa [Nat.mod_eq_of_lt h] at this

/-- the judge's NAS-security clause accepts what the specification's receiver accepts under the expected, fresh COUNT -/
theorem receiveUl_of_receive (P : Prims) (u : Spec.Amf.UeSt) (strict : Bool) (allowed : List Nat) (msg plain : Bytes) (c : Nat)
    (hall : allowed.contains (Spec.Amf.byteAt msg 1) = true)
    (hcount : Spec.Amf.expectedCount u strict (Spec.Amf.byteAt msg 1) (Spec.Amf.byteAt msg 6) = some c)
    (hfresh : Spec.Amf.fresh u (Spec.Amf.byteAt msg 1) c = true)
    (hrecv : receive P (Spec.Amf.ctxOf u) uplink c msg = some plain) :
    Spec.Amf.receiveUl P u strict allowed msg = .ok (plain, c) := by
  simp at hall
  simp [Spec.Amf.receiveUl, hall, hcount, hfresh, hrecv]

/-- the UE context holds the keys the network derived and the algorithms it selected (and they are supported ones) -/
def InStep (sec : UeSec) (u : Spec.Amf.UeSt) : Prop := ctxOf sec = Spec.Amf.ctxOf u ∧ Supported sec

/-- one protected `EncodeNasPduWithSecurity` call seen from the network: octet 2 is the header type, octet 7 the sequence
    number of the COUNT in force, the specification's receiver recovers the plain message under that COUNT with the
    network's keys, the context stays in step and the UL NAS COUNT advances by one -/
theorem protected_step (P : Prims) (hP : PrimsOk P) (sec : UeSec) (u : Spec.Amf.UeSt) (hin : InStep sec u)
    (plain : Bytes) (sht : UInt8) (newCtx : Bool) (hsht : protectedType sht.toNat = true) :
    ∃ out, (Model.NasProtect.encodeNasPduWithSecurity P sec plain sht true newCtx).2 = .ok out ∧
      Spec.Amf.byteAt out 1 = sht.toNat ∧
      Spec.Amf.byteAt out 6 = (if newCtx then 0 else cval sec.ulCount) % 256 ∧
      receive P (Spec.Amf.ctxOf u) uplink (if newCtx then 0 else cval sec.ulCount) out = some plain ∧
      InStep (Model.NasProtect.encodeNasPduWithSecurity P sec plain sht true newCtx).1 u ∧
      cval (Model.NasProtect.encodeNasPduWithSecurity P sec plain sht true newCtx).1.ulCount
        = ((if newCtx then 0 else cval sec.ulCount) + 1) % 2 ^ 24 := by
  obtain ⟨hctx, hs⟩ := hin
  obtain ⟨out, h1, h2, h3, -, h5, h6⟩ :=
    ul_step_full P sec { plain := plain, epd := 0x7e, sht := sht, ctxAvail := true, newCtx := newCtx } hs (fun _ => hsht)
  have hp : protect P (ctxOf sec) uplink (if newCtx then 0 else cval sec.ulCount) 0x7e sht.toNat plain = some out := by
    simpa [ueProtect] using h1
  obtain ⟨-, body, m0, m1, m2, m3, -, -, rfl⟩ := protect_eq_some P hP _ _ _ _ _ _ _ hp
  refine ⟨_, h2, by simp [Spec.Amf.byteAt], by simp [Spec.Amf.byteAt, sqnOf],
    hctx ▸ receive_protect P hP _ _ _ _ _ _ _ hp, ⟨h5.trans hctx, h6⟩, ?_⟩
  exact h3.trans (by simp [ueProtect, countMod])

/-- … and the judge's NAS-security clause accepts it, with the plain message recovered, when `c`, the COUNT in force at the UE, is
    the one the judge expects and has not seen -/
theorem protected_received (P : Prims) (hP : PrimsOk P) (sec : UeSec) (u : Spec.Amf.UeSt) (hin : InStep sec u)
    (plain : Bytes) (sht : UInt8) (newCtx : Bool) (hsht : protectedType sht.toNat = true) (strict : Bool) (allowed : List Nat)
    (c : Nat) (hc : (if newCtx then 0 else cval sec.ulCount) = c) (hall : allowed.contains sht.toNat = true)
    (hcount : Spec.Amf.expectedCount u strict sht.toNat (c % 256) = some c) (hfresh : Spec.Amf.fresh u sht.toNat c = true) :
    ∃ out, (Model.NasProtect.encodeNasPduWithSecurity P sec plain sht true newCtx).2 = .ok out ∧
      Spec.Amf.byteAt out 1 = sht.toNat ∧ Spec.Amf.receiveUl P u strict allowed out = .ok (plain, c) ∧
      InStep (Model.NasProtect.encodeNasPduWithSecurity P sec plain sht true newCtx).1 u ∧
      cval (Model.NasProtect.encodeNasPduWithSecurity P sec plain sht true newCtx).1.ulCount = (c + 1) % 2 ^ 24 := by
  obtain ⟨out, ho, h1, h6, hr, hin', hcnt⟩ := protected_step P hP sec u hin plain sht newCtx hsht
  rw [hc] at h6 hr hcnt
  exact ⟨out, ho, h1, receiveUl_of_receive P u strict allowed out plain c (by rw [h1]; exact hall) (by rw [h1, h6]; exact hcount)
    (by rw [h1]; exact hfresh) hr, hin', hcnt⟩

open Spec.Ts38413 in
theorem paramsEq_eq {a b : Aper.Params} (h : paramsEq a b = true) : a = b := by
  cases a; cases b
  simpa [paramsEq, and_assoc] using h

open Spec.Ts38413 in
/-- overriding a constraint with the tabled one changes nothing where the tag already carries the tabled constraint -/
theorem patchStruct_of_agrees (sd : Aper.StructDef) (h : agrees sd = true) : patchStruct sd = sd := by
  unfold agrees at h
  unfold patchStruct
  split
  · rename_i f hf
    simp only [hf] at h
    split
    · rename_i hv
      simp only [hv, if_true] at h
      split
      · rename_i p hp
        simp only [hp] at h
        rw [paramsEq_eq h, ← hf]
      · rfl
    · rename_i hv
      simp only [hv, Bool.false_eq_true, if_false] at h
      split
      · rename_i hl
        simp only [hl, if_true] at h
        split
        · rename_i lb ub hp
          simp only [hp, Bool.and_eq_true, beq_iff_eq] at h
          rw [← h.1, ← h.2, ← hf]
        · rfl
      · rfl
  · rfl

open Spec.Ts38413 in
theorem agrees_of_checkTable (env : Aper.Env) : ∀ (acc : Nat × Bool),
    (env.foldl (fun (acc : Nat × Bool) sd => (if tabled sd then acc.1 + 1 else acc.1, acc.2 && agrees sd)) acc).2 = true →
      acc.2 = true ∧ ∀ sd ∈ env, agrees sd = true := by
  induction env with
  | nil => intro acc h; exact ⟨h, by simp⟩
  | cons sd env ih =>
    intro acc h
    obtain ⟨h1, h2⟩ := ih _ h
    simp only [Bool.and_eq_true] at h1
    exact ⟨h1.1, by simpa using ⟨h1.2, h2⟩⟩

open Spec.Ts38413 in
theorem patchSchema_of_checkTable (env : Aper.Env) (h : (checkTable env).2 = true) : patchSchema env = env := by
  unfold patchSchema
  conv => rhs; rw [← List.map_id env]
  exact List.map_congr_left fun sd hsd => patchStruct_of_agrees sd ((agrees_of_checkTable env _ h).2 sd hsd)

/-- the regenerated schema already carries the TS 38.413 constraints the reference AMF's encoder is run under: every tabled
    wrapper's tag agrees with the table (`Props.C03.tags_are_ts38413`), so `Spec.Ts38413.patchSchema` changes nothing -/
theorem patchSchema_eq : Spec.Ts38413.patchSchema Gen.Ngap.schema = Gen.Ngap.schema :=
  patchSchema_of_checkTable _ (congrArg Prod.snd Props.C03.tags_are_ts38413)

theorem fuel_eq : Builders.fuel = Spec.Amf.ngapFuel := by unfold Builders.fuel; rfl

/-- for a PDU value that is within its constraints (`conf`, C04's decidable
    predicate: integers in range, strings and open-type contents below 16384, CHOICEs well-formed) and regular (C03's:
    BIT STRING octet counts, int64 integers), the octets `ngap.Encoder` returns are decoded by the reference AMF — library
    decoder inverts the encoder (`C04_roundtrip_pdu`) and the X.691 specification encoder reproduces the octets
    (`C03_encode_canonical`) — to exactly that value. -/
theorem amf_sees_built_pdu (v : Aper.Val) (b : Bytes)
    (hc : Props.C04.ConfPdu Spec.Amf.ngapFuel v)
    (hr : Proofs.AperSpec.regular Gen.Ngap.schema Spec.Amf.ngapFuel (.struct Gen.Ngap.pduId) false v = true)
    (h : Builders.encodePdu v = .ok b) : Spec.Amf.decodeNgap b = some v := by
  unfold Builders.encodePdu at h
  rw [fuel_eq] at h
  unfold Spec.Amf.decodeNgap Spec.Amf.specSchema
  rw [Props.C04.C04_roundtrip_pdu _ v b hc h, patchSchema_eq]
  have e := Props.C03.C03_encode_canonical _ v b hr h
  simp [e]

open Builders in
theorem mem_allTable_hand {t : Template} (h : t ∈ handTable) : t ∈ Proofs.Builders.allTable :=
  List.mem_append_left _ (List.mem_append_left _ h)

end Stgutg.Proofs.Emulator
