/- The SNOW 3G model (snow3g.go, S-box tables regenerated from the source) equals the TS 35.216 specification, function by function. -/
import Stgutg.Model.Snow3g
import Stgutg.Spec.Snow3g

namespace Stgutg.Proofs.Snow3g
open Stgutg Stgutg.Model.Snow3g

theorem sr_table : Gen.Snow3g.sr = Spec.Snow3g.SRtable := by decide +kernel
theorem sq_table : Gen.Snow3g.sq = Spec.Snow3g.SQtable := by decide +kernel

theorem mulx_eq (v c : UInt8) : mulx v c = Spec.Snow3g.MULx v c := rfl

theorem mulxPow_eq (v : UInt8) (i : Nat) (c : UInt8) : mulxPow v i c = Spec.Snow3g.MULxPOW v i c := by
  induction i with
  | zero => rfl
  | succ n ih => simp [mulxPow, Spec.Snow3g.MULxPOW, ih, mulx_eq]

theorem toNat_and_ff (x : UInt32) : (x &&& 0xff).toNat = x.toUInt8.toNat := by
  simp only [UInt32.toNat_and, UInt32.toNat_toUInt8]
  exact Nat.and_two_pow_sub_one_eq_mod x.toNat 8

theorem look_and_ff (tbl : List Nat) (x : UInt32) :
    look tbl (x &&& 0xff) = UInt8.ofNat (tbl.getD x.toUInt8.toNat 0) := by
  simp only [look, toNat_and_ff]

theorem s1_eq (w : UInt32) : s1 w = Spec.Snow3g.S1 w := by
  simp only [s1, sbox, look_and_ff, sr_table, mulx_eq, Spec.Snow3g.S1, Spec.Snow3g.SR,
    Spec.Snow3g.byte0, Spec.Snow3g.byte1, Spec.Snow3g.byte2, Spec.Snow3g.byte3]
theorem s2_eq (w : UInt32) : s2 w = Spec.Snow3g.S2 w := by
  simp only [s2, sbox, look_and_ff, sq_table, mulx_eq, Spec.Snow3g.S2, Spec.Snow3g.SQ,
    Spec.Snow3g.byte0, Spec.Snow3g.byte1, Spec.Snow3g.byte2, Spec.Snow3g.byte3]

theorem mulAlpha_eq (c : UInt8) : mulAlpha c = Spec.Snow3g.MULα c := by
  simp only [mulAlpha, Spec.Snow3g.MULα, mulxPow_eq]
theorem divAlpha_eq (c : UInt8) : divAlpha c = Spec.Snow3g.DIVα c := by
  simp only [divAlpha, Spec.Snow3g.DIVα, mulxPow_eq]

theorem and_ff_toUInt8 (x : UInt32) : (x &&& 0xff).toUInt8 = x.toUInt8 := by
  apply UInt8.toNat_inj.mp
  rw [UInt32.toNat_toUInt8, toNat_and_ff, UInt32.toNat_toUInt8]
  simp

theorem feedback_eq (st : State) : feedback st = Spec.Snow3g.lfsrV st := by
  simp only [feedback, Spec.Snow3g.lfsrV, mulAlpha_eq, divAlpha_eq, Spec.Snow3g.byte0, Spec.Snow3g.byte3, and_ff_toUInt8]

theorem shiftIn_eq (st : State) (v : UInt32) : shiftIn st v = Spec.Snow3g.shift st v := rfl

theorem clockFsm_eq (st : State) : clockFsm st = Spec.Snow3g.clockFSM st := by
  simp only [clockFsm, Spec.Snow3g.clockFSM, s1_eq, s2_eq]

theorem initRound_eq (st : State) : initRound st = Spec.Snow3g.initStep st := by
  simp only [initRound, Spec.Snow3g.initStep, clockFsm_eq, lfsrInitialisationMode, feedback_eq, shiftIn_eq]

theorem iter_congr {α : Type} (f g : α → α) (h : ∀ a, f a = g a) (n : Nat) (a : α) : iter f n a = iter g n a := by
  induction n generalizing a with
  | zero => rfl
  | succ n ih => simp [iter, h, ih]

theorem init_eq (k0 k1 k2 k3 iv0 iv1 iv2 iv3 : UInt32) :
    initSnow3g k0 k1 k2 k3 iv0 iv1 iv2 iv3 = Spec.Snow3g.init k0 k1 k2 k3 iv0 iv1 iv2 iv3 := by
  simp only [initSnow3g, Spec.Snow3g.init]
  exact iter_congr _ _ initRound_eq 32 _

theorem genWords_eq (n : Nat) (st : State) : (genWords n st).1 = Spec.Snow3g.words n st := by
  induction n generalizing st with
  | zero => rfl
  | succ n ih =>
    simp only [genWords, Spec.Snow3g.words, clockFsm_eq, lfsrKeystreamMode, feedback_eq, shiftIn_eq, ih]

theorem keystream_eq (n : Nat) (st : State) : (generateKeystream n st).1 = Spec.Snow3g.keystream n st := by
  simp only [generateKeystream, Spec.Snow3g.keystream, clockFsm_eq, lfsrKeystreamMode, feedback_eq, shiftIn_eq, genWords_eq]

theorem words_length (n : Nat) (st : State) : (Spec.Snow3g.words n st).length = n := by
  induction n generalizing st with
  | zero => rfl
  | succ n ih => simp [Spec.Snow3g.words, ih]

theorem keystream_length (n : Nat) (st : State) : (Spec.Snow3g.keystream n st).length = n := by
  simp [Spec.Snow3g.keystream, words_length]

end Stgutg.Proofs.Snow3g
