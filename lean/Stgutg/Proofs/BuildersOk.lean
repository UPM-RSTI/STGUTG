/-
  C13 helper, part 1: ONE decidable predicate on values, `okV env canon fuel ty params v` — "v is a value of type `ty` inside every
  PER-visible constraint of `params`, in the regular Go representation" — that implies the three predicates the APER theorems
  ask for:
    * `okV_regular` : `Proofs.AperSpec.regular`           (C03: encoder model ⇔ X.691)
    * `okV_conf`    : `Proofs.AperRTComp.conf`            (C04: decoder inverts encoder)
    * `okV_spec`    : `Spec.X691.encode … = some bits`    (Proofs/BuildersOkSpec.lean: the specification encodes the value)
  so that with `encode_complete` the encoder model accepts every `okV` value (`okV_marshal`), and the decoder model returns it.
  All three follow the cases of the definition: `okV_rec` states them once, as a rule.
  `okV` is written from `Spec.X691.encode` (which sizes / ranges / alternatives the Recommendation can encode), plus the two
  representation conditions of `regular` (int64, ⌈n/8⌉ octets) and the canonical-BIT-STRING / never-empty-alternative
  conditions of `conf`.
-/
import Stgutg.Proofs.AperSpecTotal
import Stgutg.Proofs.AperRTComp

namespace Stgutg.Proofs.BuildersOk
open Stgutg Stgutg.Aper
open Stgutg.Proofs.AperSpec (regular isNilV)
open Stgutg.Proofs.AperRTComp (conf neTy nilExceptFrom confFields confChoice)

/-- the size `n` is allowed by `SIZE(lb..ub[, ...])` (root, or beyond the root of an extensible constraint) -/
def sizeOKn (n : Nat) (p : Params) : Bool := (Spec.X691.sizeConstraint n p.sizeExt p.sizeLB p.sizeUB).isSome

/-- the parameters a SEQUENCE component is coded with: an open type takes its reference value from the component named
    `refField` (the inline computation of `Spec.X691.components`) -/
def resolveP (gov : Ty → Val → Option Int) (allFields : List Field) (allVals : List Val) (fd : Field) : Option Params :=
  if fd.params.openType then
    match allFields.findIdx? (fun g => g.name == fd.params.refField) with
    | none => none
    | some k =>
      match allFields[k]?, allVals[k]? with
      | some rf, some rv => (gov rf.ty rv).map fun x => { fd.params with refValue := some x }
      | _, _ => none
  else some fd.params

/-- one component of a SEQUENCE: an OPTIONAL one may be absent, every other one is a value of its type -/
def okField (ok : Ty → Params → Val → Bool) (gov : Ty → Val → Option Int) (allFields : List Field) (allVals : List Val)
    (fd : Field) (v : Val) : Bool :=
  (fd.params.optional && isNil v) ||
    match resolveP gov allFields allVals fd with
    | none => false
    | some p => ok fd.ty p v

/-- the components of a SEQUENCE -/
def okFields (ok : Ty → Params → Val → Bool) (gov : Ty → Val → Option Int) (allFields : List Field) (allVals : List Val) :
    List Field → List Val → Bool
  | [], [] => true
  | fd :: frest, v :: vrest =>
    okField ok gov allFields allVals fd v && okFields ok gov allFields allVals frest vrest
  | _, _ => false

/-- CHOICE / open type: `Present = p` selects an existing alternative, every other alternative is nil, the selected one is a
    value of its type and never encodes to nothing; an open type's alternative is the one its governing identifier names,
    a plain CHOICE carries `valueUB = #alternatives − 1` -/
def okChoice (ok : Ty → Params → Val → Bool) (ne : Ty → Params → Bool) (sd : StructDef) (params : Params) (fs : List Val) : Bool :=
  decide (fs.length = sd.fields.length) &&
  match fs with
  | .int p :: alts =>
    decide (1 ≤ p) && decide (p.toNat ≤ sd.fields.length - 1) && nilExceptFrom 1 p.toNat alts &&
    match sd.fields[p.toNat]?, fs[p.toNat]? with
    | some fd, some alt =>
      ne fd.ty fd.params && ok fd.ty fd.params alt &&
      (if params.openType then fd.params.refValue.isSome && fd.params.refValue == params.refValue
       else match params.valueUB with
         | some ub => ub + 1 == ((sd.fields.length - 1 : Nat) : Int)
         | none => false)
    | _, _ => false
  | _ => false

/-- `v` is a value of type `ty` within the constraints `params`. An INTEGER lies in its root range or, for an extensible
    type, above it; `canon`: the unused bits of a BIT STRING's last octet are clear (what the decoder returns; needed for
    the round trip only — the encoder masks them) -/
def okV (env : Env) (canon : Bool) : Nat → Ty → Params → Val → Bool
  | 0, _, _, _ => false
  | fuel + 1, ty, params, v =>
    match ty, v with
    | .ptr t, .ptr v' => okV env canon fuel t params v'
    | .int, .int n =>
      (match params.valueLB, params.valueUB with
       | some lb, some ub => decide (lb ≤ n) && (decide (n ≤ ub) || params.valueExt)
       | _, _ => false) && decide (-(2 ^ 63) ≤ n) && decide (n < 2 ^ 63)
    | .enum, .enum n =>
      (match params.valueLB, params.valueUB with
       | some lb, some ub => decide (lb = 0) && decide ((n : Int) ≤ ub)
       | _, _ => false)
    | .bool, .bool _ => true
    | .bits, .bits bytes len =>
      decide (bytes.length = (len + 7) / 8) && (!canon || decide (bitsToBytes ((bytesToBits bytes).take len) = bytes)) && sizeOKn len params
    | .octs, .octs b => sizeOKn b.length params
    | .str, .str b => sizeOKn b.length params
    | .slice t, .slice vs =>
      sizeOKn vs.length params && decide (vs.length < 16384) && vs.all (fun v => okV env canon fuel t (stripSizeE params) v)
    | .struct id, .struct fs =>
      (match env[id]? with
       | none => false
       | some sd =>
         if isChoice sd then okChoice (okV env canon fuel) (neTy env) sd params fs
         else decide (fs.length = sd.fields.length) &&
           okFields (okV env canon fuel) (Spec.X691.governor env fuel) sd.fields fs sd.fields fs)
    | _, _ => false

theorem okV_nil (env : Env) (canon : Bool) (fuel : Nat) (ty : Ty) (p : Params) : okV env canon fuel ty p .nil = false := by
  cases fuel with
  | zero => rfl
  | succ f => cases ty <;> rfl

theorem resolveP_cases (gov : Ty → Val → Option Int) (allFields : List Field) (allVals : List Val) (fd : Field) (p : Params)
    (h : resolveP gov allFields allVals fd = some p) : p = fd.params ∨ ∃ x, p = { fd.params with refValue := some x } := by
  unfold resolveP at h
  split at h
  · split at h
    · simp at h
    · split at h
      · rename_i rf rv _ _
        cases hg : gov rf.ty rv with
        | none => rw [hg] at h; simp at h
        | some x => rw [hg] at h; simp only [Option.map_some, Option.some.injEq] at h; exact .inr ⟨x, h.symm⟩
      · simp at h
  · simp at h; exact .inl h.symm

/-- `okV` as a rule: `Q fuel ty p v` follows from `okV … = true` once it follows in each case of the definition, from `Q` of
    the components (for a SEQUENCE: from `Q` of every `okV` value one level below, to go with `okFields`) -/
theorem okV_rec (env : Env) (canon : Bool) {Q : Nat → Ty → Params → Val → Prop}
    (ptr : ∀ f t p v, Q f t p v → Q (f + 1) (.ptr t) p (.ptr v))
    (int : ∀ f p n lb ub, p.valueLB = some lb → p.valueUB = some ub → lb ≤ n → (n ≤ ub ∨ p.valueExt = true) →
      -(2 ^ 63) ≤ n → n < 2 ^ 63 → Q (f + 1) .int p (.int n))
    (enum : ∀ f p (n : Nat) ub, p.valueLB = some 0 → p.valueUB = some ub → (n : Int) ≤ ub → Q (f + 1) .enum p (.enum n))
    (bool : ∀ f p b, Q (f + 1) .bool p (.bool b))
    (bits : ∀ f p bytes len, bytes.length = (len + 7) / 8 →
      (canon = true → bitsToBytes ((bytesToBits bytes).take len) = bytes) → sizeOKn len p = true →
      Q (f + 1) .bits p (.bits bytes len))
    (octs : ∀ f p b, sizeOKn b.length p = true → Q (f + 1) .octs p (.octs b))
    (str : ∀ f p b, sizeOKn b.length p = true → Q (f + 1) .str p (.str b))
    (slice : ∀ f t p vs, sizeOKn vs.length p = true → vs.length < 16384 → (∀ v ∈ vs, Q f t (stripSizeE p) v) →
      Q (f + 1) (.slice t) p (.slice vs))
    (choice : ∀ f id sd p pv alts fd alt, env[id]? = some sd → isChoice sd = true →
      (Val.int pv :: alts).length = sd.fields.length → 1 ≤ pv → pv.toNat ≤ sd.fields.length - 1 →
      nilExceptFrom 1 pv.toNat alts = true → sd.fields[pv.toNat]? = some fd → (Val.int pv :: alts)[pv.toNat]? = some alt →
      neTy env fd.ty fd.params = true → Q f fd.ty fd.params alt →
      (if p.openType then fd.params.refValue.isSome && fd.params.refValue == p.refValue
       else match p.valueUB with
         | some ub => ub + 1 == ((sd.fields.length - 1 : Nat) : Int)
         | none => false) = true → Q (f + 1) (.struct id) p (.struct (.int pv :: alts)))
    (seq : ∀ f id sd p fs, env[id]? = some sd → isChoice sd = false → fs.length = sd.fields.length →
      okFields (okV env canon f) (Spec.X691.governor env f) sd.fields fs sd.fields fs = true →
      (∀ ty q v, okV env canon f ty q v = true → Q f ty q v) → Q (f + 1) (.struct id) p (.struct fs)) :
    ∀ (fuel : Nat) (ty : Ty) (p : Params) (v : Val), okV env canon fuel ty p v = true → Q fuel ty p v := by
  intro fuel
  induction fuel with
  | zero => intro ty p v h; simp [okV] at h
  | succ f ih =>
    intro ty p v h
    cases ty <;> cases v <;> try (simp only [okV, Bool.false_eq_true] at h; done)
    · rename_i n
      simp only [okV, Bool.and_eq_true, decide_eq_true_eq] at h
      cases hl : p.valueLB with
      | none => simp [hl] at h
      | some lb =>
        cases hu : p.valueUB with
        | none => simp [hl, hu] at h
        | some ub =>
          simp only [hl, hu, Bool.and_eq_true, Bool.or_eq_true, decide_eq_true_eq] at h
          exact int f p n lb ub hl hu h.1.1.1 h.1.1.2 h.1.2 h.2
    · rename_i n
      simp only [okV] at h
      cases hl : p.valueLB with
      | none => simp [hl] at h
      | some lb =>
        cases hu : p.valueUB with
        | none => simp [hl, hu] at h
        | some ub =>
          simp only [hl, hu, Bool.and_eq_true, decide_eq_true_eq] at h
          obtain ⟨rfl, h1⟩ := h
          exact enum f p n ub hl hu h1
    · rename_i bytes len
      simp only [okV, Bool.and_eq_true, decide_eq_true_eq, Bool.or_eq_true, Bool.not_eq_true'] at h
      refine bits f p bytes len h.1.1 (fun hc => ?_) h.2
      rcases h.1.2 with h2 | h2
      · rw [hc] at h2; cases h2
      · exact h2
    · exact octs f p _ (by simpa [okV] using h)
    · exact str f p _ (by simpa [okV] using h)
    · exact bool f p _
    · rename_i id fs
      simp only [okV] at h
      cases hsd : env[id]? with
      | none => simp [hsd] at h
      | some sd =>
        simp only [hsd] at h
        cases hch : isChoice sd with
        | true =>
          simp only [hch, if_true, okChoice, Bool.and_eq_true, decide_eq_true_eq] at h
          obtain ⟨hlen, h⟩ := h
          cases fs with
          | nil => simp at h
          | cons f0 alts =>
            cases f0 <;> try (simp at h; done)
            rename_i pv
            simp only [Bool.and_eq_true, decide_eq_true_eq] at h
            obtain ⟨⟨⟨hp1, hp2⟩, hnil⟩, h⟩ := h
            cases hfd : sd.fields[pv.toNat]? with
            | none => simp [hfd] at h
            | some fd =>
              cases halt : (Val.int pv :: alts)[pv.toNat]? with
              | none => simp [hfd, halt] at h
              | some alt =>
                simp only [hfd, halt, Bool.and_eq_true] at h
                exact choice f id sd p pv alts fd alt hsd hch hlen hp1 hp2 hnil hfd halt h.1.1 (ih _ _ _ h.1.2) h.2
        | false =>
          simp only [hch, if_false, Bool.false_eq_true, Bool.and_eq_true, decide_eq_true_eq] at h
          exact seq f id sd p fs hsd hch h.1 h.2 ih
    · exact ptr f _ p _ (ih _ _ _ (by simpa [okV] using h))
    · rename_i t vs
      simp only [okV, Bool.and_eq_true, decide_eq_true_eq, List.all_eq_true] at h
      exact slice f t p vs h.1.1 h.1.2 fun v hv => ih _ _ _ (h.2 v hv)

/-! ### okV ⇒ regular -/

theorem nilExceptFrom_zipIdx : ∀ (alts : List Val) (j k : Nat), nilExceptFrom (j + 1) k alts = true →
    (alts.zipIdx j).all (fun (a, i) => decide (i + 1 = k) || (match a with | .nil => true | _ => false)) = true := by
  intro alts
  induction alts with
  | nil => intro j k _; rfl
  | cons a rest ih =>
    intro j k h
    simp only [nilExceptFrom, Bool.and_eq_true, Bool.or_eq_true, beq_iff_eq] at h
    simp only [List.zipIdx_cons, List.all_cons, Bool.and_eq_true, Bool.or_eq_true, decide_eq_true_eq]
    refine ⟨?_, ih (j + 1) k h.2⟩
    rcases h.1 with h1 | h1
    · exact .inl h1
    · right; cases a <;> simp [isNil] at h1 ⊢

theorem okFields_zip (ok : Ty → Params → Val → Bool) (gov : Ty → Val → Option Int) (aF : List Field) (aV : List Val) :
    ∀ (fields : List Field) (fs : List Val), okFields ok gov aF aV fields fs = true →
      ∀ x ∈ List.zip fields fs, (x.1.params.optional = true ∧ isNil x.2 = true) ∨
        ∃ p, resolveP gov aF aV x.1 = some p ∧ ok x.1.ty p x.2 = true := by
  intro fields
  induction fields with
  | nil => intro fs _ x hx; simp at hx
  | cons fd frest ih =>
    intro fs h x hx
    cases fs with
    | nil => simp at hx
    | cons v vrest =>
      simp only [okFields, okField, Bool.and_eq_true, Bool.or_eq_true] at h
      simp only [List.zip_cons_cons, List.mem_cons] at hx
      rcases hx with rfl | hx
      · rcases h.1 with h1 | h1
        · exact .inl h1
        · right
          cases hr : resolveP gov aF aV fd with
          | none => simp [hr] at h1
          | some p => simp only [hr] at h1; exact ⟨p, rfl, h1⟩
      · exact ih vrest h.2 x hx

theorem isNilV_eq (v : Val) : isNilV v = isNil v := by cases v <;> rfl

theorem okV_regular (env : Env) (canon : Bool) : ∀ (fuel : Nat) (ty : Ty) (p : Params) (v : Val) (ot : Bool),
    okV env canon fuel ty p v = true → regular env fuel ty ot v = true := by
  intro fuel ty p v ot h
  revert ot
  refine okV_rec env canon (Q := fun f ty _ v => ∀ ot, regular env f ty ot v = true) ?_ ?_ ?_ ?_ ?_ ?_ ?_ ?_ ?_ ?_ fuel ty p v h
  · intro f t p v ih ot; simp only [regular]; exact ih ot
  · intro f p n lb ub _ _ _ _ h1 h2 ot; simp only [regular, Bool.and_eq_true, decide_eq_true_eq]; exact ⟨h1, h2⟩
  · intros; simp only [regular]
  · intros; simp only [regular]
  · intro f p bytes len hl _ _ ot; simp only [regular, decide_eq_true_eq]; exact hl
  · intros; simp only [regular]
  · intros; simp only [regular]
  · intro f t p vs _ _ ih ot; simp only [regular, List.all_eq_true]; exact fun x hx => ih x hx ot
  · intro f id sd p pv alts fd alt hsd hch _ _ _ hnil hfd halt _ ih _ ot
    simp only [regular, hsd, hch, if_true, hfd, halt, Bool.and_eq_true]
    exact ⟨nilExceptFrom_zipIdx alts 0 pv.toNat hnil, ih _⟩
  · intro f id sd p fs hsd hch _ hf ih ot
    simp only [regular, hsd, hch, if_false, Bool.false_eq_true, List.all_eq_true]
    intro x hx
    rcases okFields_zip _ _ _ _ _ _ hf x hx with h1 | ⟨q, _, h1⟩
    · simp [h1.1, isNilV_eq, h1.2]
    · simp [ih _ _ _ h1]

/-! ### okV ⇒ conf -/

theorem okFields_conf (ok c : Ty → Params → Val → Bool) (gov : Ty → Val → Option Int) (aF : List Field) (aV : List Val)
    (H : ∀ (fd : Field) (v : Val) (p : Params), resolveP gov aF aV fd = some p → ok fd.ty p v = true → c fd.ty fd.params v = true) :
    ∀ (fields : List Field) (fs : List Val), okFields ok gov aF aV fields fs = true → confFields c fields fs = true := by
  intro fields
  induction fields with
  | nil => intro fs h; cases fs <;> simp [okFields] at h ⊢; rfl
  | cons fd frest ih =>
    intro fs h
    cases fs with
    | nil => simp [okFields] at h
    | cons v vrest =>
      simp only [okFields, okField, Bool.and_eq_true, Bool.or_eq_true] at h
      simp only [confFields, Bool.and_eq_true, Bool.or_eq_true]
      refine ⟨?_, ih vrest h.2⟩
      rcases h.1 with h1 | h1
      · exact .inl h1
      · right
        cases hr : resolveP gov aF aV fd with
        | none => simp [hr] at h1
        | some p => simp only [hr] at h1; exact H fd v p hr h1

theorem okV_conf (env : Env) : ∀ (fuel : Nat) (ty : Ty) (p : Params) (v : Val),
    okV env true fuel ty p v = true → conf env fuel ty p v = true := by
  refine okV_rec env true (Q := fun f ty p v => conf env f ty p v = true) ?_ ?_ ?_ ?_ ?_ ?_ ?_ ?_ ?_ ?_
  · intro f t p v ih; simp only [conf]; exact ih
  · intro f p n lb ub hl hu h0 h1 _ h2
    simp only [conf, hl, hu, Bool.and_eq_true, Bool.or_eq_true, decide_eq_true_eq]
    exact ⟨h0, h1.imp id fun h => ⟨h, h2⟩⟩
  · intros; simp only [conf]
  · intros; simp only [conf]
  · intro f p bytes len _ hc _; simp only [conf, decide_eq_true_eq]; exact hc rfl
  · intros; simp only [conf]
  · intros; simp only [conf]
  · intro f t p vs _ _ ih; simp only [conf, List.all_eq_true]; exact ih
  · intro f id sd p pv alts fd alt hsd hch hlen _ _ hnil hfd halt hne ih _
    simp only [conf, hsd, hch, Bool.not_true, Bool.false_eq_true, if_false, confChoice, Bool.and_eq_true, decide_eq_true_eq, hfd, halt]
    exact ⟨hlen, hnil, ih, hne⟩
  · intro f id sd p fs hsd hch _ hf ih
    simp only [conf, hsd, hch, Bool.not_false, if_true]
    refine okFields_conf _ _ _ _ _ (fun fd v q hq hok => ?_) _ _ hf
    have := ih _ _ _ hok
    rcases resolveP_cases _ _ _ _ _ hq with rfl | ⟨x, rfl⟩
    · exact this
    · rw [Proofs.AperRTComp.conf_refValue] at this; exact this

end Stgutg.Proofs.BuildersOk
