/- Lemmas about `natToBits` / `bitsToNat` / octet packing. (Proof module: may use Mathlib's `ring`.) -/
import Stgutg.Base.Bits
import Mathlib.Tactic.Ring

namespace Stgutg.Proofs.Bits
open Stgutg

theorem bitsToNat_foldl (b : Bits) (acc : Nat) :
    b.foldl (fun a x => 2 * a + (if x then 1 else 0)) acc = acc * 2 ^ b.length + bitsToNat b := by
  induction b generalizing acc with
  | nil => simp [bitsToNat]
  | cons x xs ih =>
    simp only [List.foldl_cons, List.length_cons, bitsToNat]
    rw [ih, ih (2 * 0 + _)]
    cases x <;> simp <;> ring

theorem bitsToNat_cons (x : Bool) (xs : Bits) :
    bitsToNat (x :: xs) = (if x then 1 else 0) * 2 ^ xs.length + bitsToNat xs := by
  simp only [bitsToNat, List.foldl_cons]
  rw [bitsToNat_foldl]
  simp [bitsToNat]

theorem bitsToNat_append (a b : Bits) : bitsToNat (a ++ b) = bitsToNat a * 2 ^ b.length + bitsToNat b := by
  induction a with
  | nil => simp [bitsToNat]
  | cons x xs ih =>
    rw [List.cons_append, bitsToNat_cons, bitsToNat_cons, ih, List.length_append]
    rw [Nat.pow_add]; ring

theorem bitsToNat_lt (b : Bits) : bitsToNat b < 2 ^ b.length := by
  induction b with
  | nil => simp [bitsToNat]
  | cons x xs ih =>
    rw [bitsToNat_cons, List.length_cons, Nat.pow_succ]
    cases x <;> simp <;> omega

theorem bitsToNat_natToBits (w n : Nat) : bitsToNat (natToBits w n) = n % 2 ^ w := by
  induction w with
  | zero => simp [natToBits, bitsToNat, Nat.mod_one]
  | succ w ih =>
    rw [natToBits, bitsToNat_cons, ih, natToBits_length]
    have h2 : n % 2 ^ (w + 1) = (n / 2 ^ w % 2) * 2 ^ w + n % 2 ^ w := by
      rw [Nat.pow_succ, Nat.mod_mul, Nat.add_comm, Nat.mul_comm]
    rw [h2, Nat.testBit_eq_decide_div_mod_eq]
    by_cases h : n / 2 ^ w % 2 = 1
    · simp [h]
    · have : n / 2 ^ w % 2 = 0 := by omega
      simp [this]

theorem bitsToNat_natToBits_of_lt (w n : Nat) (h : n < 2 ^ w) : bitsToNat (natToBits w n) = n := by
  rw [bitsToNat_natToBits, Nat.mod_eq_of_lt h]

theorem byteBits_length (b : UInt8) : (byteBits b).length = 8 := by simp [byteBits]

theorem bytesToBits_length (bs : Bytes) : (bytesToBits bs).length = 8 * bs.length := by
  induction bs with
  | nil => rfl
  | cons b bs ih => simp [bytesToBits, List.flatMap_cons, byteBits_length] at *; omega

theorem bytesToBits_cons (b : UInt8) (bs : Bytes) : bytesToBits (b :: bs) = byteBits b ++ bytesToBits bs := by
  simp [bytesToBits, List.flatMap_cons]

theorem bytesToBits_append (a b : Bytes) : bytesToBits (a ++ b) = bytesToBits a ++ bytesToBits b := by
  simp [bytesToBits, List.flatMap_append]

theorem ofNat_bitsToNat_byteBits (b : UInt8) : UInt8.ofNat (bitsToNat (byteBits b)) = b := by
  rw [byteBits, bitsToNat_natToBits]
  have : b.toNat % 2 ^ 8 = b.toNat := Nat.mod_eq_of_lt (by have := b.toNat_lt; omega)
  rw [this]; simp

theorem bitsToBytesAux_bytesToBits (bs : Bytes) (fuel : Nat) (h : bs.length ≤ fuel) :
    bitsToBytesAux fuel (bytesToBits bs) = bs := by
  induction bs generalizing fuel with
  | nil =>
    cases fuel with
    | zero => rfl
    | succ f => simp [bitsToBytesAux, bytesToBits]
  | cons b bs ih =>
    cases fuel with
    | zero => simp at h
    | succ f =>
      rw [bytesToBits_cons]
      have hl := byteBits_length b
      have hne : (byteBits b ++ bytesToBits bs).isEmpty = false := by
        cases hb : byteBits b with
        | nil => rw [hb] at hl; simp at hl
        | cons x xs => simp
      simp only [bitsToBytesAux, hne, Bool.false_eq_true, if_false]
      have ht : (byteBits b ++ bytesToBits bs).take 8 = byteBits b := by
        rw [← hl]; simp
      have hd : (byteBits b ++ bytesToBits bs).drop 8 = bytesToBits bs := by
        rw [← hl]; simp
      rw [ht, hd, hl]
      simp only [Nat.sub_self, List.replicate_zero, List.append_nil, ofNat_bitsToNat_byteBits]
      rw [ih f (by simpa using h)]

theorem bitsToBytes_bytesToBits (bs : Bytes) : bitsToBytes (bytesToBits bs) = bs := by
  unfold bitsToBytes
  exact bitsToBytesAux_bytesToBits bs _ (by rw [bytesToBits_length]; omega)

theorem bytesToBits_inj (a b : Bytes) (h : bytesToBits a = bytesToBits b) : a = b := by
  have := congrArg bitsToBytes h
  rwa [bitsToBytes_bytesToBits, bitsToBytes_bytesToBits] at this

theorem natToBits_add (a b n : Nat) : natToBits (a + b) n = natToBits a (n / 2 ^ b) ++ natToBits b n := by
  induction a with
  | zero => simp [natToBits]
  | succ a ih =>
    have e : a + 1 + b = (a + b) + 1 := by omega
    rw [e, natToBits, natToBits, ih, Nat.testBit_div_two_pow]
    rfl

theorem natToBits_mod (w k n : Nat) (h : w ≤ k) : natToBits w (n % 2 ^ k) = natToBits w n := by
  induction w with
  | zero => rfl
  | succ w ih =>
    rw [natToBits, natToBits, ih (by omega), Nat.testBit_mod_two_pow]
    have : decide (w < k) = true := by simp; omega
    rw [this]; simp

theorem natToBits_zero (k : Nat) : natToBits k 0 = List.replicate k false := by
  induction k with
  | zero => rfl
  | succ k ih => rw [natToBits, ih, Nat.zero_testBit, List.replicate_succ]

theorem bytesToBits_single (k : Nat) (hk : k < 256) : bytesToBits [UInt8.ofNat k] = natToBits 8 k := by
  unfold bytesToBits
  simp only [List.flatMap_cons, List.flatMap_nil, List.append_nil]
  unfold byteBits
  rw [UInt8.toNat_ofNat_of_lt' hk]

theorem and_two_pow_of_lt (n j : Nat) (h : n < 2 ^ j) : n &&& 2 ^ j = 0 := by
  apply Nat.eq_of_testBit_eq
  intro i
  simp only [Nat.testBit_and, Nat.testBit_two_pow, Nat.zero_testBit]
  by_cases hij : j = i
  · subst hij; simp [Nat.testBit_lt_two_pow h]
  · simp [hij]

end Stgutg.Proofs.Bits
