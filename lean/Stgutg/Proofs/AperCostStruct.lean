/-
  C14 (cost): SEQUENCE / CHOICE / open type bodies of `parseField`.
-/
import Stgutg.Proofs.AperCostBound
import Stgutg.Proofs.AperRTCompBits

namespace Stgutg.Proofs.AperCost
open Stgutg Stgutg.Aper

/-- the octets of an open type were all read from the input: 8 bits each -/
theorem openTypeOctets_len : ∀ (fuel : Nat) (acc : Bytes) (r : Rd) (octs : Bytes) (r' : Rd),
    openTypeOctets fuel acc r = .ok (octs, r') → 8 * octs.length + r'.len ≤ 8 * acc.length + r.len := by
  intro fuel
  induction fuel with
  | zero => intro acc r octs r' h; cases h
  | succ fuel ih =>
    intro acc r octs r' h
    unfold openTypeOctets at h
    obtain ⟨⟨rawLength, rep⟩, r1, h1, h2⟩ := AperTotal.D_bind_ok h
    have m1 := MonoD_parseLength (-1) r _ r1 h1
    dsimp only at h2
    split at h2
    · cases h2; omega
    · obtain ⟨u, r2, h3, h4⟩ := AperTotal.D_bind_ok h2
      have m2 := MonoD_align r1 u r2 h3
      obtain ⟨b, r3, h5, h6⟩ := AperTotal.D_bind_ok h4
      obtain ⟨hb, hl⟩ := AperTotal.takeOctets_ok h5
      have hbl : b.length ≤ rawLength := by
        have := AperRTComp.bitsToBytes_length (r2.rest.take (8 * rawLength))
        rw [hb, this, List.length_take]; omega
      split at h6
      · have := ih (acc ++ b) r3 octs r' h6
        rw [List.length_append] at this
        omega
      · obtain ⟨u2, r4, h7, h8⟩ := AperTotal.D_bind_ok h6
        have m3 := MonoD_align r3 u2 r4 h7
        cases h8
        rw [List.length_append]
        omega

theorem Bnd_openTypeOctetsC (ws wa : Nat) : ∀ (fuel : Nat) (acc : Bytes),
    Bnd ws wa 0 wa 0 (openTypeOctetsC fuel acc) := by
  intro fuel
  induction fuel with
  | zero => intro acc; exact Bnd_fail _
  | succ fuel ih =>
    intro acc
    unfold openTypeOctetsC
    refine Bnd_bind0 (Bnd_lift (MonoD_parseLength (-1))) fun x => Bnd_ite _ (Bnd_pure _) ?_
    refine Bnd_bind0 (Bnd_lift MonoD_align) fun _ => ?_
    exact Bnd_bind_l (Bnd_takeOctetsC _) fun b => Bnd_ite _ (ih _) (Bnd_bind0 (Bnd_lift MonoD_align) fun _ => Bnd_pure _)

/-- the open-type branch of `decStruct`: octets copied, inner value decoded from its own buffer -/
def openBranchC (f : Ty → Params → DC Val) (fd : Field) (zeros : List Val) (present : Nat) : DC Val :=
  DC.get >>= fun r0 => openTypeOctetsC (r0.len + 2) [] >>= fun octs =>
    DC.sub (f fd.ty fd.params (Rd.ofBytes octs)) >>= fun v =>
      (pure (.struct (setAt (setAt zeros 0 (.int present)) present v)) : DC Val)

theorem Bnd_openBranch (ws wa qa pa sa : Nat) (f : Ty → Params → DC Val) (fd : Field) (zeros : List Val) (present : Nat)
    (hf : Bnd ws wa qa pa sa (f fd.ty fd.params)) :
    Bnd ws wa qa (pa + wa) sa (openBranchC f fd zeros present) := by
  intro r
  unfold openBranchC
  rw [DC_bind_apply]
  have hg : DC.get r = (.ok (r, r), Cost.zero) := rfl
  rw [hg]
  dsimp only
  rw [DC_bind_apply]
  obtain ⟨o1, o2⟩ := Bnd_openTypeOctetsC ws wa (r.len + 2) [] r
  have herase := congrFun (erase_openTypeOctetsC (r.len + 2) []) r
  unfold DC.erase at herase
  rcases hoc : openTypeOctetsC (r.len + 2) [] r with ⟨res, c1⟩
  rw [hoc] at o1 o2 herase
  simp only [cst_add, cst_zero, Nat.zero_add]
  have hwl : wa * r.len ≤ (pa + wa) * r.len := Nat.mul_le_mul_right _ (by omega)
  cases res with
  | error e =>
    dsimp only at o2 ⊢
    exact ⟨(by intro a r' h; cases h), by omega⟩
  | ok x =>
    obtain ⟨octs, r1⟩ := x
    dsimp only at o1 o2 herase ⊢
    obtain ⟨c, hc, hb1⟩ := o1 octs r1 rfl
    have hlen := openTypeOctets_len (r.len + 2) [] r octs r1 herase.symm
    simp only [List.length_nil, Nat.mul_zero, Nat.zero_add] at hlen
    have h8 : 8 * octs.length ≤ c := by omega
    obtain ⟨i1, i2⟩ := hf (Rd.ofBytes octs)
    have hrl : (Rd.ofBytes octs).len = 8 * octs.length := rfl
    rw [hrl] at i2
    rw [DC_bind_apply]
    unfold DC.sub
    rcases hin : f fd.ty fd.params (Rd.ofBytes octs) with ⟨res2, c2⟩
    rw [hin] at i1 i2
    dsimp only at i1 i2 ⊢
    have hp8 : pa * (8 * octs.length) ≤ pa * c := Nat.mul_le_mul_left pa h8
    have hsplit : (pa + wa) * c = pa * c + wa * c := Nat.add_mul _ _ _
    have hcl : (pa + wa) * c ≤ (pa + wa) * r.len := Nat.mul_le_mul_left _ (by omega)
    cases res2 with
    | error e =>
      dsimp only
      simp only [cst_add]
      exact ⟨(by intro a r' h; cases h), by omega⟩
    | ok y =>
      obtain ⟨v, rin⟩ := y
      dsimp only
      obtain ⟨c', hc', hb2⟩ := i1 v rin rfl
      rw [hrl] at hc'
      have hpc' : pa * c' ≤ pa * (8 * octs.length) := Nat.mul_le_mul_left pa (by omega)
      rw [DC_pure_apply]
      dsimp only
      simp only [cst_add, cst_zero, Nat.add_zero]
      refine ⟨?_, by omega⟩
      intro a r' h
      simp only [Except.ok.injEq, Prod.mk.injEq] at h
      exact ⟨c, by rw [← h.2]; exact hc, by omega⟩

/-- the parameters the field loop can pass for `fd`: its own, with the reference value filled in for an open type -/
def FieldParams (fd : Field) (fp : Params) : Prop := fp = fd.params ∨ ∃ x, fp = { fd.params with refValue := some x }

/-- the component loop of a SEQUENCE: the additive parts of the components add up -/
theorem Bnd_seqFields (ws wa P S : Nat) (f : Ty → Params → DC Val) (rfv : Ty → Val → Res Int) (allFields : List Field)
    (qf : Field → Nat) : ∀ (fields : List Field),
    (∀ fd ∈ fields, ∀ fp, FieldParams fd fp →
      Bnd ws wa (qf fd) P S (f fd.ty fp)) →
    ∀ (i oc ob : Nat) (vals : List Val),
      Bnd ws wa ((fields.map qf).sum) P S (decSeqFieldsC f rfv allFields i oc ob fields vals) := by
  intro fields
  induction fields with
  | nil =>
    intro _ i oc ob vals
    unfold decSeqFieldsC
    exact Bnd_pure _
  | cons fd rest ih =>
    intro hf i oc ob vals
    have hrest := ih (fun fd' h => hf fd' (List.mem_cons_of_mem _ h))
    unfold decSeqFieldsC
    dsimp only
    rw [List.map_cons, List.sum_cons]
    split
    · exact Bnd_mono (by omega) (Nat.le_refl _) (Nat.le_refl _) (hrest _ _ _ _)
    · cases hr : resolveRef rfv allFields vals i fd with
      | error e => exact Bnd_fail _
      | ok fp =>
        dsimp only
        exact Bnd_bind (hf fd List.mem_cons_self fp (AperTotal.resolveRef_shape _ _ _ _ _ _ hr)) (fun v => hrest _ _ _ _)

theorem MonoD_optRead (n : Nat) : MonoD (if n > 0 then getBitsValue n else pure 0 : D Nat) :=
  MonoD_of_eats fun r => by
    split
    · exact (AperTotal.eats_getBitsValue n (by omega) r).mono (Nat.zero_le _)
    · exact AperTotal.eats_pure _

theorem MonoD_catchIdx (ve : Bool) (ub : Option Int) :
    MonoD (D.catchErr (getChoiceIndex ve ub) (fun r => (0, r))) :=
  MonoD_of_eats fun r =>
    AperTotal.eats_catchErr _ _ r ((AperTotal.eats_getChoiceIndex _ _ r).mono (Nat.zero_le _)) (Nat.le_refl _)

/-- a CHOICE index that was read consumed a bit; a failed read leaves `present = 0` -/
theorem catchIdx_spec (ve : Bool) (ub : Option Int) (r : Rd) (present : Nat) (r' : Rd)
    (h : D.catchErr (getChoiceIndex ve ub) (fun r => (0, r)) r = .ok (present, r')) :
    present = 0 ∨ r'.len < r.len := by
  unfold D.catchErr at h
  split at h
  · rename_i x hg
    cases h
    exact Or.inr ((AperTotal.eats_getChoiceIndex ve ub r).2 _ _ hg)
  · cases h; exact Or.inl rfl
  · cases h

/-- a free step whose every result either consumed a bit or leads to a strict continuation -/
theorem Strict_lift_bind {α β : Type} {m : D α} {k : α → DC β} (hm : MonoD m) (hk : ∀ a, MonoC (k a))
    (hs : ∀ r a r1, m r = .ok (a, r1) → r1.len < r.len ∨ Strict (k a)) : Strict (DC.lift m >>= k) := by
  intro r b r' h
  obtain ⟨a, r1, h1, h2⟩ := DC_bind_ok h
  have := hm r a r1 h1
  rcases hs r a r1 h1 with hlt | hst
  · have := hk a r1 b r' h2; omega
  · have := hst r1 b r' h2; omega

/-- `decStruct` is the OPTIONAL bitmap followed by a body `k`. The body costs what the components cost (a SEQUENCE
    adds them up, a CHOICE or open type takes one), and consumes a bit when it reads a CHOICE index or starts with a
    component that does. -/
theorem decStructC_body (ws wa Q P S : Nat) (f : Ty → Params → DC Val) (rfv : Ty → Val → Res Int) (zero : Ty → Val)
    (sd : StructDef) (params : Params) (ve : Bool) (qf : Field → Nat)
    (hf : ∀ fd ∈ sd.fields, ∀ fp, FieldParams fd fp → Bnd ws wa (qf fd) P S (f fd.ty fp))
    (hQ : if isChoice sd then ∀ fd ∈ sd.fields, qf fd ≤ Q else (sd.fields.map qf).sum ≤ Q) :
    ∃ k : Nat → DC Val,
      decStructC f rfv zero sd params ve =
        (DC.lift (if (sd.fields.filter (·.params.optional)).length > 0
          then getBitsValue (sd.fields.filter (·.params.optional)).length else pure 0 : D Nat) >>= k) ∧
      ∀ ob, Bnd ws wa Q (if params.openType then P + wa else P) S (k ob) ∧
        (((isChoice sd = true ∧ params.openType = false) ∨
          (isChoice sd = false ∧ ∃ f0 rest, sd.fields = f0 :: rest ∧ f0.params.optional = false ∧
            ∀ fp, FieldParams f0 fp → Strict (f f0.ty fp))) → Strict (k ob)) := by
  refine ⟨_, rfl, fun ob => ?_⟩
  dsimp only
  have hPle : P ≤ (if params.openType then P + wa else P) := by split <;> omega
  have hfd : ∀ fd ∈ sd.fields, Bnd ws wa (qf fd) P S (f fd.ty fd.params) := fun fd hm => hf fd hm _ (Or.inl rfl)
  cases hc : isChoice sd with
  | true =>
    simp only [hc, if_true] at hQ ⊢
    have hone : ∀ fd ∈ sd.fields, Bnd ws wa Q P S (f fd.ty fd.params) :=
      fun fd hm => Bnd_mono (hQ fd hm) (Nat.le_refl _) (Nat.le_refl _) (hfd fd hm)
    cases hot : params.openType with
    | true =>
      simp only [if_true]
      refine ⟨?_, fun h => by rcases h with ⟨_, h⟩ | ⟨h, _⟩ <;> cases h⟩
      cases params.refValue with
      | none => exact Bnd_fail _
      | some rv =>
        dsimp only
        cases findAlt sd.fields rv with
        | none => exact Bnd_pure _
        | some present =>
          dsimp only
          cases hp : sd.fields[present]? with
          | none => exact Bnd_fail _
          | some fd =>
            have hm := List.mem_of_getElem? hp
            exact Bnd_mono (hQ fd hm) (Nat.le_refl _) (Nat.le_refl _)
              (Bnd_openBranch ws wa (qf fd) P S f fd _ present (hfd fd hm))
    | false =>
      simp only [Bool.false_eq_true, if_false]
      have hk : ∀ present, Bnd ws wa Q P S
          (if present = 0 then DC.fail .error else if present ≥ sd.fields.length then DC.fail .error else
            match sd.fields[present]? with
            | none => DC.fail .error
            | some fd => f fd.ty fd.params >>= fun v =>
                (pure (.struct (setAt (setAt (sd.fields.map fun fd => zero fd.ty) 0 (.int present)) present v)) : DC Val)) := by
        intro present
        refine Bnd_ite _ (Bnd_fail _) (Bnd_ite _ (Bnd_fail _) ?_)
        cases hp : sd.fields[present]? with
        | none => exact Bnd_fail _
        | some fd => exact Bnd_map _ (hone fd (List.mem_of_getElem? hp))
      refine ⟨Bnd_bind0 (Bnd_lift (MonoD_catchIdx _ _)) hk, fun _ => ?_⟩
      refine Strict_lift_bind (MonoD_catchIdx _ _) (fun a => Bnd_toMono (hk a)) fun r present r1 h1 => ?_
      rcases catchIdx_spec ve params.valueUB r present r1 h1 with h0 | hlt
      · subst h0; exact Or.inr (by show Strict (ite (0 = 0) _ _); rw [if_pos rfl]; exact Strict_fail _)
      · exact Or.inl hlt
  | false =>
    simp only [hc, Bool.false_eq_true, if_false] at hQ ⊢
    have hseq := Bnd_seqFields ws wa P S f rfv sd.fields qf
    refine ⟨Bnd_mono hQ hPle (Nat.le_refl _) (Bnd_map _ (hseq sd.fields hf _ _ _ _)), fun h => ?_⟩
    obtain ⟨f0, rest, hfl, hopt0, hstrict⟩ : ∃ f0 rest, sd.fields = f0 :: rest ∧ f0.params.optional = false ∧
        ∀ fp, FieldParams f0 fp → Strict (f f0.ty fp) := by
      rcases h with ⟨h, _⟩ | ⟨_, h⟩
      · cases h
      · exact h
    refine Strict_bind_l ?_ (fun _ => MonoC_pure _)
    conv => arg 1; arg 7; rw [hfl]
    unfold decSeqFieldsC
    simp only [hopt0, Bool.false_eq_true, false_and, decide_false, if_false]
    cases hr : resolveRef rfv sd.fields (sd.fields.map fun fd => zero fd.ty) 0 f0 with
    | error e => exact Strict_fail _
    | ok fp =>
      refine Strict_bind_l (hstrict fp (AperTotal.resolveRef_shape _ _ _ _ _ _ hr)) fun v => Bnd_toMono (hseq rest ?_ _ _ _ _)
      exact fun fd hm => hf fd (hfl ▸ List.mem_cons_of_mem _ hm)

theorem Bnd_decStruct (ws wa Q P S : Nat) (f : Ty → Params → DC Val) (rfv : Ty → Val → Res Int) (zero : Ty → Val)
    (sd : StructDef) (params : Params) (ve : Bool) (qf : Field → Nat)
    (hf : ∀ fd ∈ sd.fields, ∀ fp, FieldParams fd fp → Bnd ws wa (qf fd) P S (f fd.ty fp))
    (hQ : if isChoice sd then ∀ fd ∈ sd.fields, qf fd ≤ Q else (sd.fields.map qf).sum ≤ Q) :
    Bnd ws wa Q (if params.openType then P + wa else P) S (decStructC f rfv zero sd params ve) := by
  obtain ⟨k, e, hk⟩ := decStructC_body ws wa Q P S f rfv zero sd params ve qf hf hQ
  rw [e]
  exact Bnd_bind0 (Bnd_lift (MonoD_optRead _)) fun ob => (hk ob).1

/-- the struct body consumes a bit when there is an OPTIONAL bitmap, a CHOICE index, or a strict first component -/
theorem Strict_decStruct (ws wa Q P S : Nat) (f : Ty → Params → DC Val) (rfv : Ty → Val → Res Int) (zero : Ty → Val)
    (sd : StructDef) (params : Params) (ve : Bool) (qf : Field → Nat)
    (hf : ∀ fd ∈ sd.fields, ∀ fp, FieldParams fd fp → Bnd ws wa (qf fd) P S (f fd.ty fp))
    (hQ : if isChoice sd then ∀ fd ∈ sd.fields, qf fd ≤ Q else (sd.fields.map qf).sum ≤ Q)
    (hd : sd.fields.any (fun f => f.params.optional) = true ∨ (isChoice sd = true ∧ params.openType = false) ∨
      (isChoice sd = false ∧ ∃ f0 rest, sd.fields = f0 :: rest ∧ f0.params.optional = false ∧
        ∀ fp, FieldParams f0 fp → Strict (f f0.ty fp))) :
    Strict (decStructC f rfv zero sd params ve) := by
  obtain ⟨k, e, hk⟩ := decStructC_body ws wa Q P S f rfv zero sd params ve qf hf hQ
  rw [e]
  by_cases hopt : (sd.fields.filter (·.params.optional)).length > 0
  · simp only [hopt, if_true]
    exact Strict_bind_l (Strict_lift (StrictD_getBitsValue _ (by omega))) fun ob => Bnd_toMono (hk ob).1
  · refine Strict_bind_r (MonoC_lift (MonoD_optRead _)) fun ob => (hk ob).2 ?_
    rcases hd with hany | hd
    · obtain ⟨x, hx, hxo⟩ := List.any_eq_true.mp hany
      exact absurd (List.length_pos_of_mem (List.mem_filter.mpr ⟨hx, hxo⟩)) hopt
    · exact hd

end Stgutg.Proofs.AperCost
