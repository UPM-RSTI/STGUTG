/-
  C02 helper: C08 on the three remaining NAS messages the emulator protects after registration. `EncodeNasPduWithSecurity`
  first runs `PlainNasDecode` on the constructor's octets and re-encodes the decoded message with `PlainNasEncode`; for the
  UL NAS TRANSPORT wrapper with request type, DNN and S-NSSAI (PDU SESSION ESTABLISHMENT REQUEST, PDU SESSION RELEASE COMPLETE
  inside) and for the DEREGISTRATION REQUEST (any mobile identity below 64 KiB) this reproduces the octets: each is `Sent.reenc`
  of the constructor's theorem in Props/C09.lean.
-/
import Stgutg.Proofs.EmulatorLife
import Stgutg.Proofs.EmulatorReencode
import Stgutg.Props.C02Steps

namespace Stgutg.Proofs.EmulatorLifeReenc
open Stgutg Stgutg.Nas Stgutg.Gen.Nas Stgutg.Gen Stgutg.Model.Emulator Stgutg.Proofs.EmulatorLife Stgutg.Proofs.EmulatorReencode
open Stgutg.Props.C09 Stgutg.Spec.Ts24501

/-- **C08 on the UL NAS TRANSPORT wrapper** (request type, DNN, S-NSSAI variant), any payload below 64 KiB -/
theorem reenc_ulNasTransport (payload : Bytes) (psi rt : Nat) (dnn : Bytes) (sn : Option (Nat × UInt8 × UInt8 × UInt8))
    (hpsi : psi < 256) (hrt : rt < 8) (hp : payload.length < 65536) (hd : dnn.length ≤ 99 ∧ ∀ c ∈ dnn, c ≠ 0x2E)
    (hs : ∀ x, sn = some x → x.1 < 256) (p : Bytes)
    (h : Ctor.encodeWith layout_ULNASTransport (Ctor.ulNasTransport payload (UInt8.ofNat psi) true (UInt8.ofNat rt) dnn
      (sn.map fun x => ⟨UInt8.ofNat x.1, [x.2.1, x.2.2.1, x.2.2.2]⟩)) = .ok p) : Reenc p := by
  obtain ⟨bs, henc, hsent⟩ := ulNasTransport_sent payload psi rt dnn sn hpsi hrt hp hd
  cases henc.symm.trans h
  exact hsent.reenc

/-- **C08 on `GetUlNasTransport_PduSessionEstablishmentRequest`** (what `establishPDU_runs` needs of the message it protects) -/
theorem reenc_ulEstablishment (psi rt : Nat) (dnn : Bytes) (sn : Option (Nat × UInt8 × UInt8 × UInt8))
    (hpsi : psi < 256) (hrt : rt < 8) (hd : dnn.length ≤ 99 ∧ ∀ c ∈ dnn, c ≠ 0x2E) (hs : ∀ x, sn = some x → x.1 < 256) (p : Bytes)
    (h : Ctor.encodeWith layout_ULNASTransport (Ctor.ulEstablishment (UInt8.ofNat psi) (UInt8.ofNat rt) dnn
      (sn.map fun x => ⟨UInt8.ofNat x.1, [x.2.1, x.2.2.1, x.2.2.2]⟩)) = .ok p) : Reenc p := by
  obtain ⟨_, bs, henc, hsent⟩ := ulEstablishment_sent psi rt dnn sn hpsi hrt hd
  cases henc.symm.trans h
  exact hsent.reenc

/-- **C08 on `GetUlNasTransport_PduSessionReleaseComplete`** (`hre3`) -/
theorem reenc_ulReleaseComplete (psi rt : Nat) (dnn : Bytes) (sn : Option (Nat × UInt8 × UInt8 × UInt8))
    (hpsi : psi < 256) (hrt : rt < 8) (hd : dnn.length ≤ 99 ∧ ∀ c ∈ dnn, c ≠ 0x2E) (hs : ∀ x, sn = some x → x.1 < 256) (p : Bytes)
    (h : Ctor.encodeWith layout_ULNASTransport (Ctor.ulReleaseComplete (UInt8.ofNat psi) (UInt8.ofNat rt) dnn
      (sn.map fun x => ⟨UInt8.ofNat x.1, [x.2.1, x.2.2.1, x.2.2.2]⟩)) = .ok p) : Reenc p := by
  obtain ⟨_, bs, henc, hsent⟩ := ulReleaseComplete_sent psi rt dnn sn hpsi hrt hd
  cases henc.symm.trans h
  exact hsent.reenc

/-- **C08 on `GetDeregistrationRequest`** (`hreD`): any access type, switch-off flag, even key set identifier, and mobile identity
    whose `Len` is its length, below 64 KiB -/
theorem reenc_deregistrationRequest (acc sw ksi : Nat) (mi : Val) (ha : acc < 4) (hs : sw < 2) (hk : ksi < 8)
    (hev : ksi % 2 = 0) (hl : mi.len = mi.data.length) (hlt : mi.data.length < 65536) (p : Bytes)
    (h : Ctor.encodeWith layout_DeregistrationRequestUEOriginatingDeregistration
      (Ctor.deregistrationRequest (UInt8.ofNat acc) (UInt8.ofNat sw) (UInt8.ofNat ksi) mi) = .ok p) : Reenc p := by
  obtain ⟨_, bs, henc, hsent⟩ := deregistrationRequest_sent acc sw ksi mi ha hs hk hev hl hlt
  cases henc.symm.trans h
  exact hsent.reenc

set_option maxRecDepth 1000000 in
/-- the hypotheses are satisfiable: the three constructors do encode with the emulator's arguments (PSI 5, request type 1, DNN
    "internet", S-NSSAI 1 / 010203; a 13-octet SUCI) -/
example :
    (match Ctor.encodeWith layout_ULNASTransport (Ctor.ulEstablishment (UInt8.ofNat 5) (UInt8.ofNat 1) internet
        ((some (1, (1 : UInt8), (2 : UInt8), (3 : UInt8))).map fun x => ⟨UInt8.ofNat x.1, [x.2.1, x.2.2.1, x.2.2.2]⟩)),
      Ctor.encodeWith layout_ULNASTransport (Ctor.ulReleaseComplete (UInt8.ofNat 5) (UInt8.ofNat 1) internet
        ((some (1, (1 : UInt8), (2 : UInt8), (3 : UInt8))).map fun x => ⟨UInt8.ofNat x.1, [x.2.1, x.2.2.1, x.2.2.2]⟩)),
      Ctor.encodeWith layout_DeregistrationRequestUEOriginatingDeregistration
        (Ctor.deregistrationRequest (UInt8.ofNat 1) (UInt8.ofNat 0) (UInt8.ofNat 4)
          (suciVal [0x01, 0x00, 0xf1, 0x10, 0xf0, 0xff, 0x00, 0x00, 0x00, 0x00, 0x00, 0x00, 0x10])) with
    | .ok _, .ok _, .ok _ => true
    | _, _, _ => false) = true := by decide +kernel

end Stgutg.Proofs.EmulatorLifeReenc
