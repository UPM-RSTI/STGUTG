/-
  C04, composite round trip — definitions.

  * `RT'`      : `RT` for a computation that refuses an exhausted reader at entry (`parseField`'s
                 "sequence truncated" test): the statement assumes that at least one bit is left.
  * `neF`      : static "every successful encoding of this (type, parameters) has at least one bit".
  * `exIds`    : ids of the struct types that may encode to zero bits (computed in one pass over the
                 topologically ordered schema; no random access into the schema, so the kernel can decide it).
  * `paramsOK` : what the parameters (the `aper:"…"` tag) of a component must satisfy for decoder and encoder to agree.
  * `rtOK`     : decidable well-formedness of a schema, exactly what the round-trip proof forces.
  * `conf`     : "v is a value of type ty within its constraints" (Bool-valued, so concrete values are checked by `decide`);
                 no bound on string lengths or open-type contents (fragmented lengths are covered, `Proofs/AperRTFrag.lean`).
-/
import Stgutg.Proofs.AperRTFrag
import Stgutg.Proofs.AperTotal

namespace Stgutg.Proofs.AperRTComp
open Stgutg Stgutg.Aper Stgutg.Proofs.Bits Stgutg.Proofs.AperRT

/-- as `RT`, for inputs on which at least one bit is left at entry -/
def RT' {α : Type} (bits : Bits) (pos : Nat) (m : D α) (a : α) : Prop :=
  ∀ tail, (pos + bits.length + tail.length) % 8 = 0 → bits ++ tail ≠ [] →
    m (mkRd (bits ++ tail) pos) = .ok (a, mkRd tail (pos + bits.length))

def isPtr : Ty → Bool
  | .ptr _ => true
  | _ => false

/-! ### parameters -/

/-- INTEGER: the side conditions of `RT_int` -/
def intOK (p : Params) : Bool :=
  match p.valueLB, p.valueUB with
  | some lb, some ub =>
    decide (0 ≤ lb) && decide (ub < 2 ^ 63) && (decide (ub - lb + 1 ≤ 65536) || decide (lb = 0)) && !p.sizeExt
  | _, _ => false

/-- ENUMERATED: the decoder returns the index, so the root must start at 0 (no bounds: never encodable) -/
def enumOK (p : Params) : Bool :=
  !p.sizeExt && (match p.valueLB with | some lb => decide (lb = 0) | none => true)

/-- what fragmentation asks of a string's size constraint (`FragParamsOK`): SIZE(lb..MAX) only with lb = 0, a
    constrained size (ub < 64K) ends below 16K — so a length of 16K or more is always a general length with lower bound 0 -/
def fragOK (p : Params) : Bool :=
  (p.sizeUB.isSome || p.sizeLB == none || p.sizeLB == some 0) &&
  (match p.sizeUB with | some u => decide (65535 < u) || decide (u < 16384) | none => true)

/-- BIT STRING / OCTET STRING / PrintableString: `SizedParamsOK`, `FragParamsOK` and no value-extension bit -/
def sizedOK (p : Params) : Bool :=
  (!p.sizeExt || (p.sizeLB.isSome && p.sizeUB.isSome)) && (!p.sizeUB.isSome || p.sizeLB.isSome) &&
  (match p.sizeLB with | some l => decide (0 ≤ l) | none => true) && AperTotal.sizeOK p && !p.valueExt && fragOK p

/-- SEQUENCE OF: non-negative lower bound; a size-extension marker only with an upper bound below 64K
    (otherwise the encoder writes no extension bit while the decoder reads one) -/
def sliceOK (p : Params) : Bool :=
  decide (0 ≤ sliceLB p) &&
  (!p.sizeExt || match p.sizeUB with | some u => decide (u < 65536) | none => false)

/-! ### non-empty encodings -/

/-- every successful encoding has ≥ 1 bit. `ex` lists the struct ids (below `bound`) that may encode to nothing. -/
def neF (ex : List Nat) (bound : Nat) : Ty → Params → Bool
  | .ptr t, p => neF ex bound t p
  | .int, p =>
    match p.valueLB, p.valueUB with
    | some lb, some ub => p.valueExt || decide (lb ≠ ub)
    | _, _ => false
  | .enum, p =>
    match p.valueLB, p.valueUB with
    | some lb, some ub => p.valueExt || decide (lb ≠ ub)
    | _, _ => true
  | .bool, _ => true
  | .oid, _ => true
  | .bits, p => sizedOK p
  | .octs, p => sizedOK p
  | .str, p => sizedOK p
  | .slice _, p =>
    match p.sizeUB with
    | some u => if u < 65536 then p.sizeExt || decide (u ≠ sliceLB p) else true
    | none => true
  | .struct j, p => p.valueExt || (decide (j < bound) && !(ex.contains j))

/-- a struct type encodes to ≥ 1 bit even without an extension bit: CHOICE (index / open-type length),
    SEQUENCE with an OPTIONAL bitmap, or a first (mandatory) component that is never empty -/
def selfNE (ex : List Nat) (id : Nat) (sd : StructDef) : Bool :=
  isChoice sd || sd.fields.any (fun f => f.params.optional) ||
  match sd.fields with
  | f0 :: _ => neF ex id f0.ty f0.params
  | [] => false

/-- one pass over the schema: the ids whose struct may encode to zero bits -/
def exIdsFrom : Nat → List StructDef → List Nat → List Nat
  | _, [], acc => acc
  | id, sd :: rest, acc =>
    if selfNE acc id sd then exIdsFrom (id + 1) rest acc else exIdsFrom (id + 1) rest (id :: acc)

def exIds (env : Env) : List Nat := exIdsFrom 0 env []

/-- "never empty" relative to a schema -/
def neTy (env : Env) (ty : Ty) (p : Params) : Bool := neF (exIds env) env.length ty p

/-- parameters fit the type (the reference value of an open type is irrelevant here) -/
def paramsOKx (ex : List Nat) (bound : Nat) : Ty → Params → Bool
  | .ptr t, p => paramsOKx ex bound t p
  | .slice t, p => sliceOK p && paramsOKx ex bound t (stripSizeE p) && neF ex bound t (stripSizeE p)
  | .struct _, p => !p.sizeExt
  | .int, p => intOK p
  | .enum, p => enumOK p
  | .bool, p => !p.sizeExt && !p.valueExt
  | .oid, _ => true
  | .bits, p => sizedOK p
  | .octs, p => sizedOK p
  | .str, p => sizedOK p

def paramsOK (env : Env) (ty : Ty) (p : Params) : Bool := paramsOKx (exIds env) env.length ty p

/-- `findAlt` finds every alternative that carries a reference value (first match wins: values are distinct) -/
def altsOKFrom (fields : List Field) : Nat → List Field → Bool
  | _, [] => true
  | j, f :: rest =>
    (match f.params.refValue with
     | none => true
     | some rv => findAlt fields rv == some j) && altsOKFrom fields (j + 1) rest

def optCountOf (sd : StructDef) : Nat := (sd.fields.filter (fun f => f.params.optional)).length

def structRT (ex : List Nat) (bound : Nat) (sd : StructDef) : Bool :=
  if isChoice sd then
    sd.fields.all (fun f => !f.params.optional) &&
    (sd.fields.drop 1).all (fun f => isPtr f.ty && paramsOKx ex bound f.ty f.params) &&
    altsOKFrom sd.fields 1 (sd.fields.drop 1)
  else
    sd.fields.all (fun f => (!f.params.optional || isPtr f.ty) && paramsOKx ex bound f.ty f.params &&
      neF ex bound f.ty f.params) &&
    decide (optCountOf sd < 64)

/-- decidable well-formedness of a schema for the round trip -/
def rtOK (env : Env) : Bool := env.all (structRT (exIds env) env.length)

/-! ### conforming values -/

/-- every element is nil except the one at index `k` (indices counted from `j`) -/
def nilExceptFrom : Nat → Nat → List Val → Bool
  | _, _, [] => true
  | j, k, v :: vs => (j == k || isNil v) && nilExceptFrom (j + 1) k vs

def confFields (c : Ty → Params → Val → Bool) : List Field → List Val → Bool
  | [], [] => true
  | fd :: frest, v :: vrest =>
    ((fd.params.optional && isNil v) || c fd.ty fd.params v) && confFields c frest vrest
  | _, _ => false

/-- CHOICE / open type value: `Present = p`, alternative `p` conforms and never encodes to nothing, every other
    alternative is nil (the content of an open type may be of any length: 16K octets or more are fragmented) -/
def confChoice (c : Ty → Params → Val → Bool) (ne : Ty → Params → Bool)
    (sd : StructDef) (fs : List Val) : Bool :=
  decide (fs.length = sd.fields.length) &&
  match fs with
  | .int p :: alts =>
    nilExceptFrom 1 p.toNat alts &&
    match sd.fields[p.toNat]?, fs[p.toNat]? with
    | some fd, some alt =>
      c fd.ty fd.params alt && ne fd.ty fd.params
    | _, _ => false
  | _ => false

/-- `v` is a value of type `ty` within the constraints `params` (what the round trip needs beyond
    "the encoder accepts it") -/
def conf (env : Env) : Nat → Ty → Params → Val → Bool
  | 0, _, _, _ => false
  | fuel + 1, ty, params, v =>
    match ty, v with
    | .ptr t, .ptr v' => conf env fuel t params v'
    | .bits, .bits bytes len => decide (bitsToBytes ((bytesToBits bytes).take len) = bytes)
    | .octs, .octs _ => true
    | .str, .str _ => true
    | .enum, .enum _ => true
    | .bool, .bool _ => true
    | .int, .int n =>
      (match params.valueLB, params.valueUB with
       | some lb, some ub =>
         -- inside the root, or an extension value of an extensible INTEGER (an int64)
         decide (lb ≤ n) && (decide (n ≤ ub) || (params.valueExt && decide (n < 2 ^ 63)))
       | _, _ => false)
    | .slice t, .slice vs => vs.all (fun v => conf env fuel t (stripSizeE params) v)
    | .struct id, .struct fs =>
      (match env[id]? with
       | none => false
       | some sd =>
         if !(isChoice sd) then confFields (conf env fuel) sd.fields fs
         else confChoice (conf env fuel) (neTy env) sd fs)
    | _, _ => false

end Stgutg.Proofs.AperRTComp
