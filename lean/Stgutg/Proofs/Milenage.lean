/-
  For C15: octet strings vs. bit strings, rotation by whole octets (the specification rotates bit strings, the code
  copies octets in an index loop, `scatter`), xor on octet strings, `os_memcmp` as lexicographic comparison and that as
  comparison of big-endian numbers, lengths of the specification's outputs, `milenageF1`, the AUTN of TS 33.102.
-/
import Stgutg.Model.Milenage
import Stgutg.Spec.Ts35206
import Stgutg.Proofs.Hex
namespace Stgutg.Proofs.Milenage
open Stgutg Stgutg.Spec.Ts35206 Stgutg.Model.Milenage
open Stgutg.Proofs.Hex (xorBytes_length xorBytes_cancel)

theorem byteBits_eq (a : UInt8) : byteBits a =
    [a.toNat.testBit 7, a.toNat.testBit 6, a.toNat.testBit 5, a.toNat.testBit 4,
     a.toNat.testBit 3, a.toNat.testBit 2, a.toNat.testBit 1, a.toNat.testBit 0] := rfl

theorem byteBits_length (a : UInt8) : (byteBits a).length = 8 := rfl

theorem fold_testBit : ∀ n : Fin 256,
    ([n.val.testBit 7, n.val.testBit 6, n.val.testBit 5, n.val.testBit 4,
      n.val.testBit 3, n.val.testBit 2, n.val.testBit 1, n.val.testBit 0].foldl
        (fun a b => 2 * a + b.toNat) 0) = n.val := by decide +kernel

theorem bitsToByte_byteBits (a : UInt8) : bitsToByte (byteBits a) = a := by
  rw [byteBits_eq, bitsToByte]
  have := fold_testBit ⟨a.toNat, a.toNat_lt⟩
  simp only at this
  rw [this]
  exact UInt8.ofNat_toNat

theorem unbits_byteBits_append (a : UInt8) (r : List Bool) : unbits (byteBits a ++ r) = a :: unbits r := by
  have h := bitsToByte_byteBits a
  rw [byteBits_eq] at h ⊢
  simp only [List.cons_append, List.nil_append, unbits, h]

theorem bits_cons (a : UInt8) (x : Bytes) : bits (a :: x) = byteBits a ++ bits x := by
  simp [bits]

theorem bits_append (x y : Bytes) : bits (x ++ y) = bits x ++ bits y := by
  simp [bits]

theorem unbits_bits (x : Bytes) : unbits (bits x) = x := by
  induction x with
  | nil => rfl
  | cons a x ih => rw [bits_cons, unbits_byteBits_append, ih]

theorem bits_drop (q : Nat) (x : Bytes) : (bits x).drop (8 * q) = bits (x.drop q) := by
  induction q generalizing x with
  | zero => simp
  | succ q ih =>
    cases x with
    | nil => simp [bits]
    | cons a x =>
      rw [bits_cons, List.drop_succ_cons, ← ih x]
      have : 8 * (q + 1) = (byteBits a).length + 8 * q := by rw [byteBits_length]; omega
      rw [this, List.drop_length_add_append]

theorem bits_take (q : Nat) (x : Bytes) : (bits x).take (8 * q) = bits (x.take q) := by
  induction q generalizing x with
  | zero => simp [bits]
  | succ q ih =>
    cases x with
    | nil => simp [bits]
    | cons a x =>
      rw [bits_cons, List.take_succ_cons, bits_cons, ← ih x]
      have : 8 * (q + 1) = (byteBits a).length + 8 * q := by rw [byteBits_length]; omega
      rw [this, List.take_length_add_append]

/-- rotation by a whole number of octets is rotation of the octet string -/
theorem rot_octets (x : Bytes) (q : Nat) : rot x (8 * q) = x.drop q ++ x.take q := by
  rw [rot, bits_drop, bits_take, ← bits_append, unbits_bits]

theorem c2_eq : c2 = [0, 0, 0, 0, 0, 0, 0, 0, 0, 0, 0, 0, 0, 0, 0, 1] := by decide +kernel
theorem c3_eq : c3 = [0, 0, 0, 0, 0, 0, 0, 0, 0, 0, 0, 0, 0, 0, 0, 2] := by decide +kernel
theorem c4_eq : c4 = [0, 0, 0, 0, 0, 0, 0, 0, 0, 0, 0, 0, 0, 0, 0, 4] := by decide +kernel
theorem c5_eq : c5 = [0, 0, 0, 0, 0, 0, 0, 0, 0, 0, 0, 0, 0, 0, 0, 8] := by decide +kernel

/-- the index loop of `scatter` on any 16-octet buffer, after `n` rounds: position `(i + s) % 16` holds the value of round `i` -/
theorem scatterFold_get (g : Nat → UInt8) (s : Nat) (init : Bytes) (h : init.length = 16) (n : Nat) (hn : n ≤ 16) :
    ((List.range n).foldl (fun out i => out.set ((i + s) % 16) (g i)) init).length = 16 ∧
    ∀ i < n, ((List.range n).foldl (fun out i => out.set ((i + s) % 16) (g i)) init)[(i + s) % 16]? = some (g i) := by
  induction n with
  | zero => exact ⟨h, fun i hi => absurd hi (Nat.not_lt_zero i)⟩
  | succ n ih =>
    obtain ⟨hl, hg⟩ := ih (by omega)
    rw [List.range_succ, List.foldl_append]
    refine ⟨by simpa using hl, fun i hi => ?_⟩
    rw [List.foldl_cons, List.foldl_nil]
    by_cases hin : i = n
    · subst hin; rw [List.getElem?_set_self (by omega)]
    · rw [List.getElem?_set_ne (by omega)]; exact hg i (by omega)

/-- after all 16 rounds nothing of the initial buffer is left: position `k` holds the value of round `k - s` (mod 16) -/
theorem scatterFold_eq (g : Nat → UInt8) (s : Nat) (init : Bytes) (h : init.length = 16) :
    (List.range 16).foldl (fun out i => out.set ((i + s) % 16) (g i)) init
      = (List.range 16).map fun k => g ((k + (16 - s % 16)) % 16) := by
  obtain ⟨hl, hg⟩ := scatterFold_get g s init h 16 (Nat.le_refl _)
  apply List.ext_getElem?
  intro k
  by_cases hk : k < 16
  · have := hg ((k + (16 - s % 16)) % 16) (Nat.mod_lt _ (by decide))
    rw [show ((k + (16 - s % 16)) % 16 + s) % 16 = k by omega] at this
    rw [this, List.getElem?_map, List.getElem?_range hk]; rfl
  · rw [List.getElem?_eq_none (by omega), List.getElem?_eq_none (by simp; omega)]

theorem scatter_length (s : Nat) (x : Bytes) : (scatter s x).length = 16 :=
  (scatterFold_get _ s _ (List.length_replicate ..) 16 (Nat.le_refl _)).1

/-- `scatter s` rotates a 16-octet string by `s` octets towards the end -/
theorem scatter_eq {x : Bytes} (h : x.length = 16) {s : Nat} (hs : s ≤ 16) :
    scatter s x = x.drop (16 - s) ++ x.take (16 - s) := by
  rw [scatter, scatterFold_eq _ _ _ (List.length_replicate ..)]
  apply List.ext_getElem?
  intro k
  by_cases hk : k < 16
  · rw [List.getElem?_map, List.getElem?_range hk, List.getElem?_append, List.length_drop, List.getElem?_drop,
      List.getElem?_take]
    simp only [Option.map_some, List.getD_eq_getElem?_getD]
    by_cases hks : k < s
    · rw [if_pos (by omega), show (k + (16 - s % 16)) % 16 = 16 - s + k by omega, List.getElem?_eq_getElem (by omega)]
      rfl
    · rw [if_neg (by omega), if_pos (by omega), show (k + (16 - s % 16)) % 16 = k - (x.length - (16 - s)) by omega,
        List.getElem?_eq_getElem (by omega)]
      rfl
  · rw [List.getElem?_eq_none (by simp; omega), List.getElem?_eq_none (by simp; omega)]

theorem xorLast_eq {x : Bytes} (h : x.length = 16) (c : UInt8) :
    xorBytes x [0, 0, 0, 0, 0, 0, 0, 0, 0, 0, 0, 0, 0, 0, 0, c] = xorLast x c := by
  obtain ⟨a0, a1, a2, a3, a4, a5, a6, a7, a8, a9, a10, a11, a12, a13, a14, a15, rfl⟩ := Hex.len16 h
  simp [xorBytes, xorLast]

theorem xorBytes_comm (a b : Bytes) : xorBytes a b = xorBytes b a := by
  induction a generalizing b with
  | nil => cases b <;> simp [xorBytes]
  | cons x a ih =>
    cases b with
    | nil => simp [xorBytes]
    | cons y b =>
      have := ih b
      simp only [xorBytes] at this ⊢
      rw [List.zipWith_cons_cons, List.zipWith_cons_cons, this, UInt8.xor_comm]

theorem xorBytes_zeros {a : Bytes} {n : Nat} (h : a.length ≤ n) : xorBytes a (List.replicate n 0) = a := by
  induction a generalizing n with
  | nil => simp [xorBytes]
  | cons x a ih =>
    cases n with
    | zero => simp at h
    | succ n =>
      have := ih (n := n) (by simpa using h)
      simp only [xorBytes] at this ⊢
      rw [List.replicate_succ, List.zipWith_cons_cons, this, UInt8.xor_zero]

theorem xorBytes_take (a b : Bytes) (n : Nat) : (xorBytes a b).take n = xorBytes (a.take n) (b.take n) := by
  simp [xorBytes, List.take_zipWith]

theorem xorBytes_drop (a b : Bytes) (n : Nat) : (xorBytes a b).drop n = xorBytes (a.drop n) (b.drop n) := by
  simp [xorBytes, List.drop_zipWith]

theorem xor16_eq {a b : Bytes} (ha : a.length = 16) (hb : b.length = 16) : xor16 a b = xorBytes a b := by
  rw [xor16, List.take_of_length_le (by omega), List.take_of_length_le (by omega)]

/-- three-way lexicographic comparison of octet strings (what C `memcmp` computes, as a sign) -/
def lexCmp : Bytes → Bytes → Int
  | x :: a, y :: b => if x < y then -1 else if x > y then 1 else lexCmp a b
  | _, _ => 0

theorem osMemcmpFrom_eq (a b : Bytes) (n i : Nat) (ha : a.length = i + n) (hb : b.length = i + n) :
    osMemcmpFrom a b n i = .ok (lexCmp (a.drop i) (b.drop i)) := by
  induction n generalizing i with
  | zero =>
    have h1 : a.drop i = [] := List.drop_eq_nil_of_le (by omega)
    simp [osMemcmpFrom, h1, lexCmp]
  | succ n ih =>
    have hia : i < a.length := by omega
    have hib : i < b.length := by omega
    rw [osMemcmpFrom, List.getElem?_eq_getElem hia, List.getElem?_eq_getElem hib]
    rw [List.drop_eq_getElem_cons hia, List.drop_eq_getElem_cons hib]
    simp only [lexCmp]
    rw [ih (i + 1) (by omega) (by omega)]
    split
    · rfl
    · split <;> rfl

theorem os_memcmp_eq {a b : Bytes} {n : Nat} (ha : a.length = n) (hb : b.length = n) :
    os_memcmp a b n = .ok (lexCmp a b) := by
  have := osMemcmpFrom_eq a b n 0 (by omega) (by omega)
  simpa [os_memcmp] using this

theorem beNat_foldl (acc : Nat) (l : Bytes) :
    l.foldl (fun a b => a * 256 + b.toNat) acc = acc * 256 ^ l.length + beNat l := by
  induction l generalizing acc with
  | nil => simp [beNat]
  | cons x l ih =>
    simp only [List.foldl_cons, beNat, List.length_cons]
    rw [ih, ih (0 * 256 + x.toNat)]
    rw [Nat.pow_succ, Nat.add_mul]
    simp [Nat.mul_assoc, Nat.mul_comm, Nat.add_assoc]

theorem beNat_cons (x : UInt8) (l : Bytes) : beNat (x :: l) = x.toNat * 256 ^ l.length + beNat l := by
  simp only [beNat, List.foldl_cons]
  rw [beNat_foldl]; simp [beNat]

theorem beNat_lt (l : Bytes) : beNat l < 256 ^ l.length := by
  induction l with
  | nil => simp [beNat]
  | cons x l ih =>
    rw [beNat_cons, List.length_cons, Nat.pow_succ]
    have hx : x.toNat < 256 := x.toNat_lt
    have : (x.toNat + 1) * 256 ^ l.length ≤ 256 * 256 ^ l.length := Nat.mul_le_mul_right _ (by omega)
    rw [Nat.add_mul] at this
    omega

theorem lexCmp_le_zero {a b : Bytes} (h : a.length = b.length) : lexCmp a b ≤ 0 ↔ beNat a ≤ beNat b := by
  induction a generalizing b with
  | nil => cases b <;> simp [lexCmp, beNat]
  | cons x a ih =>
    cases b with
    | nil => simp at h
    | cons y b =>
      have hl : a.length = b.length := by simpa using h
      have hA := beNat_lt a
      have hB := beNat_lt b
      rw [lexCmp, beNat_cons, beNat_cons, ← hl]
      simp only [gt_iff_lt, UInt8.lt_iff_toNat_lt]
      rw [← hl] at hB
      -- unless the first octets are equal they decide: x < y gives (x + 1) · 256^n ≤ y · 256^n
      rcases Nat.lt_trichotomy x.toNat y.toNat with h1 | h1 | h1
      · have := Nat.mul_le_mul_right (256 ^ a.length) (Nat.succ_le_of_lt h1)
        rw [Nat.succ_mul] at this
        rw [if_pos h1]; omega
      · rw [if_neg (by omega), if_neg (by omega), ih hl, h1]; omega
      · have := Nat.mul_le_mul_right (256 ^ a.length) (Nat.succ_le_of_lt h1)
        rw [Nat.succ_mul] at this
        rw [if_neg (by omega), if_pos h1]; omega

theorem lexCmp_eq_zero {a b : Bytes} (h : a.length = b.length) : lexCmp a b = 0 ↔ a = b := by
  induction a generalizing b with
  | nil => cases b <;> simp_all [lexCmp]
  | cons x a ih =>
    cases b with
    | nil => simp at h
    | cons y b =>
      rw [lexCmp, List.cons.injEq, ← UInt8.toNat_inj]
      simp only [gt_iff_lt, UInt8.lt_iff_toNat_lt]
      rcases Nat.lt_trichotomy x.toNat y.toNat with h1 | h1 | h1
      · rw [if_pos h1]; omega
      · rw [if_neg (by omega), if_neg (by omega), ih (by simpa using h)]; simp [h1]
      · rw [if_neg (by omega), if_pos h1]; omega
theorem newCipher16 {k : Bytes} (hk : k.length = 16) : newCipher k = .ok () := by simp [newCipher, hk]

theorem take_full {α} {l : List α} {n : Nat} (h : l.length = n) : l.take n = l := List.take_of_length_le (by omega)

/-- the F1 input block: index loop + xor = TEMP ⊻ rot(X, r1) ⊻ c1 -/
theorem f1_block {T X : Bytes} (hT : T.length = 16) (hX : X.length = 16) :
    xorBytes (scatter 8 X) T = T ⊻ rot X r1 ⊻ c1 := by
  have hr : (X.drop 8 ++ X.take 8).length = 16 := by simp; omega
  have hx : (T ⊻ (X.drop 8 ++ X.take 8)).length ≤ 16 := by rw [xorBytes_length]; omega
  rw [scatter_eq hX (show 8 ≤ 16 by decide), r1, c1, show (64 : Nat) = 8 * 8 from rfl, rot_octets, xorBytes_zeros hx,
    xorBytes_comm]

/-- the F2..F5* input blocks: index loop + `t[15] ^= c` = rot(X, 8(16 - s)) ⊻ (0^120 ‖ c) -/
theorem fN_block {X : Bytes} (hX : X.length = 16) {s : Nat} (hs : s ≤ 16) (c : UInt8) :
    xorLast (scatter s X) c = rot X (8 * (16 - s)) ⊻ [0, 0, 0, 0, 0, 0, 0, 0, 0, 0, 0, 0, 0, 0, 0, c] := by
  have hr : (X.drop (16 - s) ++ X.take (16 - s)).length = 16 := by simp; omega
  rw [scatter_eq hX hs, rot_octets, xorLast_eq hr]
theorem fN_block0 {X : Bytes} (hX : X.length = 16) (c : UInt8) :
    xorLast X c = rot X 0 ⊻ [0, 0, 0, 0, 0, 0, 0, 0, 0, 0, 0, 0, 0, 0, 0, c] := by
  rw [show (0 : Nat) = 8 * 0 from rfl, rot_octets, xorLast_eq (by simpa using hX)]
  simp

/-! lengths of the specification's outputs -/
section lengths
variable {E : Cipher} (hE : BlockCipher E) {k opc rand : Bytes}
  (hk : k.length = 16) (hopc : opc.length = 16) (hrand : rand.length = 16)
include hE hk hopc hrand

theorem temp_length : (temp E k opc rand).length = 16 :=
  hE _ _ hk (by rw [xorBytes_length]; omega)

theorem tempOpc_length : (temp E k opc rand ⊻ opc).length = 16 := by
  rw [xorBytes_length, temp_length hE hk hopc hrand]; omega

theorem outN_length (q : Nat) (c : Bytes) (hc : c.length = 16) : (outN E k opc rand (8 * q) c).length = 16 := by
  have hto := tempOpc_length hE hk hopc hrand
  have hr : (rot (temp E k opc rand ⊻ opc) (8 * q) ⊻ c).length = 16 := by
    rw [rot_octets, xorBytes_length]; simp; omega
  rw [outN, xorBytes_length, hE _ _ hk hr]; omega

theorem f2_length : (f2 E k opc rand).length = 8 := by
  have := outN_length hE hk hopc hrand 0 c2 (by rw [c2_eq]; rfl)
  simp only [f2, out2, r2, List.length_drop]; simp only [Nat.mul_zero] at this; omega
theorem f5_length : (f5 E k opc rand).length = 6 := by
  have := outN_length hE hk hopc hrand 0 c2 (by rw [c2_eq]; rfl)
  simp only [f5, out2, r2, List.length_take]; simp only [Nat.mul_zero] at this; omega
theorem f3_length : (f3 E k opc rand).length = 16 := by
  have := outN_length hE hk hopc hrand 4 c3 (by rw [c3_eq]; rfl)
  simpa [f3, out3, r3] using this
theorem f4_length : (f4 E k opc rand).length = 16 := by
  have := outN_length hE hk hopc hrand 8 c4 (by rw [c4_eq]; rfl)
  simpa [f4, out4, r4] using this
theorem f5star_length : (f5star E k opc rand).length = 6 := by
  have := outN_length hE hk hopc hrand 12 c5 (by rw [c5_eq]; rfl)
  simp only [f5star, out5, r5, List.length_take]; simp only [show 8 * 12 = 96 from rfl] at this; omega

theorem out1_length {sqn amf : Bytes} (hsqn : sqn.length = 6) (hamf : amf.length = 2) :
    (out1 E k opc rand sqn amf).length = 16 := by
  have hin : (in1 sqn amf ⊻ opc).length = 16 := by rw [xorBytes_length]; simp [in1]; omega
  have hx : (temp E k opc rand ⊻ rot (in1 sqn amf ⊻ opc) r1 ⊻ c1).length = 16 := by
    rw [r1, show (64 : Nat) = 8 * 8 from rfl, rot_octets, xorBytes_length, xorBytes_length,
      temp_length hE hk hopc hrand]
    simp [c1]; omega
  rw [out1, xorBytes_length, hE _ _ hk hx]; omega

theorem f1_length {sqn amf : Bytes} (hsqn : sqn.length = 6) (hamf : amf.length = 2) :
    (f1 E k opc rand sqn amf).length = 8 := by
  have := out1_length hE hk hopc hrand hsqn hamf
  simp only [f1, List.length_take]; omega
theorem f1star_length {sqn amf : Bytes} (hsqn : sqn.length = 6) (hamf : amf.length = 2) :
    (f1star E k opc rand sqn amf).length = 8 := by
  have := out1_length hE hk hopc hrand hsqn hamf
  simp only [f1star, List.length_drop]; omega
end lengths

theorem milenageF1_spec (P : Prims) (hE : BlockCipher P.aes) (opc k rand sqn amf : Bytes)
    (hopc : opc.length = 16) (hk : k.length = 16) (hrand : rand.length = 16)
    (hsqn : sqn.length = 6) (hamf : 2 ≤ amf.length) :
    milenageF1 P opc k rand sqn amf
      = .ok (f1 P.aes k opc rand sqn (amf.take 2), f1star P.aes k opc rand sqn (amf.take 2)) := by
  have htemp : (P.aes k (xorBytes rand opc)).length = 16 := temp_length hE hk hopc hrand
  have hin : (sqn ++ amf.take 2 ++ (sqn ++ amf.take 2)).length = 16 := by simp; omega
  have hio : (xorBytes (sqn ++ amf.take 2 ++ (sqn ++ amf.take 2)) opc).length = 16 := by rw [xorBytes_length]; omega
  have h1 : ¬ amf.length < 2 := by omega
  simp only [milenageF1, newCipher16 hk, hrand, hopc, hsqn, h1, take_full hsqn, take_full hopc,
    xor16_eq hrand hopc, xor16_eq hin hopc, f1_block htemp hio]
  simp [f1, f1star, out1, temp, in1]

/-! the AUTN of TS 33.102 6.3.2 conceals its SQN and carries a verifying MAC -/
section autn
variable {E : Cipher} (hE : BlockCipher E) {k opc rand sqnNet amf : Bytes}
  (hk : k.length = 16) (hopc : opc.length = 16) (hrand : rand.length = 16)
  (hnet : sqnNet.length = 6) (hamf : amf.length = 2)
include hE hk hopc hrand hnet

theorem autnSqn_autn : autnSqn E k opc rand (autn E k opc rand sqnNet amf) = sqnNet := by
  have h5 := f5_length hE hk hopc hrand
  have hx : (xorBytes sqnNet (f5 E k opc rand)).length = 6 := by rw [xorBytes_length]; omega
  unfold autnSqn autn
  rw [List.append_assoc, List.take_left' hx]
  exact xorBytes_cancel (by omega)

include hamf

theorem autn_length : (autn E k opc rand sqnNet amf).length = 16 := by
  have h5 := f5_length hE hk hopc hrand
  have h1 := f1_length hE hk hopc hrand hnet hamf
  simp [autn, xorBytes_length, h5, h1, hnet, hamf]

theorem macOk_autn : macOk E k opc rand (autn E k opc rand sqnNet amf) := by
  have h5 := f5_length hE hk hopc hrand
  have hx : (xorBytes sqnNet (f5 E k opc rand)).length = 6 := by rw [xorBytes_length]; omega
  unfold macOk
  rw [autnSqn_autn hE hk hopc hrand hnet]
  unfold autn
  have hxa : (xorBytes sqnNet (f5 E k opc rand) ++ amf).length = 8 := by simp [hx, hamf]
  rw [List.drop_left' hxa, List.append_assoc, List.drop_left' hx, List.take_left' hamf]
end autn

end Stgutg.Proofs.Milenage
