/-
  C13 helper lemmas: what the IE walker (Spec/NgapView.lean) finds in `eval tm` is what the skeleton `tm` shows at the
  same position, with holes filled (`eval_at`, and from it `headers_eval`, `ieValuesById_eval`). All skeleton-side functions
  (`Tm.…`) compute on closed data, so the table facts of Props/C13.lean are kernel evaluations of the checks defined here:
  `classOK`, `mandOK`, one per role of a carried argument (`amfOK` … `ipOK`, written with `carriesExact` — the IE's value is the
  one-component SEQUENCE around the argument, the form in which the reference AMF reads identifiers and NAS-PDU —,
  `carriesItem`, `carriesHole` / `carriesEnc` at a position of the value, `carriesList` / `lacksIE`, each with its soundness
  lemma), `plmnOK`. Also: what a successful `build` returns (`build_ok`), and `Shaped`, the hypothesis of the C13 theorems: the
  PDU is the evaluation of one of the template's skeletons (`Shaped.carries`, `Shaped.exact`: then a hole every skeleton carries
  holds the argument).
-/
import Stgutg.Model.Builders
import Stgutg.Spec.NgapView

namespace Stgutg.Proofs.Builders
open Stgutg Stgutg.Aper Stgutg.Builders Stgutg.Spec.NgapView Stgutg.Model.Convert

variable (E : Ext) (e : BEnv) (cur : Val)

theorem evalL_eq (l : List Tm) : evalL E e cur l = l.map (eval E e cur) := by
  induction l with
  | nil => rfl
  | cons t ts ih => simp [evalL, ih]

/-- the alternatives of an evaluated CHOICE skeleton (`Present` is a literal) -/
theorem getElem?_eval_choice (pv : Int) (alts : List Tm) (k : Nat) (alt : Tm) (h : (Tm.int pv :: alts)[k]? = some alt) :
    (Val.int pv :: alts.map (eval E e cur))[k]? = some (eval E e cur alt) := by
  have := congrArg (Option.map (eval E e cur)) h
  rwa [← List.getElem?_map, List.map_cons, Option.map_some, show eval E e cur (.int pv) = .int pv by simp [eval]] at this

/-- the sub-skeleton at a position (through structs, lists and pointers only) -/
def Tm.at : List Nat → Tm → Option Tm
  | [], t => some t
  | i :: p, .struct fs =>
    match fs[i]? with
    | some x => Tm.at p x
    | none => none
  | i :: p, .slice fs =>
    match fs[i]? with
    | some x => Tm.at p x
    | none => none
  | 0 :: p, .ptr x => Tm.at p x
  | _, _ => none

/-- one step of `Tm.at`: into a component of a struct, an element of a list, or through a pointer -/
theorem at_cons (i : Nat) (p : List Nat) (tm t' : Tm) (h : Tm.at (i :: p) tm = some t') :
    ∃ x, Tm.at p x = some t' ∧
      ((∃ fs, tm = .struct fs ∧ fs[i]? = some x) ∨ (∃ fs, tm = .slice fs ∧ fs[i]? = some x) ∨ (i = 0 ∧ tm = .ptr x)) := by
  cases tm with
  | struct fs =>
    simp only [Tm.at] at h
    cases hfi : fs[i]? with
    | none => simp [hfi] at h
    | some x => exact ⟨x, by simpa [hfi] using h, .inl ⟨fs, rfl, hfi⟩⟩
  | slice fs =>
    simp only [Tm.at] at h
    cases hfi : fs[i]? with
    | none => simp [hfi] at h
    | some x => exact ⟨x, by simpa [hfi] using h, .inr (.inl ⟨fs, rfl, hfi⟩)⟩
  | ptr x =>
    cases i with
    | zero => exact ⟨x, by simpa [Tm.at] using h, .inr (.inr ⟨rfl, rfl⟩)⟩
    | succ n => simp [Tm.at] at h
  | _ => simp [Tm.at] at h

/-- **position lemma**: evaluation commutes with taking the sub-term at a position -/
theorem eval_at : ∀ (p : List Nat) (tm t' : Tm), Tm.at p tm = some t' →
    Val.at p (eval E e cur tm) = some (eval E e cur t') := by
  intro p
  induction p with
  | nil =>
    intro tm t' h
    simp only [Tm.at, Option.some.injEq] at h
    subst h; rfl
  | cons i p ih =>
    intro tm t' h
    obtain ⟨x, hx, ⟨fs, rfl, hfi⟩ | ⟨fs, rfl, hfi⟩ | ⟨rfl, rfl⟩⟩ := at_cons i p tm t' h
    · simpa [eval, evalL_eq, Val.at, hfi] using ih x t' hx
    · simpa [eval, evalL_eq, Val.at, hfi] using ih x t' hx
    · simpa [eval, Val.at] using ih x t' hx

/-! ### header of the PDU -/

def Tm.intAt (p : List Nat) (t : Tm) : Option Int :=
  match Tm.at p t with
  | some (.int n) => some n
  | _ => none

theorem intAt_eval (p : List Nat) (tm : Tm) (n : Int) (h : Tm.intAt p tm = some n) :
    intAt p (eval E e cur tm) = some n := by
  unfold Tm.intAt at h
  split at h
  · rename_i m hm
    simp only [Option.some.injEq] at h; subst h
    unfold intAt
    rw [eval_at E e cur p tm _ hm]
    rfl
  · simp at h

def Tm.pduPresent (t : Tm) : Option Nat := (Tm.intAt [0] t).map Int.toNat
def Tm.pduProc (t : Tm) : Option Int := (Tm.pduPresent t).bind fun p => Tm.intAt [p, 0, 0, 0] t
def Tm.pduMsgIndex (t : Tm) : Option Nat := (Tm.pduPresent t).bind fun p => (Tm.intAt [p, 0, 2, 0] t).map Int.toNat
def Tm.pduIEs (t : Tm) : Option (List Tm) :=
  (Tm.pduPresent t).bind fun p => (Tm.pduMsgIndex t).bind fun m =>
    match Tm.at [p, 0, 2, m, 0, 0, 0] t with
    | some (.slice l) => some l
    | _ => none

theorem pduPresent_eval (tm : Tm) (p : Nat) (h : Tm.pduPresent tm = some p) : pduPresent (eval E e cur tm) = some p := by
  obtain ⟨n, hn, rfl⟩ := Option.map_eq_some_iff.mp h
  simp [pduPresent, intAt_eval E e cur _ _ _ hn]

theorem pduProc_eval (tm : Tm) (c : Int) (h : Tm.pduProc tm = some c) : pduProc (eval E e cur tm) = some c := by
  obtain ⟨p, hp, h⟩ := Option.bind_eq_some_iff.mp h
  simp [pduProc, pduPresent_eval E e cur _ _ hp, intAt_eval E e cur _ _ _ h]

theorem pduMsgIndex_eval (tm : Tm) (m : Nat) (h : Tm.pduMsgIndex tm = some m) : pduMsgIndex (eval E e cur tm) = some m := by
  obtain ⟨p, hp, h⟩ := Option.bind_eq_some_iff.mp h
  obtain ⟨n, hn, rfl⟩ := Option.map_eq_some_iff.mp h
  simp [pduMsgIndex, pduPresent_eval E e cur _ _ hp, intAt_eval E e cur _ _ _ hn]

theorem pduIEs_eval (tm : Tm) (l : List Tm) (h : Tm.pduIEs tm = some l) :
    pduIEs (eval E e cur tm) = some (l.map (eval E e cur)) := by
  obtain ⟨p, hp, h⟩ := Option.bind_eq_some_iff.mp h
  obtain ⟨m, hm, h⟩ := Option.bind_eq_some_iff.mp h
  split at h
  · rename_i l' hl
    cases h
    simp [pduIEs, pduPresent_eval E e cur _ _ hp, pduMsgIndex_eval E e cur _ _ hm, eval_at E e cur _ tm _ hl, eval, evalL_eq]
  · cases h

/-! ### one protocol IE -/

/-- (IE id, criticality) of a skeleton IE, if both are literal -/
def Tm.ieHeader (ie : Tm) : Option (Int × Nat) :=
  match Tm.at [0, 0] ie, Tm.at [1, 0] ie with
  | some (.int id), some (.enum c) => some (id, c)
  | _, _ => none

theorem ieHeader_eval (ie : Tm) (h : Int × Nat) (hh : Tm.ieHeader ie = some h) :
    ieHeader (eval E e cur ie) = some h := by
  unfold Tm.ieHeader at hh
  split at hh
  · rename_i id c h0 h1
    simp only [Option.some.injEq] at hh; subst hh
    unfold ieHeader
    rw [eval_at E e cur _ ie _ h0, eval_at E e cur _ ie _ h1]
    rfl
  · simp at hh

/-- the pointee of the present alternative of a skeleton IE's value -/
def Tm.ieValue (ie : Tm) : Option Tm :=
  match Tm.intAt [2, 0] ie with
  | some k => Tm.at [2, k.toNat, 0] ie
  | none => none

theorem ieValue_eval (ie v : Tm) (h : Tm.ieValue ie = some v) :
    ieValue (eval E e cur ie) = some (eval E e cur v) := by
  unfold Tm.ieValue at h
  cases hk : Tm.intAt [2, 0] ie with
  | none => simp [hk] at h
  | some k =>
    simp only [hk] at h
    unfold ieValue
    rw [intAt_eval E e cur _ _ _ hk]
    exact eval_at E e cur _ ie _ h

/-- a function that follows `f` wherever `f` is defined, mapped over a list on which `mapM f` succeeds -/
theorem map_of_mapM {α β γ : Type} (f : α → Option β) (F : α → γ) (G : β → γ) (H : ∀ a b, f a = some b → F a = G b) :
    ∀ (l : List α) (ys : List β), l.mapM f = some ys → l.map F = ys.map G := by
  intro l
  induction l with
  | nil => intro ys h; simp at h; subst h; rfl
  | cons a rest ih =>
    intro ys h
    rw [List.mapM_cons] at h
    cases ha : f a with
    | none => simp [ha] at h
    | some b =>
      cases hr : rest.mapM f with
      | none => simp [ha, hr] at h
      | some tl =>
        simp [ha, hr] at h
        subst h
        simp [H a b ha, ih tl hr]

/-- all IE headers of a skeleton, `none` unless every header is literal -/
def Tm.headers (t : Tm) : Option (List (Int × Nat)) :=
  (Tm.pduIEs t).bind fun l => l.mapM Tm.ieHeader

/-- **headers lemma**: the (id, criticality) list of the built PDU is the skeleton's -/
theorem headers_eval (tm : Tm) (hs : List (Int × Nat)) (h : Tm.headers tm = some hs) :
    headers (eval E e cur tm) = some (hs.map some) := by
  obtain ⟨l, hl, h⟩ := Option.bind_eq_some_iff.mp h
  simp only [headers, pduIEs_eval E e cur _ _ hl, Option.map_some, List.map_map]
  exact congrArg some (map_of_mapM _ _ _ (fun ie hd => ieHeader_eval E e cur ie hd) l hs h)

/-- the skeleton IEs with a given id (requires literal headers: see `Tm.headers`) -/
def Tm.iesById (t : Tm) (id : Int) : Option (List Tm) :=
  (Tm.pduIEs t).map fun l => l.filter fun ie => hasId id (Tm.ieHeader ie)

theorem filter_byId_eval (id : Int) (l : List Tm) (hs : List (Int × Nat)) (h : l.mapM Tm.ieHeader = some hs) :
    (l.map (eval E e cur)).filter (fun ie => hasId id (ieHeader ie))
      = (l.filter fun ie => hasId id (Tm.ieHeader ie)).map (eval E e cur) := by
  have hpt : ∀ ie ∈ l, ieHeader (eval E e cur ie) = Tm.ieHeader ie := by
    exact List.map_inj_left.mp ((map_of_mapM _ _ some (fun ie hd => ieHeader_eval E e cur ie hd) l hs h).trans
      (map_of_mapM _ Tm.ieHeader some (fun _ _ hb => hb) l hs h).symm)
  rw [List.filter_map]
  congr 1
  exact List.filter_congr fun ie hie => by simp [hpt ie hie]

/-- **IE value lemma**: the values of the IEs with id `id` in the built PDU are the evaluated skeleton values -/
theorem ieValuesById_eval (tm : Tm) (id : Int) (hs : List (Int × Nat)) (hh : Tm.headers tm = some hs)
    (ies : List Tm) (hi : Tm.iesById tm id = some ies) (vs : List Tm) (hv : ies.mapM Tm.ieValue = some vs) :
    ieValuesById (eval E e cur tm) id = some (vs.map fun v => some (eval E e cur v)) := by
  obtain ⟨l, hl, hh⟩ := Option.bind_eq_some_iff.mp hh
  obtain ⟨l', hl', rfl⟩ := Option.map_eq_some_iff.mp hi
  cases hl.symm.trans hl'
  simp only [ieValuesById, pduIEs_eval E e cur _ _ hl, Option.map_some, filter_byId_eval E e cur id l hs hh, List.map_map]
  exact congrArg some (map_of_mapM _ _ _ (fun ie v => ieValue_eval E e cur ie v) _ vs hv)

/-! ### what `build` returns -/

/-- a successful `build` returns the evaluation of the skeleton of one of the template's cases, and every nested
    encoding of that skeleton succeeded -/
theorem build_ok (t : Template) (plmn : Bytes) (args : List Val) (pdu : Val) (h : build E t plmn args = .ok pdu) :
    ∃ c ∈ t.cases, ∃ tm, c.cls = classes E t (effEnv t plmn args) ∧ c.out = .val tm ∧
      encOutcome E (effEnv t plmn args) .nil tm = none ∧ pdu = eval E (effEnv t plmn args) .nil tm := by
  unfold build at h
  simp only at h
  cases hf : t.cases.find? (fun c => c.cls == classes E t (effEnv t plmn args)) with
  | none => simp [hf] at h
  | some c =>
    simp only [hf] at h
    have hmem : c ∈ t.cases := List.mem_of_find?_eq_some hf
    have hcls : c.cls = classes E t (effEnv t plmn args) := by
      have := List.find?_some hf
      simpa using this
    cases hout : c.out with
    | panic => simp [hout] at h
    | exit => simp [hout] at h
    | val tm =>
      simp only [hout] at h
      cases henc : encOutcome E (effEnv t plmn args) .nil tm with
      | some x => simp [henc] at h
      | none =>
        simp only [henc, Except.ok.injEq] at h
        exact ⟨c, hmem, tm, hcls, hout, henc, h.symm⟩


theorem effEnv_arg (t : Template) (plmn : Bytes) (args : List Val) (i : Nat) (a : Val) (ha : args[i]? = some a) :
    (effEnv t plmn args).arg i = a := by
  simp [effEnv, BEnv.arg, ha]

theorem cls_psilist_slice (E : Ext) (xs : List Val) : cls E .psilist (.slice xs) ≠ 0 := by
  cases xs <;> simp [cls]

/-- a builder whose only test is `list != nil` on its PDU session id list argument `i`: the row a successful call selects
    is the one of class `[0]` exactly when the list is nil -/
theorem psilist_row (E : Ext) (t : Template) (i : Nat) (hdims : t.dims = [i]) (hrole : roleAt t i = .psilist)
    (plmn : Bytes) (args : List Val) (pdu : Val) (h : build E t plmn args = .ok pdu) :
    ∃ c ∈ t.cases, ∃ tm, c.out = .val tm ∧ pdu = eval E (effEnv t plmn args) .nil tm ∧
      (∀ xs, args[i]? = some (.slice xs) → (c.cls == [0]) = false) ∧ (args[i]? = some .nil → c.cls = [0]) := by
  obtain ⟨c, hc, tm, hcls, hout, _, hp⟩ := build_ok E t plmn args pdu h
  have hclass : c.cls = [cls E .psilist ((effEnv t plmn args).arg i)] := by
    rw [hcls]; simp [classes, hdims, hrole]
  refine ⟨c, hc, tm, hout, hp, fun xs ha => ?_, fun ha => ?_⟩
  · rw [hclass, effEnv_arg t plmn args i _ ha]
    simpa using cls_psilist_slice E xs
  · rw [hclass, effEnv_arg t plmn args i _ ha]; simp [cls]


/-! ### skeleton-side checks (closed data: evaluated by the kernel in Props/C13.lean) and what they imply -/

/-- the skeletons of a template: one per class of arguments under which the builder returns a PDU -/
def skeletons (t : Template) : List Tm :=
  t.cases.filterMap fun c => match c.out with | .val tm => some tm | _ => none

theorem mem_skeletons (t : Template) (c : Case) (hc : c ∈ t.cases) (tm : Tm) (hout : c.out = .val tm) : tm ∈ skeletons t :=
  List.mem_filterMap.mpr ⟨c, hc, by rw [hout]⟩

theorem build_ok_skeleton (t : Template) (plmn : Bytes) (args : List Val) (pdu : Val) (h : build E t plmn args = .ok pdu) :
    ∃ tm ∈ skeletons t, encOutcome E (effEnv t plmn args) .nil tm = none ∧ pdu = eval E (effEnv t plmn args) .nil tm := by
  obtain ⟨c, hc, tm, _, hout, henc, hp⟩ := build_ok E t plmn args pdu h
  exact ⟨tm, mem_skeletons t c hc tm hout, henc, hp⟩

/-- `pdu` is the evaluation of one of the template's skeletons (what a successful `build` returns, and what the two
    wrappers that modify the built PDU hand to the encoder) -/
def Shaped (t : Template) (plmn : Bytes) (args : List Val) (pdu : Val) : Prop :=
  ∃ tm ∈ skeletons t, pdu = eval E (effEnv t plmn args) .nil tm

theorem build_shaped (t : Template) (plmn : Bytes) (args : List Val) (pdu : Val) (h : build E t plmn args = .ok pdu) :
    Shaped E t plmn args pdu := by
  obtain ⟨tm, htm, _, hp⟩ := build_ok_skeleton E t plmn args pdu h
  exact ⟨tm, htm, hp⟩

/-- a check of every row of the decision table that returns a PDU -/
def _root_.Stgutg.Builders.Template.allVal (t : Template) (p : Case → Tm → Bool) : Bool :=
  t.cases.all fun c => match c.out with | .val tm => p c tm | _ => true

theorem allVal_eq_true (t : Template) (p : Case → Tm → Bool) :
    t.allVal p = true ↔ ∀ c ∈ t.cases, ∀ tm, c.out = .val tm → p c tm = true := by
  simp only [Template.allVal, List.all_eq_true]
  refine forall₂_congr fun c _ => ?_
  cases c.out <;> simp

/-- every template of the builder table together with the two skeletons the wrapper surgery produces -/
def allTable : List Template := table ++ [tGetNGSetupRequest, tGetPathSwitchRequest]

open Spec.Ts38413 in
/-- procedure code and message class of every skeleton are the row of TS 38.413 clause 9.4.3 -/
def classOK (t : Template) : Bool :=
  (skeletons t).all fun tm =>
    decide (Tm.pduPresent tm = some ((msgClass t.message).index + 1)) && decide (Tm.pduProc tm = some (procCode t.message : Int))

open Spec.Ts38413 in
/-- every mandatory IE of the message's table is in every skeleton, with the table's criticality -/
def mandOK (t : Template) : Bool :=
  match mandatory t.message with
  | none => true
  | some ms =>
    (skeletons t).all fun tm =>
      match Tm.headers tm with
      | some hs => ms.all fun m => hs.contains ((m.1 : Int), m.2)
      | none => false


/-! ### carrying an argument -/

/-- the value skeleton of the IE with id `id`, where every header is literal and the IE occurs exactly once -/
def Tm.theIE (tm : Tm) (id : Int) : Option Tm :=
  match Tm.headers tm, Tm.iesById tm id with
  | some _, some [ie] => Tm.ieValue ie
  | _, _ => none

theorem theIE_some (tm : Tm) (id : Int) (v : Tm) (h : Tm.theIE tm id = some v) :
    ∃ hs ie, Tm.headers tm = some hs ∧ Tm.iesById tm id = some [ie] ∧ Tm.ieValue ie = some v := by
  unfold Tm.theIE at h
  split at h
  · rename_i hs ie hh hi; exact ⟨hs, ie, hh, hi, h⟩
  · cases h

/-- then the built PDU has exactly one IE with that id, and its value is the evaluated skeleton value -/
theorem theIE_eval (tm : Tm) (id : Int) (v : Tm) (h : Tm.theIE tm id = some v) :
    ieValuesById (eval E e cur tm) id = some [some (eval E e cur v)] := by
  obtain ⟨hs, ie, hh, hi, hv⟩ := theIE_some tm id v h
  simpa using ieValuesById_eval E e cur tm id hs hh [ie] hi [v] (by simp [hv])

/-- the IE with id `id` occurs exactly once and, at position `path` of its value, the skeleton has the hole `h` -/
def carriesHole (tm : Tm) (id : Int) (path : List Nat) (h : Hole) : Bool :=
  match (Tm.theIE tm id).bind (Tm.at path) with
  | some (.hole h') => h' == h
  | _ => false

/-- **carrier lemma**: then the built PDU has exactly one IE with that id, and at that position of its value stands
    what the hole evaluates to (the argument) -/
theorem carriesHole_sound (tm : Tm) (id : Int) (path : List Nat) (h : Hole) (hc : carriesHole tm id path h = true) :
    ∃ v, ieValuesById (eval E e cur tm) id = some [some v] ∧ Val.at path v = some (evalHole E e cur h) := by
  unfold carriesHole at hc
  split at hc
  · rename_i h' hb
    obtain ⟨v, hv, hat⟩ := Option.bind_eq_some_iff.mp hb
    obtain rfl : h' = h := by simpa using hc
    exact ⟨_, theIE_eval E e cur tm id v hv, by rw [eval_at E e cur path v _ hat]; simp [eval]⟩
  · cases hc

/-- … for a PDU that is the evaluation of one of the template's skeletons, all of which carry the hole -/
theorem Shaped.carries {E : Ext} {t : Template} {plmn : Bytes} {args : List Val} {pdu : Val} (h : Shaped E t plmn args pdu)
    {id : Int} {path : List Nat} {hole : Hole} (hall : ((skeletons t).all fun tm => carriesHole tm id path hole) = true) :
    ∃ v, ieValuesById pdu id = some [some v] ∧ Val.at path v = some (evalHole E (effEnv t plmn args) .nil hole) := by
  obtain ⟨tm, htm, rfl⟩ := h
  exact carriesHole_sound E _ _ tm id path hole (List.all_eq_true.mp hall tm htm)

/-- the IE with id `id` occurs exactly once and its value is the one-component SEQUENCE wrapping the hole `h` -/
def carriesExact (tm : Tm) (id : Int) (h : Hole) : Bool :=
  match Tm.theIE tm id with
  | some (.struct [.hole h']) => h' == h
  | _ => false

theorem carriesExact_sound (tm : Tm) (id : Int) (h : Hole) (hc : carriesExact tm id h = true) :
    ieValuesById (eval E e cur tm) id = some [some (.struct [evalHole E e cur h])] := by
  unfold carriesExact at hc
  split at hc
  · rename_i h' hv
    cases (by simpa using hc : h' = h)
    simpa [eval, evalL] using theIE_eval E e cur tm id _ hv
  · cases hc

theorem Shaped.exact {E : Ext} {t : Template} {plmn : Bytes} {args : List Val} {pdu : Val} (h : Shaped E t plmn args pdu)
    {id : Int} {hole : Hole} (hall : ((skeletons t).all fun tm => carriesExact tm id hole) = true) :
    ieValuesById pdu id = some [some (.struct [evalHole E (effEnv t plmn args) .nil hole])] := by
  obtain ⟨tm, htm, rfl⟩ := h
  exact carriesExact_sound E _ _ tm id hole (List.all_eq_true.mp hall tm htm)

/-- the IE with id `id` occurs exactly once and its value is a list of one item that starts with the PDU session id argument `i`:
    `{List: [ {PDUSessionID{arg i}, …} ]}` -/
def carriesItem (tm : Tm) (id : Int) (i : Nat) : Bool :=
  match Tm.theIE tm id with
  | some (.struct [.slice [.struct (.struct [.hole (.arg j)] :: _)]]) => j == i
  | _ => false

theorem carriesItem_sound (tm : Tm) (id : Int) (i : Nat) (hc : carriesItem tm id i = true) :
    ∃ rest, ieValuesById (eval E e cur tm) id = some [some (.struct [.slice [.struct (.struct [e.arg i] :: rest)]])] := by
  unfold carriesItem at hc
  split at hc
  · rename_i j rest hv
    cases (by simpa using hc : j = i)
    exact ⟨evalL E e cur rest, by simpa [eval, evalL, evalHole] using theIE_eval E e cur tm id _ hv⟩
  · cases hc

/-- no IE with id `id` -/
def lacksIE (tm : Tm) (id : Int) : Bool :=
  match Tm.headers tm, Tm.iesById tm id with
  | some _, some [] => true
  | _, _ => false

theorem lacksIE_sound (tm : Tm) (id : Int) (hc : lacksIE tm id = true) : ieValuesById (eval E e cur tm) id = some [] := by
  unfold lacksIE at hc
  split at hc
  · rename_i hs hh hi
    simpa using ieValuesById_eval E e cur tm id hs hh [] hi [] (by simp)
  · cases hc

/-- the IE with id `id` occurs once and its value is the list built by ranging over argument `i`:
    `{List: [ {PDUSessionID{x}, nil} for x in arg i ]}` -/
def carriesList (tm : Tm) (id : Int) (i : Nat) : Bool :=
  match Tm.theIE tm id with
  | some (.struct [.mapInts j (.struct [.struct [.hole .elem], .nil])]) => j == i
  | _ => false

theorem carriesList_sound (tm : Tm) (id : Int) (i : Nat) (xs : List Val) (hx : e.arg i = .slice xs)
    (hc : carriesList tm id i = true) :
    ieValuesById (eval E e cur tm) id = some [some (.struct [.slice (xs.map fun x => .struct [.struct [x], .nil])])] := by
  unfold carriesList at hc
  split at hc
  · rename_i j hv
    obtain rfl : j = i := by simpa using hc
    rw [theIE_eval E e cur tm id _ hv]
    simp [eval, evalL, evalHole, hx]
  · cases hc

/-! ### nested encodings -/

theorem encOutcomeL_none : ∀ (l : List Tm), encOutcomeL E e cur l = none → ∀ x ∈ l, encOutcome E e cur x = none := by
  intro l
  induction l with
  | nil => intro _ x hx; simp at hx
  | cons t ts ih =>
    intro h x hx
    simp only [encOutcomeL] at h
    cases ht : encOutcome E e cur t with
    | some y => simp [ht] at h
    | none =>
      simp only [ht] at h
      rcases List.mem_cons.mp hx with rfl | hmem
      · exact ht
      · exact ih h x hmem

/-- if no nested encoding of a skeleton fails, none fails in a sub-skeleton -/
theorem encOutcome_at : ∀ (p : List Nat) (tm t' : Tm), encOutcome E e cur tm = none → Tm.at p tm = some t' →
    encOutcome E e cur t' = none := by
  intro p
  induction p with
  | nil => intro tm t' h hat; simp only [Tm.at, Option.some.injEq] at hat; subst hat; exact h
  | cons i p ih =>
    intro tm t' h hat
    obtain ⟨x, hx, ⟨fs, rfl, hfi⟩ | ⟨fs, rfl, hfi⟩ | ⟨rfl, rfl⟩⟩ := at_cons i p tm t' hat
    · exact ih x t' (encOutcomeL_none E e cur fs (by simpa [encOutcome] using h) x (List.mem_of_getElem? hfi)) hx
    · exact ih x t' (encOutcomeL_none E e cur fs (by simpa [encOutcome] using h) x (List.mem_of_getElem? hfi)) hx
    · exact ih x t' (by simpa [encOutcome] using h) hx

/-- a nested encoding that did not fail produced the octets the skeleton evaluates to -/
theorem enc_ok (ty : Nat) (inner : Tm) (h : encOutcome E e cur (.enc ty inner) = none) :
    ∃ b, marshalTransfer ty (eval E e cur inner) = .ok b ∧ eval E e cur (.enc ty inner) = .octs b := by
  rw [encOutcome] at h
  cases hi : encOutcome E e cur inner with
  | some x => rw [hi] at h; cases h
  | none =>
    rw [hi] at h; dsimp only at h
    cases hm : marshalTransfer ty (eval E e cur inner) with
    | ok b => exact ⟨b, rfl, by rw [eval, hm]⟩
    | error x => rw [hm] at h; cases x <;> cases h

theorem mem_of_iesById (tm : Tm) (id : Int) (l ies : List Tm) (hl : Tm.pduIEs tm = some l) (hi : Tm.iesById tm id = some ies) :
    ∀ ie ∈ ies, ie ∈ l := by
  unfold Tm.iesById at hi
  simp only [hl, Option.map_some, Option.some.injEq] at hi
  intro ie hie
  rw [← hi] at hie
  exact (List.mem_filter.mp hie).1

theorem encOutcome_ies (tm : Tm) (l : List Tm) (hl : Tm.pduIEs tm = some l) (h : encOutcome E e cur tm = none) :
    ∀ ie ∈ l, encOutcome E e cur ie = none := by
  obtain ⟨p, _, hl⟩ := Option.bind_eq_some_iff.mp hl
  obtain ⟨m, _, hl⟩ := Option.bind_eq_some_iff.mp hl
  split at hl
  · rename_i l' hat
    cases hl
    have := encOutcome_at E e cur _ tm _ h hat
    simp only [encOutcome] at this
    exact encOutcomeL_none E e cur l this
  · cases hl

/-- no nested encoding fails in the value of the IE a skeleton has once -/
theorem theIE_encOutcome (tm : Tm) (id : Int) (v : Tm) (h : Tm.theIE tm id = some v) (henc : encOutcome E e cur tm = none) :
    encOutcome E e cur v = none := by
  obtain ⟨hs, ie, hh, hi, hv⟩ := theIE_some tm id v h
  obtain ⟨l, hl, _⟩ := Option.bind_eq_some_iff.mp hh
  have hie := encOutcome_ies E e cur tm l hl henc ie (mem_of_iesById tm id l [ie] hl hi ie (by simp))
  unfold Tm.ieValue at hv
  split at hv
  · exact encOutcome_at E e cur _ ie v hie hv
  · cases hv

/-- the IE with id `id` occurs once; at `path` of its value sits the encoding of a value of struct type `ty`, and at
    `innerPath` of that value the skeleton has the hole `h` -/
def carriesEnc (tm : Tm) (id : Int) (path : List Nat) (ty : Nat) (innerPath : List Nat) (h : Hole) : Bool :=
  match (Tm.theIE tm id).bind (Tm.at path) with
  | some (.enc ty' inner) =>
    ty' == ty &&
    (match Tm.at innerPath inner with
     | some (.hole h') => h' == h
     | _ => false)
  | _ => false

/-- **nested carrier lemma**: then the built PDU has exactly one IE with that id; at `path` of its value stand the octets
    `b` that the encoder model produces ("valueExt") for a value `w` of type `ty`, and `w` has the argument at `innerPath` -/
theorem carriesEnc_sound (tm : Tm) (id : Int) (path : List Nat) (ty : Nat) (innerPath : List Nat) (h : Hole)
    (hc : carriesEnc tm id path ty innerPath h = true) (henc : encOutcome E e cur tm = none) :
    ∃ v b w, ieValuesById (eval E e cur tm) id = some [some v] ∧ Val.at path v = some (.octs b) ∧
      marshalTransfer ty w = .ok b ∧ Val.at innerPath w = some (evalHole E e cur h) := by
  unfold carriesEnc at hc
  split at hc
  · rename_i ty' inner hb
    obtain ⟨v, hv, hat⟩ := Option.bind_eq_some_iff.mp hb
    simp only [Bool.and_eq_true, beq_iff_eq] at hc
    obtain ⟨rfl, hc⟩ := hc
    split at hc
    · rename_i h' hin
      obtain rfl : h' = h := by simpa using hc
      obtain ⟨b, hm, hev⟩ := enc_ok E e cur ty' inner
        (encOutcome_at E e cur path v _ (theIE_encOutcome E e cur tm id v hv henc) hat)
      exact ⟨eval E e cur v, b, eval E e cur inner, theIE_eval E e cur tm id v hv, by rw [eval_at E e cur path v _ hat, hev], hm,
        by rw [eval_at E e cur innerPath inner _ hin]; simp [eval]⟩
    · cases hc
  · cases hc

/-- … for the PDU a successful `build` returns, when every skeleton of the template carries the hole so -/
theorem build_carriesEnc {E : Ext} {t : Template} {plmn : Bytes} {args : List Val} {pdu : Val} (h : build E t plmn args = .ok pdu)
    {id : Int} {path : List Nat} {ty : Nat} {innerPath : List Nat} {hole : Hole}
    (hall : ((skeletons t).all fun tm => carriesEnc tm id path ty innerPath hole) = true) :
    ∃ v b w, ieValuesById pdu id = some [some v] ∧ Val.at path v = some (.octs b) ∧
      marshalTransfer ty w = .ok b ∧ Val.at innerPath w = some (evalHole E (effEnv t plmn args) .nil hole) := by
  obtain ⟨tm, htm, henc, rfl⟩ := build_ok_skeleton E t plmn args pdu h
  exact carriesEnc_sound E _ _ tm id path ty innerPath hole (List.all_eq_true.mp hall tm htm) henc


/-! ### role-driven table checks -/

/-- position of the (first) parameter with role `r` -/
def roleIdx (t : Template) (r : Role) : Option Nat := t.roles.findIdx? (fun x => x == r)

open Spec.Ts38413 in
def amfOK (t : Template) : Bool :=
  match roleIdx t .amf with
  | some i => (skeletons t).all fun tm => carriesExact tm (amfIe t.message) (.arg i)
  | none => true

open Spec.Ts38413 in
def ranOK (t : Template) : Bool :=
  match roleIdx t .ran with
  | some i => (skeletons t).all fun tm => carriesExact tm ieRANUENGAPID (.arg i)
  | none => true

open Spec.Ts38413 in
/-- NAS-PDU: carried; where the builder tests the argument (`i ∈ dims`) the IE may instead be absent -/
def nasOK (t : Template) : Bool :=
  match roleIdx t .nas with
  | some i => (skeletons t).all fun tm =>
      carriesExact tm ieNASPDU (.argOcts i) || (t.dims.contains i && lacksIE tm ieNASPDU)
  | none => true

open Spec.Ts38413 in
def psiOK (t : Template) : Bool :=
  match roleIdx t .psi, psiItemIe t.message with
  | some i, some id => (skeletons t).all fun tm => carriesItem tm id i
  | some _, none => false
  | none, _ => true

open Spec.Ts38413 in
/-- PDU session id list: the builder tests `list != nil` (the only dimension): absent for nil, carried otherwise -/
def psiListOK (t : Template) : Bool :=
  match roleIdx t .psilist, psiListIe t.message with
  | some i, some id =>
    t.dims == [i] && roleAt t i == .psilist && t.cases.all fun c =>
      match c.out with
      | .val tm => if c.cls == [0] then lacksIE tm id else carriesList tm id i
      | _ => false
  | some _, none => false
  | none, _ => true

open Spec.Ts38413 in
def nameOK (t : Template) : Bool :=
  match roleIdx t .name with
  | some i => (skeletons t).all fun tm => carriesHole tm ieRANNodeName [0] (.argStr i)
  | none => true

open Spec.Ts38413 in
/-- gNB id: with its bit length in the Global RAN Node ID of NG SETUP REQUEST, beside `TestPlmn`; as whole octets in the Target ID of
    HANDOVER REQUIRED, and together with the cell id in the NR CGI of the source-to-target container (struct 1413) -/
def gnbOK (t : Template) : Bool :=
  match roleIdx t .gnbid, roleIdx t .bitlen, roleIdx t .cellid with
  | some i, some j, none => (skeletons t).all fun tm =>
      carriesHole tm ieGlobalRANNodeID [1, 0, 1, 1, 0] (.bitsLen i j) && carriesHole tm ieGlobalRANNodeID [1, 0, 0, 0] .plmn
  | some i, none, some j =>
    ((skeletons t).all fun tm => carriesHole tm ieTargetID [1, 0, 0, 1, 0, 1, 1, 0] (.bits8 i)) &&
    (skeletons t).all fun tm => carriesEnc tm ieSourceToTargetTransparentContainer [0] 1413 [3, 1, 0, 1, 0] (.cell36 i j)
  | none, none, none => true
  | _, _, _ => false

open Spec.Ts38413 in
/-- GTP transport address: in the PDUSessionResourceSetupResponseTransfer (struct 1360) of the first item of the setup list -/
def ipOK (t : Template) : Bool :=
  match roleIdx t .ip, psiItemIe t.message with
  | some i, some id => (skeletons t).all fun tm => carriesEnc tm id [0, 0, 1] 1360 [0, 0, 1, 0, 0, 0] (.ip4 i)
  | some _, none => false
  | none, _ => true


/-! ### PLMN positions: a traversal of the skeleton directed by the schema types -/

/-- index of `PLMNIdentity` in the schema (re-checked by name in Props/C13.lean) -/
def plmnTy : Nat := 3

/-- a site that can never pass the check (type mismatch between skeleton and schema, fuel exhausted) -/
def badSite : List Nat × Bool × Tm := ([], false, .nil)

/-- every position of the skeleton whose schema type is `PLMNIdentity`, as (position, nested?, sub-skeleton).
    Caller-supplied values (holes at struct / pointer / list level) are not entered. `nested` = the position lies inside a
    nested encoding or a per-item template, where positions of the outer value do not reach. -/
def plmnSites (env : List StructDef) : Nat → Ty → Tm → List Nat → Bool → List (List Nat × Bool × Tm)
  | 0, _, _, _, _ => [badSite]
  | f + 1, ty, tm, p, n =>
    match ty, tm with
    | .ptr t, .ptr x => plmnSites env f t x (p ++ [0]) n
    | .ptr _, .nil => []
    | .ptr _, .hole _ => []
    | .ptr _, _ => [badSite]
    | .slice t, .slice xs => (xs.zipIdx).flatMap fun xk => plmnSites env f t xk.1 (p ++ [xk.2]) n
    | .slice t, .mapInts _ item => plmnSites env f t item p true
    | .slice _, .hole _ => []
    | .slice _, _ => [badSite]
    | .struct id, x =>
      if id = plmnTy then [(p, n, x)]
      else
        match x with
        | .struct fs =>
          match env[id]? with
          | some sd =>
            if sd.fields.length = fs.length then
              ((sd.fields.zip fs).zipIdx).flatMap fun fk => plmnSites env f fk.1.1.ty fk.1.2 (p ++ [fk.2]) n
            else [badSite]
          | none => [badSite]
        | .hole _ => []
        | _ => [badSite]
    | .octs, .enc ty t => plmnSites env f (.struct ty) t p true
    | _, _ => []

def isPlmnT : Tm → Bool
  | .struct [.hole .plmn] => true
  | _ => false

theorem isPlmnT_eval (s : Tm) (h : isPlmnT s = true) : eval E e cur s = .struct [.octs e.plmn] := by
  unfold isPlmnT at h
  split at h
  · simp [eval, evalL, evalHole]
  · simp at h

/-- the fuel of the traversal (skeletons are far shallower) -/
def siteFuel : Nat := 64

def sitesOf (tm : Tm) : List (List Nat × Bool × Tm) :=
  plmnSites Gen.Ngap.schema siteFuel (.struct Gen.Ngap.pduId) tm [] false

/-- every PLMNIdentity-typed position of every skeleton holds `TestPlmn`; positions outside nested encodings are also
    positions of `Tm.at` -/
def plmnOK (t : Template) : Bool :=
  (skeletons t).all fun tm =>
    (sitesOf tm).all fun site =>
      isPlmnT site.2.2 && (site.2.1 || (match Tm.at site.1 tm with | some s' => isPlmnT s' | none => false))

end Stgutg.Proofs.Builders
