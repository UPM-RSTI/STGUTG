/-
  `xorBytes` (Base/Hex) on octet strings of any two lengths: the length of the result, and that xoring the same string
  in twice gives the first one back; a 16-element list as its sixteen elements. Core Lean only; used by the keystream
  ciphers (Props/C07), by Milenage and by the translation ties.
-/
import Stgutg.Base.Hex
namespace Stgutg.Proofs.Hex
open Stgutg

theorem xorBytes_length (a b : Bytes) : (xorBytes a b).length = min a.length b.length := by
  simp [xorBytes]

theorem xorBytes_cancel {a b : Bytes} (h : a.length ≤ b.length) : xorBytes (xorBytes a b) b = a := by
  induction a generalizing b with
  | nil => simp [xorBytes]
  | cons x a ih =>
    cases b with
    | nil => simp at h
    | cons y b =>
      have := ih (b := b) (by simpa using h)
      simp only [xorBytes] at this ⊢
      rw [List.zipWith_cons_cons, List.zipWith_cons_cons, this, UInt8.xor_assoc, UInt8.xor_self, UInt8.xor_zero]

/-- a Go array `[16]T`, or a 16-octet block, carried as a list -/
theorem len16 {α : Type} {l : List α} (h : l.length = 16) :
    ∃ a0 a1 a2 a3 a4 a5 a6 a7 a8 a9 a10 a11 a12 a13 a14 a15,
      l = [a0, a1, a2, a3, a4, a5, a6, a7, a8, a9, a10, a11, a12, a13, a14, a15] := by
  match l, h with
  | [a0, a1, a2, a3, a4, a5, a6, a7, a8, a9, a10, a11, a12, a13, a14, a15], _ =>
    exact ⟨a0, a1, a2, a3, a4, a5, a6, a7, a8, a9, a10, a11, a12, a13, a14, a15, rfl⟩

end Stgutg.Proofs.Hex
