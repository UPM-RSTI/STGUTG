/-
  C14 (cost): SEQUENCE OF — the count the decoder accepts is bounded by a schema constant (`sliceMax`), the elements
  of a list that completes are at most as many as the bits they consumed.
-/
import Stgutg.Proofs.AperCostBound
import Stgutg.Proofs.Bits

namespace Stgutg.Proofs.AperCost
open Stgutg Stgutg.Aper

theorem getBitsValue_lt (n : Nat) (r : Rd) (v : Nat) (r' : Rd) (h : getBitsValue n r = .ok (v, r')) : v < 2 ^ n := by
  unfold getBitsValue at h
  obtain ⟨b, r1, hg, hp⟩ := AperTotal.D_bind_ok h
  cases hp
  have hlen : b.length ≤ n := by rw [(AperTotal.getBits_ok hg).2.1, List.length_take]; omega
  have h1 := Bits.bitsToNat_lt b
  have h2 : 2 ^ b.length ≤ 2 ^ n := Nat.pow_le_pow_right (by decide) hlen
  have h3 : bitsToNat b % 2 ^ 64 ≤ bitsToNat b := Nat.mod_le _ _
  omega

theorem parseConstraintValue_le (range : Int) (r : Rd) (v : Nat) (r' : Rd)
    (h : parseConstraintValue range r = .ok (v, r')) : v ≤ cvMax range := by
  have aligned : ∀ n, (parseAlignBits >>= fun _ => getBitsValue n) r = .ok (v, r') → v < 2 ^ n := fun n h =>
    let ⟨_, r1, _, h1⟩ := AperTotal.D_bind_ok h
    getBitsValue_lt n r1 v r' h1
  unfold parseConstraintValue at h
  unfold cvMax
  split at h
  · rename_i h255
    simp only [h255, if_true]
    split at h
    · cases h
    · have := getBitsValue_lt _ r v r' h; omega
  · rename_i h255
    simp only [h255, if_false]
    split at h
    · rename_i h256
      simp only [h256, if_true]
      have := aligned 8 h
      omega
    · rename_i h256
      simp only [h256, if_false]
      split at h
      · have := aligned 16 h
        omega
      · cases h

/-- a general length determinant that is not a fragment header is below 16384 -/
theorem parseLength_general_lt (r : Rd) (n : Nat) (r' : Rd) (h : parseLength (-1) r = .ok ((n, false), r')) :
    n ≤ 16383 := by
  unfold parseLength at h
  simp only [show ¬ ((-1 : Int) ≤ 65536 ∧ (-1 : Int) > 0) by decide, if_false] at h
  obtain ⟨_, r1, _, h1⟩ := AperTotal.D_bind_ok h
  obtain ⟨first, r2, _, h2⟩ := AperTotal.D_bind_ok h1
  split at h2
  · cases h2
    have : first &&& 127 ≤ 127 := Nat.and_le_right
    omega
  · split at h2
    · obtain ⟨second, r3, hs, h3⟩ := AperTotal.D_bind_ok h2
      have hsec := getBitsValue_lt 8 r2 second r3 hs
      cases h3
      have h63 : first &&& 63 ≤ 63 := Nat.and_le_right
      have hx : (first &&& 63) <<< 8 < 2 ^ 14 := by rw [Nat.shiftLeft_eq]; omega
      have := Nat.or_lt_two_pow hx (Nat.lt_trans hsec (by decide : 2 ^ 8 < 2 ^ 14))
      omega
    · split at h2 <;> cases h2

theorem sliceCountWith_le (lb sr : Int) (r : Rd) (n : Nat) (r' : Rd) (h : sliceCountWith lb sr r = .ok (n, r')) :
    n ≤ (if sr > 1 then cvMax sr + lb.toNat else if sr = 1 then lb.toNat else 16383) := by
  unfold sliceCountWith at h
  split at h
  · rename_i h1
    simp only [h1, if_true]
    unfold D.catchErr at h
    split at h
    · rename_i x hx
      cases h
      obtain ⟨v, r1, hp, hq⟩ := AperTotal.D_bind_ok hx
      have := parseConstraintValue_le sr r v r1 hp
      cases hq
      omega
    · cases h; omega
    · cases h
  · rename_i h1
    simp only [h1, if_false]
    split at h
    · rename_i h2
      simp only [h2, if_true]
      cases h; omega
    · rename_i h2
      simp only [h2, if_false]
      obtain ⟨⟨k, rep⟩, r1, hp, hq⟩ := AperTotal.D_bind_ok h
      cases rep with
      | true => cases hq
      | false =>
        cases hq
        exact parseLength_general_lt r _ _ hp

theorem sliceCount_eq' (p : Params) (se : Bool) :
    sliceCount p se = sliceCountWith (sliceLBc p) (if se then -1 else sliceSR p) := by
  unfold sliceCount sliceLBc sliceSR sliceLBc
  cases se <;> cases p.sizeLB <;> cases p.sizeUB <;> simp

/-- **every `MakeSlice` count is bounded by a constant of the schema** -/
theorem sliceCount_le (p : Params) (se : Bool) (r : Rd) (n : Nat) (r' : Rd) (h : sliceCount p se r = .ok (n, r')) :
    n ≤ sliceMax p := by
  rw [sliceCount_eq'] at h
  have := sliceCountWith_le _ _ r n r' h
  unfold sliceMax
  cases se with
  | true =>
    simp only [if_true] at this
    have h1 : ¬ ((-1 : Int) > 1) := by decide
    have h2 : ¬ ((-1 : Int) = 1) := by decide
    simp only [h1, h2, if_false] at this
    dsimp only
    omega
  | false =>
    simp only [Bool.false_eq_true, if_false] at this
    dsimp only
    omega

/-! ### the elements

  An element that consumes a bit can pay its additive cost `q` out of the slope; then `n` elements cost no more than
  one. The `MakeSlice(n)` charge is paid the same way when all `n` elements are read, and out of the over-claim budget
  when they are not. -/

section
variable {α : Type} {ws wa q p s : Nat}

theorem Bnd_strict_slope {m : DC α} (hm : Bnd ws wa q p s m) (hs : Strict m) : Bnd ws wa 0 (q + p) (q + s) m := by
  intro r
  obtain ⟨h1, h2⟩ := hm r
  refine ⟨fun a r' hr => ?_, ?_⟩
  · obtain ⟨c, hc, hb⟩ := h1 a r' hr
    have := hs r a r' hr
    have : q ≤ q * c := Nat.le_mul_of_pos_right q (by omega)
    exact ⟨c, hc, by rw [Nat.add_mul]; omega⟩
  · have : p * r.len ≤ (q + p) * r.len := Nat.mul_le_mul_right _ (by omega)
    omega

/-- an additive part can be carried as over-claim budget -/
theorem Bnd_shift {m : DC α} (h : Bnd ws wa 0 p (q + s) m) : Bnd ws wa q p s m := by
  intro r
  obtain ⟨h1, h2⟩ := h r
  exact ⟨fun a r' hr => let ⟨c, hc, hb⟩ := h1 a r' hr; ⟨c, hc, by omega⟩, by omega⟩

theorem Bnd_chargeAlloc (n : Nat) : Bnd ws wa (wa * n) p s (DC.chargeAlloc n) := by
  intro r
  have hc : cst ws wa (DC.chargeAlloc n r).2 = wa * n := by simp [cst, DC.chargeAlloc]
  rw [hc]
  exact ⟨fun a r' h => ⟨0, by cases h; rfl, by omega⟩, by omega⟩

/-- a charge of `n` announced up front is covered by the slope when every success consumes `n` bits -/
theorem Bnd_absorb {n : Nat} {m : DC α} (h : Bnd ws wa (wa * n) p s m)
    (hn : ∀ r a r', (m r).1 = .ok (a, r') → r'.len + n ≤ r.len) : Bnd ws wa 0 (p + wa) (s + wa * n) m := by
  intro r
  obtain ⟨h1, h2⟩ := h r
  refine ⟨fun a r' hr => ?_, ?_⟩
  · obtain ⟨c, hc, hb⟩ := h1 a r' hr
    have := hn r a r' hr
    have : wa * n ≤ wa * c := Nat.mul_le_mul_left wa (by omega)
    exact ⟨c, hc, by rw [Nat.add_mul]; omega⟩
  · have : p * r.len ≤ (p + wa) * r.len := Nat.mul_le_mul_right _ (by omega)
    omega

end

theorem Bnd_decElemsC {ws wa p s : Nat} {f : DC Val} (h : Bnd ws wa 0 p s f) : ∀ n, Bnd ws wa 0 p s (decElemsC f n)
  | 0 => Bnd_pure _
  | n + 1 => Bnd_bind0 h fun _ => Bnd_bind0 (Bnd_decElemsC h n) fun _ => Bnd_pure _

theorem decElemsC_consumes {f : DC Val} (hs : Strict f) : ∀ n r vs r',
    (decElemsC f n r).1 = .ok (vs, r') → r'.len + n ≤ r.len
  | 0, r, vs, r', h => by
    have h : (Except.ok ([], r) : Res (List Val × Rd)) = .ok (vs, r') := h
    cases h; exact Nat.le_refl _
  | n + 1, r, vs, r', h => by
    obtain ⟨v, r1, h1, h2⟩ := DC_bind_ok h
    obtain ⟨vs', r2, h3, h4⟩ := DC_bind_ok h2
    have := hs r v r1 h1
    have := decElemsC_consumes hs n r1 vs' r2 h3
    have := MonoC_pure (v :: vs') r2 vs r' h4
    omega

/-- `MakeSlice(n)` then the elements -/
theorem Bnd_sliceElems (ws wa q p s M : Nat) (f : DC Val) (hf : Bnd ws wa q p s f) (hs : Strict f) (n : Nat)
    (hn : n ≤ M) :
    Bnd ws wa q (q + p + wa) (s + wa * M)
      (DC.chargeAlloc n >>= fun _ => decElemsC f n >>= fun vs => (pure (.slice vs) : DC Val)) := by
  have h := Bnd_absorb
    (Bnd_bind_l (Bnd_chargeAlloc n) fun _ => Bnd_map Val.slice (Bnd_decElemsC (Bnd_strict_slope hf hs) n))
    fun r a r' hr => by
      obtain ⟨_, r1, h1, h2⟩ := DC_bind_ok hr
      obtain ⟨vs, r2, h3, h4⟩ := DC_bind_ok h2
      have h1 : (Except.ok ((), r) : Res (Unit × Rd)) = .ok ((), r1) := h1
      cases h1
      have := decElemsC_consumes hs n r vs r2 h3
      have := MonoC_pure (Val.slice vs) r2 a r' h4
      omega
  have hM : wa * n ≤ wa * M := Nat.mul_le_mul_left wa hn
  exact Bnd_shift (Bnd_mono (Nat.le_refl _) (Nat.le_refl _) (by omega) h)

theorem Bnd_sliceBody (ws wa q p s : Nat) (f : DC Val) (params : Params) (hf : Bnd ws wa q p s f) (hs : Strict f) :
    Bnd ws wa q (q + p + wa) (s + wa * sliceMax params) (sliceBodyC f params) := by
  unfold sliceBodyC
  refine Bnd_lift_bind _ (MonoD_extBits _ _) _ (fun r x r1 _ => ?_)
  refine Bnd_lift_bind _ (MonoD_of_eats (AperTotal.eats_sliceCount params x.1)) _ (fun r' n r2 hn => ?_) r1
  exact Bnd_sliceElems ws wa q p s _ f hf hs n (sliceCount_le params x.1 r' n r2 hn) r2

theorem MonoC_decElemsC (f : DC Val) (hf : MonoC f) : ∀ n, MonoC (decElemsC f n)
  | 0 => MonoC_pure _
  | n + 1 => MonoC_bind hf fun _ => MonoC_bind (MonoC_decElemsC f hf n) fun _ => MonoC_pure _

theorem Strict_sliceBody (f : DC Val) (params : Params) (hf : MonoC f) (hse : params.sizeExt = true) :
    Strict (sliceBodyC f params) :=
  Strict_bind_l (Strict_lift (StrictD_extBits params true (Or.inl hse))) fun x =>
    MonoC_bind (MonoC_lift (MonoD_of_eats (AperTotal.eats_sliceCount params x.1))) fun n =>
      MonoC_bind (m := DC.chargeAlloc n) (fun _ _ _ h => by cases h; exact Nat.le_refl _) fun _ =>
        MonoC_bind (MonoC_decElemsC f hf n) fun _ => MonoC_pure _

end Stgutg.Proofs.AperCost
