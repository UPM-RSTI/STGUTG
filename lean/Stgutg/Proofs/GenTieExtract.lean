import Stgutg.Proofs.GenTieExtractBase
/-!
  Tie by translation of the hand-written extractors of src/stgutg/pdu.go (C12, C02): `Gen/PureExtract.lean` is regenerated
  from the source text of `DecodePDUSessionResourceSetupRequestTransfer` and `DecodePDUSessionNASPDU` (and of the two
  package-level tables the latter reads) on every run by `gen pure-extract` (harness/cmd/gen/pure_extract.go, the
  slice-walker grammar: byte slices WITH their hidden capacity, loops on fuel). The theorems below prove the translated
  functions equal to the hand model `Model/Extract.lean` the C12 theorems are about — for every fuel and every slice
  (octets, length, capacity, octets behind the length; for the transfer walk a length below 2^62). The generated functions return slices (`Go.Sl`); the model
  returns their visible octets: `projXfer` / `projNas` are that projection. A semantic edit of either function (or of a
  table) changes the generated definition and these proofs stop checking, whatever input would show the difference;
  renaming locals, `x++` for `x += 1`, parentheses, an explicit `x = x + k` keep them.
-/
namespace Stgutg.Proofs.GenTie.Extract
open Stgutg Stgutg.Gen
open Stgutg.Model.Extract

/-- the branch of the transfer walk that has found the tunnel IE (id 139) -/
theorem xfer_found (s : Sl) (hs : s.len < 2 ^ 62) (off : Nat) (h : off < s.len) :
    Except.map projXfer
      (s.idx (off + 3) >>= fun t4 =>
        (toGo s).slice (Go.iadd (Go.iadd (off : Int) 3) 1) (Go.iadd (Go.iadd (Go.iadd (off : Int) 3) 1) (t4.toNat : Int)) >>= fun t5 =>
        t5.sliceFrom (Go.isub (t4.toNat : Int) 4) >>= fun t6 =>
        t6.be32 >>= fun t7 =>
        t5.slice (Go.isub (t4.toNat : Int) 8) (Go.isub (t4.toNat : Int) 4) >>= fun t8 =>
        (Except.ok (t7, t8) : Res (UInt32 × Go.Sl)))
    = (s.idx (off + 3) >>= fun n =>
        s.slice (off + 3 + 1) (off + 3 + 1 + n.toNat) >>= fun info =>
        if n.toNat < 4 then Except.error Err.panic else
        info.sliceFrom (n.toNat - 4) >>= fun y =>
        be32 y >>= fun teid =>
        if n.toNat < 8 then Except.error Err.panic else
        info.slice (n.toNat - 8) (n.toNat - 4) >>= fun ip =>
        (pure (teid, ip.toBytes) : Res (Nat × Bytes))) := by
  have e3 : Go.iadd (off : Int) 3 = ((off + 3 : Nat) : Int) := iadd_nat off 3 _ _ rfl rfl (by omega)
  apply bind_congr_map
  intro n _
  have hn := n.toNat_lt
  have e4 : Go.iadd (Go.iadd (off : Int) 3) 1 = ((off + 3 + 1 : Nat) : Int) := iadd_nat (off + 3) 1 _ _ e3 rfl (by omega)
  have e5 : Go.iadd (Go.iadd (Go.iadd (off : Int) 3) 1) (n.toNat : Int) = ((off + 3 + 1 + n.toNat : Nat) : Int) :=
    iadd_nat (off + 3 + 1) n.toNat _ _ e4 rfl (by omega)
  rw [slice_eq s _ _ (off + 3 + 1) (off + 3 + 1 + n.toNat) e4 e5]
  apply bind_congr_map'
  intro info _
  by_cases h6 : n.toNat < 4
  · rw [sliceFrom_neg (toGo info) _ (isub_neg n.toNat 4 (n.toNat : Int) 4 rfl rfl h6 (by omega)), if_pos h6]
    rfl
  · have e6 : Go.isub (n.toNat : Int) 4 = ((n.toNat - 4 : Nat) : Int) := isub_nat n.toNat 4 _ _ rfl rfl (by omega) (by omega)
    rw [sliceFrom_eq info _ (n.toNat - 4) e6, if_neg h6]
    apply bind_congr_map'
    intro y _
    rw [be32_eq]
    apply bind_congr_map'
    intro teid h8
    have ht := be32_lt y teid h8
    by_cases h9 : n.toNat < 8
    · rw [slice_neg (toGo info) _ _ (isub_neg n.toNat 8 (n.toNat : Int) 8 rfl rfl h9 (by omega)), if_pos h9]
      rfl
    · have e8 : Go.isub (n.toNat : Int) 8 = ((n.toNat - 8 : Nat) : Int) := isub_nat n.toNat 8 _ _ rfl rfl (by omega) (by omega)
      rw [slice_eq info _ _ (n.toNat - 8) (n.toNat - 4) e8 e6, if_neg h9]
      apply bind_congr_map'
      intro ip _
      show Except.ok ((UInt32.ofNat teid).toNat, (ofGo (toGo ip)).toBytes) = Except.ok (teid, ip.toBytes)
      rw [UInt32.toNat_ofNat', Nat.mod_eq_of_lt ht]
      rfl

theorem xfer_loop (s : Sl) (hs : s.len < 2 ^ 62) (fuel : Nat) : ∀ off : Nat,
    (Gen.Pure.Extract.DecodePDUSessionResourceSetupRequestTransfer.loop1 (toGo s) fuel 0 Go.Sl.nil (off : Int)).map projXfer
      = xferLoop s fuel off := by
  induction fuel with
  | zero => intro off; rfl
  | succ fuel ih =>
    intro off
    rw [Gen.Pure.Extract.DecodePDUSessionResourceSetupRequestTransfer.loop1, xferLoop]
    by_cases h : off < s.len
    case neg =>
      have hc : ¬ ((off : Int) < Go.Sl.length (toGo s)) := by simp [Go.Sl.length]; omega
      simp only [hc, h, decide_false, Bool.false_eq_true, if_false]
      rfl
    have hc : ((off : Int) < Go.Sl.length (toGo s)) := by simp [Go.Sl.length]; omega
    simp only [hc, h, decide_true, if_true]
    have e2 : Go.iadd (off : Int) 2 = ((off + 2 : Nat) : Int) := iadd_nat off 2 _ _ rfl rfl (by omega)
    have e3 : Go.iadd (off : Int) 3 = ((off + 3 : Nat) : Int) := iadd_nat off 3 _ _ rfl rfl (by omega)
    rw [slice_eq s _ _ off (off + 2) rfl e2, idx_eq s _ (off + 3) e3]
    refine bind_congr_map' _ _ _ _ _ fun x _ => ?_
    rw [be16_eq]
    refine bind_congr_map' _ _ _ _ _ fun id h2 => ?_
    have hid := be16_lt x id h2
    have hn : (UInt16.ofNat id).toNat = id := by
      rw [UInt16.toNat_ofNat']; omega
    simp only [hn]
    by_cases h3 : id = 139
    · have hd : decide ((id : Int) ≠ 139) = false := by simp; omega
      have h3' : ¬ id ≠ 139 := by omega
      simp only [hd, Bool.false_eq_true, if_false, if_neg h3']
      exact xfer_found s hs off h
    · have hd : decide ((id : Int) ≠ 139) = true := by simp; omega
      have h3' : id ≠ 139 := h3
      simp only [hd, if_true, if_pos h3']
      refine bind_congr_map _ _ _ _ fun l _ => ?_
      have := l.toNat_lt
      have e4 : Go.iadd 3 (l.toNat : Int) = ((3 + l.toNat : Nat) : Int) := iadd_nat 3 l.toNat _ _ rfl rfl (by omega)
      have e5 : Go.iadd (Go.iadd 3 (l.toNat : Int)) 1 = ((3 + l.toNat + 1 : Nat) : Int) := iadd_nat (3 + l.toNat) 1 _ _ e4 rfl (by omega)
      have e6 := iadd_nat off (3 + l.toNat + 1) _ _ rfl e5 (by omega)
      rw [e6, show off + (3 + l.toNat + 1) = off + 3 + l.toNat + 1 by omega, ih]

/-- **Tie** (C12, C02). For every fuel and every slice (octets, length, capacity and the octets behind the length) of fewer
    than 2^62 octets — the hand model counts in unbounded naturals where the code counts in 64-bit ints — the function
    translated from the text of `DecodePDUSessionResourceSetupRequestTransfer` IS the hand model `decodeTransfer`:
    same traps, same exhaustion of the fuel, same TEID, same address octets. -/
theorem DecodePDUSessionResourceSetupRequestTransfer_eq (fuel : Nat) (s : Sl) (hs : s.len < 2 ^ 62) :
    (Gen.Pure.Extract.DecodePDUSessionResourceSetupRequestTransfer fuel (toGo s)).map projXfer = decodeTransfer fuel s := by
  unfold Gen.Pure.Extract.DecodePDUSessionResourceSetupRequestTransfer decodeTransfer
  have h := xfer_loop s hs fuel 3
  change Except.map projXfer (Gen.Pure.Extract.DecodePDUSessionResourceSetupRequestTransfer.loop1 (toGo s) fuel 0 Go.Sl.nil 3) = _ at h
  rw [← h]
  show Except.map projXfer (Gen.Pure.Extract.DecodePDUSessionResourceSetupRequestTransfer.loop1 (toGo s) fuel 0 Go.Sl.nil 3 >>= fun t9 => Except.ok (t9.1, t9.2)) = _
  cases Gen.Pure.Extract.DecodePDUSessionResourceSetupRequestTransfer.loop1 (toGo s) fuel 0 Go.Sl.nil 3 <;> rfl

/-! ### DecodePDUSessionNASPDU -/

theorem u8_toNat_beq (a b : UInt8) : (a.toNat == b.toNat) = (a == b) := by
  by_cases h : a = b
  · subst h; simp
  · have h1 : (a == b) = false := beq_false_of_ne h
    have h2 : (a.toNat == b.toNat) = false := beq_false_of_ne (fun e => h (UInt8.toNat_inj.mp e))
    rw [h1, h2]

/-- a table keyed by octets, read through the numbers of the keys -/
theorem lookup_toNat (t : List (UInt8 × Int)) (k : UInt8) :
    (t.map (fun p => (p.1.toNat, p.2))).lookup k.toNat = t.lookup k := by
  induction t with
  | nil => rfl
  | cons p t ih =>
    obtain ⟨pk, pv⟩ := p
    simp only [List.map_cons, List.lookup_cons, u8_toNat_beq, ih]

/-- the map as `gen pure-extract` reads it is the map as `gen extract` reads it -/
theorem optLen_same :
    Gen.Extract.optLen = Gen.Pure.Extract.PDUSessionEstablishmentAcceptOptionalElementsLength.map (fun p => (p.1.toNat, p.2)) := by
  decide +kernel

theorem mapGet_eq (id : UInt8) :
    Go.mapGetU8 Gen.Pure.Extract.PDUSessionEstablishmentAcceptOptionalElementsLength id = lookupLen id := by
  unfold Go.mapGetU8 lookupLen
  rw [optLen_same, lookup_toNat]
  cases List.lookup id Gen.Pure.Extract.PDUSessionEstablishmentAcceptOptionalElementsLength <;> rfl

theorem lookup_bound (t : List (UInt8 × Int)) (B : Int) (h : t.all (fun p => decide (p.2 < B)) = true) (k : UInt8) (v : Int)
    (hv : t.lookup k = some v) : v < B := by
  induction t with
  | nil => simp [List.lookup] at hv
  | cons p t ih =>
    simp only [List.all_cons, Bool.and_eq_true, decide_eq_true_eq] at h
    simp only [List.lookup] at hv
    cases hk : k == p.1 <;> simp only [hk] at hv
    · exact ih h.2 hv
    · cases hv; exact h.1

/-- every length in the table is far from the end of the int range -/
theorem lookupLen_lt (id : UInt8) : lookupLen id < 2 ^ 32 := by
  rw [← mapGet_eq]
  unfold Go.mapGetU8
  cases h : Gen.Pure.Extract.PDUSessionEstablishmentAcceptOptionalElementsLength.lookup id with
  | none => decide
  | some v => exact lookup_bound _ (2 ^ 32) (by decide +kernel) id v h

/-- the two tests of the unrolled `range …HalfByte` loop are the model's `isHalfByte` -/
theorem halfByte_eq (id : UInt8) :
    isHalfByte id = (decide ((id &&& 240) = 128) || decide ((id &&& 240) = 192)) := by
  have h : Gen.Extract.halfByte = Gen.Pure.Extract.PDUSessionEstablishmentAcceptOptionalElementsHalfByte.map UInt8.toNat := by
    decide +kernel
  unfold isHalfByte
  rw [h]
  simp only [Gen.Pure.Extract.PDUSessionEstablishmentAcceptOptionalElementsHalfByte, List.map, List.any, Bool.or_false]
  rw [u8_toNat_beq, u8_toNat_beq]
  rfl

/-- what the model returns of the generated function's result: the visible octets of the address -/
def projNas (r : Go.Sl) : Bytes := (ofGo r).toBytes

theorem nas_loop (op : Sl) (hop : op.len < 2 ^ 62) (fuel : Nat) : ∀ (index : Nat) (id0 : UInt8) (l0 : Int),
    (Gen.Pure.Extract.DecodePDUSessionNASPDU.loop1 (toGo op) (op.len : Int) fuel Go.Sl.nil (index : Int) id0 l0).map projNas
      = nasLoop true op fuel index := by
  induction fuel with
  | zero => intro index id0 l0; rfl
  | succ fuel ih =>
    intro index id0 l0
    rw [Gen.Pure.Extract.DecodePDUSessionNASPDU.loop1, nasLoop]
    by_cases h : index < op.len
    case neg =>
      have hc : ¬ ((index : Int) < (op.len : Int)) := by omega
      simp only [hc, h, decide_false, Bool.false_eq_true, if_false, pure_eq, map_ok, projNas]
      rfl
    have hc : ((index : Int) < (op.len : Int)) := by omega
    simp only [hc, h, decide_true, if_true]
    rw [idx_eq op _ index rfl]
    refine bind_congr_map _ _ _ _ fun id _ => ?_
    have e1 := iadd_one index (by omega)
    by_cases h2 : id = 41
    · have e3 : Go.iadd (index : Int) 3 = ((index + 3 : Nat) : Int) := iadd_nat index 3 _ _ rfl rfl (by omega)
      have e7 : Go.iadd (index : Int) 7 = ((index + 7 : Nat) : Int) := iadd_nat index 7 _ _ rfl rfl (by omega)
      simp only [h2, decide_true, if_true]
      rw [slice_eq op _ _ (index + 3) (index + 7) e3 e7]
      exact bind_congr_map' _ _ _ _ _ fun r _ => rfl
    simp only [h2, decide_false, Bool.false_eq_true, if_false]
    rw [halfByte_eq id]
    by_cases h3 : (id &&& 240) = 128
    · have d3 := decide_eq_true h3
      simp only [d3, if_true, Bool.true_or]
      rw [e1, ih]
    have d3 := decide_eq_false h3
    by_cases h4 : (id &&& 240) = 192
    · have d4 := decide_eq_true h4
      simp only [d3, d4, if_true, Bool.false_eq_true, if_false, Bool.or_true]
      rw [e1, ih]
    have d4 := decide_eq_false h4
    simp only [d3, d4, Bool.false_eq_true, if_false, Bool.or_self]
    rw [mapGet_eq id]
    have hl := lookupLen_lt id
    generalize lookupLen id = l at hl
    by_cases h5 : l > 0
    · simp only [h5, decide_true, if_true]
      have e : Go.iadd (index : Int) l = ((index + l.toNat : Nat) : Int) := by
        unfold Go.iadd Go.wrapInt; omega
      rw [e, ih]
    simp only [h5, decide_false, Bool.false_eq_true, if_false]
    by_cases h6 : l = -1
    · simp only [h6, decide_true, if_true]
      rw [idx_eq op _ (index + 1) e1]
      refine bind_congr_map _ _ _ _ fun n _ => ?_
      have := n.toNat_lt
      have f1 : Go.iadd 2 (n.toNat : Int) = ((2 + n.toNat : Nat) : Int) := iadd_nat 2 n.toNat _ _ rfl rfl (by omega)
      have f2 := iadd_nat index (2 + n.toNat) _ _ rfl f1 (by omega)
      rw [f2, show index + (2 + n.toNat) = index + 1 + 1 + n.toNat by omega, ih]
    simp only [h6, decide_false, Bool.false_eq_true, if_false]
    by_cases h8 : l = -2
    · simp only [h8, decide_true, if_true]
      have g1 : Go.iadd ((index + 1 : Nat) : Int) 2 = ((index + 1 + 2 : Nat) : Int) :=
        iadd_nat (index + 1) 2 _ _ rfl rfl (by omega)
      rw [e1, slice_eq op _ _ (index + 1) (index + 1 + 2) rfl g1]
      refine bind_congr_map' _ _ _ _ _ fun x _ => ?_
      rw [be16_eq]
      refine bind_congr_map' _ _ _ _ _ fun n h10 => ?_
      have hn := be16_lt x n h10
      have hn' : (UInt16.ofNat n).toNat = n := by
        rw [UInt16.toNat_ofNat']; omega
      have f1 : Go.iadd 3 (n : Int) = ((3 + n : Nat) : Int) := iadd_nat 3 n _ _ rfl rfl (by omega)
      have f2 := iadd_nat index (3 + n) _ _ rfl f1 (by omega)
      rw [hn', f2, show index + (3 + n) = index + 1 + 2 + n by omega, ih]
    · simp only [h8, decide_false, Bool.false_eq_true, if_false, pure_eq, map_ok, projNas]
      rfl

/-- **Tie** (C12, C02). For every fuel and EVERY slice (octets, length, capacity and the octets behind the length; no
    hypothesis: the walk runs over at most 65 535 octets, far from the end of the int range), the function translated from
    the text of `DecodePDUSessionNASPDU` (with the two package-level tables read from the same text) IS the hand model
    `decodeNas` in its repaired variant (an IEI the table does not know ends the walk): same traps, same exhaustion of
    the fuel, same address octets. -/
theorem DecodePDUSessionNASPDU_eq (fuel : Nat) (s : Sl) :
    (Gen.Pure.Extract.DecodePDUSessionNASPDU fuel (toGo s)).map projNas = decodeNas true fuel s := by
  simp only [Gen.Pure.Extract.DecodePDUSessionNASPDU, decodeNas]
  rw [sliceFrom_eq s 7 7 rfl]
  refine bind_congr_map' _ _ _ _ _ fun plain _ => ?_
  rw [slice_eq plain 4 6 4 6 rfl rfl]
  refine bind_congr_map' _ _ _ _ _ fun x _ => ?_
  rw [be16_eq]
  refine bind_congr_map' _ _ _ _ _ fun pcl h3 => ?_
  have hp := be16_lt x pcl h3
  have e1 : ((6 : UInt16) + UInt16.ofNat pcl).toNat = (6 + pcl) % 65536 := by
    rw [UInt16.toNat_add, UInt16.toNat_ofNat', show (6 : UInt16).toNat = 6 from rfl]; omega
  rw [slice_eq plain 6 _ 6 ((6 + pcl) % 65536) rfl (by rw [e1])]
  refine bind_congr_map' _ _ _ _ _ fun pc h4 => ?_
  rw [slice_eq pc 5 7 5 7 rfl rfl]
  refine bind_congr_map' _ _ _ _ _ fun y _ => ?_
  rw [be16_eq]
  refine bind_congr_map' _ _ _ _ _ fun q h6 => ?_
  have hq := be16_lt y q h6
  have e2 : (((7 : UInt16) + UInt16.ofNat q) + 7).toNat = (5 + 2 + q + 7) % 65536 := by
    rw [UInt16.toNat_add, UInt16.toNat_add, UInt16.toNat_ofNat', show (7 : UInt16).toNat = 7 from rfl]; omega
  rw [sliceFrom_eq pc _ ((5 + 2 + q + 7) % 65536) (by rw [e2])]
  refine bind_congr_map' _ _ _ _ _ fun op h8 => ?_
  -- the walk runs over a tail of the payload container, itself shorter than 2^16 octets
  have hpc : pc.len < 65536 := by
    unfold Sl.slice at h4
    split at h4
    · cases h4
      show (6 + pcl) % 65536 - 6 < 65536
      omega
    · cases h4
  have hop : op.len < 2 ^ 62 := by
    unfold Sl.sliceFrom at h8
    split at h8
    · cases h8
      show pc.len - _ < 2 ^ 62
      omega
    · cases h8
  have h := nas_loop op hop fuel 0 0 0
  change Except.map projNas (Gen.Pure.Extract.DecodePDUSessionNASPDU.loop1 (toGo op) (Go.Sl.length (toGo op)) fuel Go.Sl.nil 0 0 0) = _ at h
  rw [← h]
  cases Gen.Pure.Extract.DecodePDUSessionNASPDU.loop1 (toGo op) (Go.Sl.length (toGo op)) fuel Go.Sl.nil 0 0 0 <;> rfl

/-- … hence the model function the C12 theorems are about (`decodeNasPdu`: the variant the code in /repo is, with the fuel
    the termination theorems prove sufficient) is the translated code. -/
theorem decodeNasPdu_eq (s : Sl) :
    decodeNasPdu s = (Gen.Pure.Extract.DecodePDUSessionNASPDU (fuelFor s) (toGo s)).map projNas := by
  unfold decodeNasPdu stopOnUnknownIei
  rw [DecodePDUSessionNASPDU_eq]

theorem decodeTransferPdu_eq (s : Sl) (hs : s.len < 2 ^ 62) :
    decodeTransferPdu s = (Gen.Pure.Extract.DecodePDUSessionResourceSetupRequestTransfer (fuelFor s) (toGo s)).map projXfer := by
  unfold decodeTransferPdu
  rw [DecodePDUSessionResourceSetupRequestTransfer_eq _ _ hs]

/-- the hypothesis of the transfer tie is satisfiable by a slice with hidden capacity, and the tie then speaks about a
    real extraction (TEID 0x01020304, UPF 10.0.0.9) -/
example : (⟨[0, 0, 0, 0, 139, 0, 10, 3, 224, 10, 0, 0, 9, 1, 2, 3, 4, 77], 17⟩ : Sl).len < 2 ^ 62 := by decide
example : (match decodeTransferPdu ⟨[0, 0, 0, 0, 139, 0, 10, 3, 224, 10, 0, 0, 9, 1, 2, 3, 4, 77], 17⟩ with
    | .ok r => r == (16909060, [10, 0, 0, 9])
    | .error _ => false) = true := by
  decide +kernel

end Stgutg.Proofs.GenTie.Extract

