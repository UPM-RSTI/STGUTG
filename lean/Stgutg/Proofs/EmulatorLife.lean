/-
  C02: what the emulator model's procedures after registration (Model/Emulator.lean: `establishPDU`, `serviceRequest`,
  `releasePDU`, `deregisterUE`) need of the plain NAS message they protect: `EncodeNasPduWithSecurity` first decodes and
  re-encodes it (`Reenc`, C08), so `protect` succeeds on it (`protect_reenc`); the two constant messages re-encode by table.
-/
import Stgutg.Proofs.EmulatorRun

namespace Stgutg.Proofs.EmulatorLife
open Stgutg Stgutg.Model.Emulator Stgutg.Builders Stgutg.Proofs.Emulator Stgutg.Proofs.EmulatorRun

/-- `PlainNasDecode` then `PlainNasEncode` reproduce these octets (what `EncodeNasPduWithSecurity` does first; C08) -/
def Reenc (pdu : Bytes) : Prop := ∃ pm, Nas.plainDecode nasCodec pdu = .ok pm ∧ Nas.plainEncode nasCodec pm = .ok pdu

theorem protect_reenc (P : Prims) (ue : Ue) (pdu : Bytes) (h : Reenc pdu) (o : Bytes)
    (ho : (Model.NasProtect.encodeNasPduWithSecurity P ue.sec pdu 2 true false).2 = .ok o) (w : World) :
    protect P ue pdu 2 false w =
      (w, .ok ({ ue with sec := (Model.NasProtect.encodeNasPduWithSecurity P ue.sec pdu 2 true false).1 }, o)) := by
  obtain ⟨pm, hd, he⟩ := h
  exact protect_ok P ue pdu 2 false pm hd he o ho w

private theorem pb {α β : Type} (a : α) (f : α → M β) (w : World) : (pure a >>= f) w = f a w := rfl

/-- decidable form of `Reenc` for a constructor's result -/
def reencOK (r : Res Bytes) : Bool :=
  match r with
  | .ok p => (match Nas.plainDecode nasCodec p with
    | .ok pm => Nas.plainEncode nasCodec pm == .ok p
    | .error _ => false)
  | .error _ => false

theorem reencOK_elim (r : Res Bytes) (h : reencOK r = true) (p : Bytes) (hp : r = .ok p) : Reenc p := by
  subst hp
  unfold reencOK at h
  simp only at h
  cases hd : Nas.plainDecode nasCodec p with
  | error e => rw [hd] at h; cases h
  | ok pm => rw [hd] at h; exact ⟨pm, hd, by simpa using h⟩

/-- table fact (C08 on constants): the SERVICE REQUEST of `ServiceRequest` survives `PlainNasDecode` / `PlainNasEncode` -/
theorem reenc_serviceRequest :
    reencOK (Nas.Ctor.encodeWith Gen.Nas.layout_ServiceRequest (Nas.Ctor.serviceRequest 1)) = true := by decide +kernel

/-- table fact: so does the UL NAS TRANSPORT with the PDU SESSION RELEASE REQUEST, for every assignable PDU session identity -/
theorem reenc_releaseRequest : ∀ psi < 16,
    reencOK (Nas.Ctor.encodeWith Gen.Nas.layout_ULNASTransport (Nas.Ctor.ulReleaseRequest (UInt8.ofNat psi))) = true := by
  decide +kernel

end Stgutg.Proofs.EmulatorLife
